/-
C09 — operations documented as producing a new container or a plain Go value leave their
receiver and their arguments observably unchanged; the result has its own top-level storage:
later mutators on the receiver, the argument, the result or another result derived from the
same receiver never change any of the others (nested containers may be shared by reference,
top-level slots never are).

`DOp` / `derive` (in `Lemmas/Deriving.lean`) is the alphabet of the heap-returning deriving
operations; `MOp` / `stepM` / `runM` (in `Lemmas/Mutators.lean`) the alphabet of the mutators.
-/
import Anytype.Lemmas.Deriving
import Anytype.Lemmas.Closed
import Anytype.Lemmas.Slices
import Anytype.Spec.Json
namespace Anytype
open Heap Rf

/-- cell 0: `[3, "s", <list 1>]`, cell 1: `[nil]`, cell 2: `{"k": <list 1>, "n": 7}` -/
def c09H : Heap :=
  [.list [.int 3, .str ['s'], .list ⟨1, 0⟩] 0, .list [.nil] 0,
   .obj [(['k'], .list ⟨1, 0⟩), (['n'], .int 7)] 0]

/-! ## 0. what `derive` stands for: one line per documented operation -/

theorem C09_derive_table (h : Heap) (a b : Nat) (r : Ref) (s e : Int) (p : Val → Bool) (k : Kind)
    (fi : Int → Val → GoVal) (fv : Val → GoVal) (fk : Str → Val → GoVal) (ks : List Str) (v : Val) :
    derive h (.concat a r) = outRef (L.concat h a r) ∧
    derive h (.subList a s e) = outRef (L.subList h a s e) ∧
    derive h (.filter a p) = ((L.filter h a p).1, some (L.filter h a p).2) ∧
    derive h (.filterK a k p) = ((L.filterK h a k p).1, some (L.filterK h a k p).2) ∧
    derive h (.map a fi) = outRef (L.map h a fi) ∧
    derive h (.mapValues a fv) = outRef (L.mapValues h a fv) ∧
    derive h (.mapK a k fv) = outRef (L.mapK h a k fv) ∧
    derive h (.keys a) = ((O.keys h a).1, some (O.keys h a).2) ∧
    derive h (.values a) = ((O.values h a).1, some (O.values h a).2) ∧
    derive h (.pluck a ks) = outRef (O.pluck h a ks) ∧
    derive h (.omap a fk) = outRef (O.map h a fk) ∧
    derive h (.omapValues a fv) = outRef (O.mapValues h a fv) ∧
    derive h (.omapK a k fv) = outRef (O.mapK h a k fv) ∧
    derive h (.merge a b) = (match O.merge h a b with | some (h1, q) => (h1, some q) | none => (h, none)) ∧
    derive h (.clone v) = (match O.clone h v with | some (h1, c) => (h1, valRef c) | none => (h, none)) :=
  ⟨rfl, rfl, rfl, rfl, rfl, rfl, rfl, rfl, rfl, rfl, rfl, rfl, rfl, rfl, rfl⟩

theorem C09_outRef (h : Heap) (r : Ref) (p : PanicKind) :
    outRef (h, .ok r) = (h, some r) ∧ outRef (h, .panic p) = (h, none) := ⟨rfl, rfl⟩

/-! ## 1. purity: no existing cell changes -/

/-- every deriving operation, with any receiver, arguments and callbacks, also when it panics:
no cell is lost and every cell that existed before — the receiver, every argument, every nested
container — is identical afterwards -/
theorem C09_pure (h : Heap) (op : DOp) :
    h.length ≤ (derive h op).1.length ∧ ∀ b, b < h.length → (derive h op).1[b]? = h[b]? :=
  ⟨(derive_spec h op).ext0.len, (derive_spec h op).ext0.same⟩

/-- consequently every value valid in a well-formed heap denotes the same tree before and after -/
theorem C09_pure_observable (h : Heap) (op : DOp) (wf : HeapWF h) (v : Val) (hv : v.okIn h) (n : Nat) :
    reify n (derive h op).1 v = reify n h v := by
  have hold := reach_old wf (Sub.refl h) n v hv
  exact reify_congr n v (fun a ha => (C09_pure h op).2 a (hold a ha))

theorem c09H_wf : HeapWF c09H := heapWF_of_cells (by decide)

example := C09_pure_observable c09H (.omap 2 (fun _ v => .slice .any [v.toGo])) c09H_wf
  (.obj ⟨2, 0⟩) (by decide)

/- The operations that return plain Go values — `L.slice`, `L.sliceK`, `L.reduce`, `L.reduceK`,
`L.contains`, `L.indexOf`, `O.dict`, `O.contains`, `O.keyOf`, `Equals` (`equalsJ` of the reified
trees), `String` (`ser` of the reified tree), `FormatString` — are functions FROM the heap that
do not return a heap at all: in the model there is no heap after the call other than the one
before it. The trivial formal counterpart: -/

/-- an observer `f` seen as a heap transformer is the identity on the heap -/
def observe {α : Type} (f : Heap → α) (h : Heap) : Heap × α := (h, f h)

theorem C09_pure_values {α : Type} (f : Heap → α) (h : Heap) : (observe f h).1 = h := rfl

example (a : Nat) : Heap → List Val := fun h => L.slice h a
example (a : Nat) (k : Kind) : Heap → List Val := fun h => L.sliceK h a k
example (a : Nat) (v : Val) : Heap → Bool := fun h => L.contains h a v
example (a : Nat) (v : Val) : Heap → Int := fun h => L.indexOf h a v
example (a : Nat) (f : Int → Val → Int) : Heap → Int := fun h => L.reduce h a 0 f
example (a : Nat) (k : Kind) (f : Int → Val → Int) : Heap → Int := fun h => L.reduceK h a k 0 f
example (a : Nat) : Heap → List (Str × Val) := fun h => O.dict h a
example (a : Nat) (v : Val) : Heap → Bool := fun h => O.contains h a v
example (a : Nat) (v : Val) : Heap → Out Str := fun h => O.keyOf h a v
example (v w : Val) : Heap → Option Bool := fun h =>
  (reifyF h v).bind (fun t => (reifyF h w).map (fun u => equalsJ t u))

/-! ## 2. the result has its own top-level storage -/

/-- the result container is a cell that did not exist before the call -/
theorem C09_fresh (h : Heap) (op : DOp) (r : Ref) (hr : (derive h op).2 = some r) :
    h.length ≤ r.addr ∧ r.addr < (derive h op).1.length :=
  (derive_spec h op).fresh r hr

example : derive c09H (.filter 0 (fun v => v.kind == .int)) =
    (c09H ++ [.list [.int 3] 0], some ⟨3, 0⟩) := by decide

example : derive c09H (.keys 2) = (c09H ++ [.list [.str ['k'], .str ['n']] 0], some ⟨3, 0⟩) := by
  decide

/-- sharing of nested containers is by reference: the `Filter` result holds the very reference
`<list 1>` the receiver holds (top-level slots are separate cells 0 and 3) -/
example : (derive c09H (.filter 0 (fun _ => true))).1.items 3 = c09H.items 0 := by decide

/-! ## 3. independence of receiver, argument and results -/

/-- two derivations one after the other (`h → h1 → h2`, any two operations, the second from any
receiver — the same one, the first result, …): the receiver / an argument (any old cell `a`),
the first and the second result are pairwise distinct cells … -/
theorem C09_distinct (h : Heap) (op1 op2 : DOp) (r1 r2 : Ref)
    (h1 : (derive h op1).2 = some r1) (h2 : (derive (derive h op1).1 op2).2 = some r2)
    (a : Nat) (ha : a < h.length) :
    a < r1.addr ∧ r1.addr < r2.addr ∧ r2.addr < (derive (derive h op1).1 op2).1.length := by
  have f1 := C09_fresh h op1 r1 h1
  have f2 := C09_fresh _ op2 r2 h2
  exact ⟨Nat.lt_of_lt_of_le ha f1.1, Nat.lt_of_lt_of_le f1.2 f2.1, f2.2⟩

/-- … and any mutator (any arguments, also a panicking call) applied to one cell `t` leaves every
other existing cell — in particular the top-level slots of the other three of
`{receiver, argument, result₁, result₂}` — exactly as it was -/
theorem C09_frame (hh : Heap) (m : MOp) (x : Nat) (hx : x < hh.length) (hne : x ≠ m.target) :
    (stepM hh m)[x]? = hh[x]? ∧ (stepM hh m).items x = hh.items x ∧
    (stepM hh m).fields x = hh.fields x := by
  have e := (stepM_ext hh m).other x hx hne
  exact ⟨e, items_congr e, fields_congr e⟩

/-- the statement of C09 in one piece: after `h → h1 → h2` with results `r1`, `r2`, for old cells
`a` (the receiver) and `b` (the argument), a mutator on any one of the four leaves the slots of
the (other) three unchanged -/
theorem C09_independent (h : Heap) (op1 op2 : DOp) (r1 r2 : Ref)
    (hr1 : (derive h op1).2 = some r1) (hr2 : (derive (derive h op1).1 op2).2 = some r2)
    (a b : Nat) (ha : a < h.length) (hb : b < h.length) (m : MOp)
    (ht : m.target = a ∨ m.target = b ∨ m.target = r1.addr ∨ m.target = r2.addr)
    (x : Nat) (hx : x = a ∨ x = b ∨ x = r1.addr ∨ x = r2.addr) (hne : x ≠ m.target) :
    let h2 := (derive (derive h op1).1 op2).1
    (stepM h2 m).items x = h2.items x ∧ (stepM h2 m).fields x = h2.fields x ∧
    (stepM h2 m)[x]? = h2[x]? := by
  intro h2
  have d := C09_distinct h op1 op2 r1 r2 hr1 hr2
  have hx2 : x < (derive (derive h op1).1 op2).1.length := by
    have := d a ha
    have := d b hb
    rcases hx with rfl | rfl | rfl | rfl <;> omega
  have := C09_frame h2 m x hx2 hne
  exact ⟨this.2.1, this.2.2, this.1⟩

/-- the same for a whole program of mutators all applied to the one cell `t` -/
theorem C09_independent_program (hh : Heap) (ops : List MOp) (t x : Nat) (hx : x < hh.length)
    (hne : x ≠ t) (ht : ∀ op ∈ ops, op.target = t) :
    (runM hh ops)[x]? = hh[x]? ∧ (runM hh ops).items x = hh.items x ∧
    (runM hh ops).fields x = hh.fields x := by
  have ag := runM_agreeOn x (x + 1) hh ops (Nat.succ_le_of_lt hx)
    (fun op ho => by rw [ht op ho]; exact (Nat.lt_or_gt_of_ne (Ne.symm hne)).imp id Nat.succ_le_of_lt)
    x (Nat.le_refl _) (Nat.lt_succ_self x)
  exact ⟨ag, items_congr ag, fields_congr ag⟩

/-- non-vacuity of `C09_independent`: `Filter` then `SubList` from list 0 of `c09H`, then `Add`
(with a nested native argument) on the first result -/
example :
    let h2 := (derive (derive c09H (.filter 0 (fun _ => true))).1 (.subList 0 0 2)).1
    (stepM h2 (.add 3 [.slice .any [.nil]])).items 0 = h2.items 0 ∧
    (stepM h2 (.add 3 [.slice .any [.nil]])).items 4 = h2.items 4 := by
  have hr1 : (derive c09H (.filter 0 (fun _ => true))).2 = some ⟨3, 0⟩ := by decide
  have hr2 : (derive (derive c09H (.filter 0 (fun _ => true))).1 (.subList 0 0 2)).2 = some ⟨4, 0⟩ := by
    decide
  intro h2
  have h0 : 0 < c09H.length := by decide
  have key := fun x hx hne => (C09_independent c09H _ _ _ _ hr1 hr2 0 0 h0 h0
    (.add 3 [.slice .any [.nil]]) (Or.inr (Or.inr (Or.inl rfl))) x hx hne).1
  exact ⟨key 0 (Or.inl rfl) (by decide), key 4 (Or.inr (Or.inr (Or.inr rfl))) (by decide)⟩

/-! ## Storage level: a derived list owns a new array

The statements above are about cells of the heap model, where a list is a plain sequence.  At the level of
backing arrays (`Model/Slices`): a list made by `Concat`, `SubList`, `Clone`, `NewList*` lives in an array that
did not exist before the call (so nothing that existed can reach it), the call leaves every existing list as it
was, and whatever is later done to any other list never shows in it. -/

theorem C09_slice_fresh {α : Type} (cfg : Slices.Cfg α) (sorted : List α → List α) (σ : Slices.SHeap α)
    (hw : σ.WF) (op : Slices.Op α) (c : Nat) (h : (Slices.step cfg sorted σ op).2 = .made c) :
    c = σ.cells.length ∧ ∃ s, (Slices.step cfg sorted σ op).1.cells[c]? = some s ∧ σ.mem.length ≤ s.arr :=
  Slices.made_fresh cfg sorted σ hw op c h

/-- a deriving operation (one that is not called *on* a list to change it) leaves every existing list as it was -/
theorem C09_slice_pure {α : Type} (cfg : Slices.Cfg α) (sorted : List α → List α) (σ : Slices.SHeap α)
    (hw : σ.WF) (op : Slices.Op α) (hop : op.tgt = none) (d : Nat) (hd : d < σ.cells.length) :
    (Slices.step cfg sorted σ op).1.abs[d]? = σ.abs[d]? :=
  Slices.step_frame cfg sorted σ hw op d hd (by rw [hop]; exact fun h => nomatch h)

/-- after a derivation, any operation on any other list (the receiver, the argument, another result) leaves the
derived list as it is — whatever the capacities and the growth policy -/
theorem C09_slice_independent {α : Type} (cfg : Slices.Cfg α) (sorted : List α → List α) (σ : Slices.SHeap α)
    (hw : σ.WF) (op : Slices.Op α) (c : Nat) (h : (Slices.step cfg sorted σ op).2 = .made c)
    (op2 : Slices.Op α) (hne : op2.tgt ≠ some c) :
    (Slices.step cfg sorted (Slices.step cfg sorted σ op).1 op2).1.abs[c]? = (Slices.step cfg sorted σ op).1.abs[c]? := by
  have hw1 := Slices.step_wf cfg sorted σ hw op
  obtain ⟨hc, s, hs, _⟩ := Slices.made_fresh cfg sorted σ hw op c h
  have hlt : c < (Slices.step cfg sorted σ op).1.cells.length := by
    rcases Nat.lt_or_ge c (Slices.step cfg sorted σ op).1.cells.length with h1 | h1
    · exact h1
    · rw [List.getElem?_eq_none h1] at hs; cases hs
  exact Slices.step_frame cfg sorted _ hw1 op2 c hlt hne


#print axioms C09_derive_table
#print axioms C09_outRef
#print axioms C09_pure
#print axioms C09_pure_observable
#print axioms C09_pure_values
#print axioms C09_fresh
#print axioms C09_distinct
#print axioms C09_frame
#print axioms C09_independent
#print axioms C09_independent_program
#print axioms C09_slice_fresh
#print axioms C09_slice_pure
#print axioms C09_slice_independent

end Anytype
