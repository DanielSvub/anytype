/-
C17 — Sort on a homogeneous list of strings / ints / NaN-free floats sorts that same list in
place into non-decreasing order, as a permutation, idempotently; Reverse moves position `i` to
`n-1-i` in place; Sort on a list starting with another kind panics and changes nothing.
-/
import Anytype.Lemmas.HeapWF
namespace Anytype
open Heap

def exS : Heap := [.list [.int 3, .int 1, .int 2, .int 1] 0, .list [.nil, .int 1] 0]
def exT : Heap := [.list [.str ['b', 'a'], .str ['b'], .str []] 0]
def exF : Heap := [.list [.float F64.one, .float F64.negZero, .float F64.negInf, .float F64.posZero] 0]

/-! ## the orders used by Sort -/

/-- `strLe` (bytewise order of UTF-8 strings = lexicographic order of code points) is a total order -/
theorem C17_strLe_order :
    (∀ s, L.strLe s s = true) ∧
    (∀ a b c, L.strLe a b = true → L.strLe b c = true → L.strLe a c = true) ∧
    (∀ a b, L.strLe a b = true → L.strLe b a = true → a = b) ∧
    (∀ a b, L.strLe a b = true ∨ L.strLe b a = true) :=
  ⟨L.strLe_refl, L.strLe_trans, L.strLe_antisymm,
   fun a b => by have := L.strLe_total a b; simpa using this⟩

/-- `floatLe` (from the `less` of `sort.Float64s`) is a total preorder on all float64 values; on
NaN-free values it is Go's `!(y < x)` and it is the order of the sign-magnitude key (`±0` equal) -/
theorem C17_floatLe_order :
    (∀ a b c, L.floatLe a b = true → L.floatLe b c = true → L.floatLe a c = true) ∧
    (∀ a b, L.floatLe a b = true ∨ L.floatLe b a = true) ∧
    (∀ x y, x.isNaN = false → y.isNaN = false → L.floatLe x y = !F64.ltGo y x) ∧
    (∀ x y, x.isNaN = false → y.isNaN = false → F64.ltGo x y = decide (F64.key x < F64.key y)) :=
  ⟨L.floatLe_trans, fun a b => by have := L.floatLe_total a b; simpa using this,
   L.floatLe_eq_not_ltGo, F64.ltGo_eq_key⟩

/-! ## 8. Sort on homogeneous lists -/

/-- how the examples meet the hypothesis `hall`: their lists are images of a list of payloads -/
private theorem exists_of_mem_map {α} (C : α → Val) (zs : List α) : ∀ x ∈ zs.map C, ∃ z, x = C z :=
  fun _ hx => let ⟨z, _, e⟩ := List.mem_map.1 hx; ⟨z, e.symm⟩

/-- Sort on a non-empty all-int list: same cell `a`, sorted non-decreasingly, a permutation of the
original (nothing lost, duplicated or altered), and sorting again changes nothing -/
theorem C17_sort_ints (h : Heap) (a : Nat) (hl : h.isList a = true) (hne : h.items a ≠ [])
    (hall : ∀ x ∈ h.items a, ∃ i, x = .int i) :
    ∃ ys : List Int,
      L.sort h a = (h.setItems a (ys.map .int), .ok (h.egoRef a)) ∧
      ys.Pairwise (· ≤ ·) ∧
      (ys.map Val.int).Perm (h.items a) ∧
      L.sort (h.setItems a (ys.map .int)) a = (h.setItems a (ys.map .int), .ok (h.egoRef a)) ∧
      (h.setItems a (ys.map .int)).items a = ys.map .int ∧
      ∀ b, b ≠ a → (h.setItems a (ys.map .int))[b]? = h[b]? := by
  obtain ⟨ys, h1, h2, h3⟩ := L.sort_generic Val.int L.asInt (fun x y => decide (x ≤ y)) (fun _ => rfl)
    (fun a b c hab hbc => decide_eq_true (Int.le_trans (of_decide_eq_true hab) (of_decide_eq_true hbc)))
    (fun a b => by simp only [Bool.or_eq_true, decide_eq_true_eq]; exact Int.le_total a b) L.sort_ints h a hl hne hall
  exact ⟨ys, h1, h2.imp of_decide_eq_true, h3⟩

example : exS.isList 0 = true ∧ exS.items 0 ≠ [] ∧ ∀ x ∈ exS.items 0, ∃ i, x = .int i := by
  exact ⟨by decide, by decide, exists_of_mem_map .int [3, 1, 2, 1]⟩

/-- Sort on a non-empty all-string list (order: `strLe`, see `C17_strLe_order`) -/
theorem C17_sort_strs (h : Heap) (a : Nat) (hl : h.isList a = true) (hne : h.items a ≠ [])
    (hall : ∀ x ∈ h.items a, ∃ s, x = .str s) :
    ∃ ys : List Str,
      L.sort h a = (h.setItems a (ys.map .str), .ok (h.egoRef a)) ∧
      ys.Pairwise (fun s t => L.strLe s t = true) ∧
      (ys.map Val.str).Perm (h.items a) ∧
      L.sort (h.setItems a (ys.map .str)) a = (h.setItems a (ys.map .str), .ok (h.egoRef a)) ∧
      (h.setItems a (ys.map .str)).items a = ys.map .str ∧
      ∀ b, b ≠ a → (h.setItems a (ys.map .str))[b]? = h[b]? := by
  exact L.sort_generic Val.str L.asStr L.strLe (fun _ => rfl) L.strLe_trans L.strLe_total L.sort_strs
    h a hl hne hall

example : exT.isList 0 = true ∧ exT.items 0 ≠ [] ∧ ∀ x ∈ exT.items 0, ∃ s, x = .str s := by
  exact ⟨by decide, by decide, exists_of_mem_map .str [['b', 'a'], ['b'], []]⟩

/-- Sort on a non-empty list of NaN-free floats: non-decreasing for Go's `<` (no later element is
`<` an earlier one), a permutation, idempotent, in place -/
theorem C17_sort_floats (h : Heap) (a : Nat) (hl : h.isList a = true) (hne : h.items a ≠ [])
    (hall : ∀ x ∈ h.items a, ∃ f, x = .float f ∧ f.isNaN = false) :
    ∃ ys : List F64,
      L.sort h a = (h.setItems a (ys.map .float), .ok (h.egoRef a)) ∧
      ys.Pairwise (fun x y => F64.ltGo y x = false ∧ L.floatLe x y = true) ∧
      (ys.map Val.float).Perm (h.items a) ∧
      L.sort (h.setItems a (ys.map .float)) a = (h.setItems a (ys.map .float), .ok (h.egoRef a)) ∧
      (h.setItems a (ys.map .float)).items a = ys.map .float ∧
      ∀ b, b ≠ a → (h.setItems a (ys.map .float))[b]? = h[b]? := by
  obtain ⟨ys, h1, h2, h3, h4⟩ := L.sort_generic Val.float L.asFloat L.floatLe (fun _ => rfl)
    L.floatLe_trans L.floatLe_total L.sort_floats h a hl hne fun x hx => (hall x hx).imp fun _ h => h.1
  have hnan : ∀ y ∈ ys, y.isNaN = false := by
    intro y hy
    have : Val.float y ∈ h.items a := h3.mem_iff.1 (List.mem_map_of_mem hy)
    obtain ⟨f, hf, hn⟩ := hall _ this
    cases hf; exact hn
  refine ⟨ys, h1, h2.imp_of_mem fun {x y} hx hy hle => ⟨?_, hle⟩, h3, h4⟩
  rw [L.floatLe_eq_not_ltGo x y (hnan x hx) (hnan y hy)] at hle
  simpa using hle

example : exF.isList 0 = true ∧ exF.items 0 ≠ [] ∧
    ∀ x ∈ exF.items 0, ∃ f, x = .float f ∧ f.isNaN = false := by
  refine ⟨by decide, by decide, fun x hx => ?_⟩
  obtain ⟨f, hf, rfl⟩ := List.mem_map.1 (show x ∈ [F64.one, .negZero, .negInf, .posZero].map Val.float from hx)
  exact ⟨f, rfl, (by decide : ∀ f ∈ [F64.one, .negZero, .negInf, .posZero], f.isNaN = false) f hf⟩

/-- on a homogeneous list the typed extraction inside Sort loses nothing -/
theorem C17_extraction_lossless (xs : List Val) :
    ((∀ x ∈ xs, ∃ i, x = .int i) → (xs.filterMap L.asInt).map .int = xs) ∧
    ((∀ x ∈ xs, ∃ s, x = .str s) → (xs.filterMap L.asStr).map .str = xs) ∧
    ((∀ x ∈ xs, ∃ f, x = .float f) → (xs.filterMap L.asFloat).map .float = xs) :=
  ⟨L.map_filterMap_of_inv .int L.asInt (fun _ => rfl) xs, L.map_filterMap_of_inv .str L.asStr (fun _ => rfl) xs,
    L.map_filterMap_of_inv .float L.asFloat (fun _ => rfl) xs⟩

/-! ## 9. Reverse -/

/-- Reverse is in place on cell `a`, for any list of any kinds: the new items are the reversed
sequence, the element at position `i` is the old element at `n-1-i`, twice restores the original -/
theorem C17_reverse (h : Heap) (a : Nat) (hl : h.isList a = true) :
    L.reverse h a = (h.setItems a (h.items a).reverse, .ok (h.egoRef a)) ∧
    (L.reverse h a).1.items a = (h.items a).reverse ∧
    (∀ i, i < (h.items a).length →
      ((L.reverse h a).1.items a)[i]? = (h.items a)[(h.items a).length - 1 - i]?) ∧
    (L.reverse (L.reverse h a).1 a).1 = h ∧
    (∀ b, b ≠ a → (L.reverse h a).1[b]? = h[b]?) := by
  have e := L.reverse_eq h a
  refine ⟨e, ?_, ?_, ?_, ?_⟩
  · rw [e]; exact items_setItems_same _ hl
  · intro i hi
    rw [e]; simp only
    rw [items_setItems_same _ hl, List.getElem?_reverse hi]
  · rw [L.reverse_eq, e]; simp only
    rw [items_setItems_same _ hl, List.reverse_reverse, setItems_setItems, setItems_items_self]
  · intro b hb
    rw [e]; exact getElem?_setItems_ne h _ hb

/-- the swap loop itself (the code-shaped definition) equals list reversal -/
theorem C17_reverseLoop (xs : List Val) : L.reverseLoop xs xs.length (xs.length / 2) = xs.reverse :=
  L.reverseLoop_eq_reverse xs

example : L.reverseLoop [.int 1, .nil, .str ['x'], .bool true, .int 5] 5 2 =
    [.int 5, .bool true, .str ['x'], .nil, .int 1] := by decide
example : exS.isList 1 = true := by decide

/-! ## 10. Sort on a list whose first element is neither string, int nor float -/

theorem C17_sort_panic (h : Heap) (a : Nat) (x : Val) (rest : List Val) (hx : h.items a = x :: rest)
    (hk : x.kind ≠ .string ∧ x.kind ≠ .int ∧ x.kind ≠ .float) :
    L.sort h a = (h, .panic .sortKind) := by
  unfold L.sort
  simp only [hx]
  cases x with
  | str _ => exact absurd rfl hk.1
  | int _ => exact absurd rfl hk.2.1
  | float _ => exact absurd rfl hk.2.2
  | _ => rfl

example : L.sort exS 1 = (exS, .panic .sortKind) :=
  C17_sort_panic exS 1 .nil [.int 1] (by decide) (by decide)

#print axioms C17_strLe_order
#print axioms C17_floatLe_order
#print axioms C17_sort_ints
#print axioms C17_sort_strs
#print axioms C17_sort_floats
#print axioms C17_extraction_lossless
#print axioms C17_reverse
#print axioms C17_reverseLoop
#print axioms C17_sort_panic

end Anytype
