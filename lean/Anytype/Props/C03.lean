/-
C03: for every RFC 8259-valid text whose root is an array (`ParseList`) or an object (`ParseObject`),
with any legal whitespace layout and any legal string escape, parsing succeeds and yields the same
tree as the reference decoder `Strict.decode` (same nesting, order, keys with "last duplicate wins",
byte-identical strings; an integer literal that fits the platform int becomes that int, every other
number in float64 range the correctly rounded float64 that `Strict.number` computes).

`Strict.decode s = .ok v []` says: `s` is RFC 8259-valid and inside the domain (no number beyond
float64 range, no `\u` escape of a lone surrogate).

Why there is a bound on number literals (`SVP.numRunBound` = 9600 characters per run of `0-9+-.eE`)

Go's `strconv.ParseFloat` stops accumulating exponent digits at 10000 (`if e < 10000 { e = e*10 + … }`,
mirrored by `F64.readExpDigits`), so an exponent of six or more digits is read as a number between
10000 and 99999.  That is harmless only while the mantissa is short: on literals of about 10 KB and
more `ParseFloat` itself is not correctly rounded, e.g. (go1.23) `"1"+"0"*10300+"e-100000"` gives
1e+300 (true value 1e-89700, i.e. 0) and `"0."+"0"*100000+"1e100001"` gives 0 (true value 1).  So the
"correctly rounded" clause of C03 cannot hold beyond that size for the real library either; the model
mirrors Go, and below 9600 characters the cap provably never changes the result.

The theorems with `_partial` in their name carry that bound as the hypothesis `SVP.NumRunsShort`;
`C03_cap_counterexample` and `C03_parse_list_full_is_false` show that it cannot be dropped (see the
`NOT YET PROVED` block at the end).
-/
import Anytype.Lemmas.StrictVsParserCheck
namespace Anytype
open SVP

/-- What `Strict.number` consumes is a non-empty text `t` of number characters, and `parseField t`
(`ParseInt(t, 0, 64)`, then `ParseFloat(t, 64)`) returns the same value: the same int for an
integer literal in int range, the identical float64 otherwise — provided `t` is shorter than
`numRunBound` = 9600 characters. -/
theorem C03_numbers (s : Str) (v : JVal) (rest : Str) (h : Strict.number s = some (some v, rest)) :
    ∃ t, s = t ++ rest ∧ t ≠ [] ∧ (∀ c ∈ t, isNumChar c = true) ∧
      (t.length < numRunBound → ∀ line, parseField t line = .ok v) :=
  number_parseField s v rest h

/-- non-vacuity: `-0`, a fraction with exponent, the smallest integer literal beyond the int range,
an exponent with leading zeros, a number that underflows to zero; each followed by other text -/
example : Strict.number "-0,".toList = some (some (.int 0), [',']) := numberIs_sound (by decide +kernel)
example : Strict.number "-12.5e-1 ]".toList = some (some (.float ⟨13831680355561635840⟩), [' ', ']']) :=
  numberIs_sound (by decide +kernel)
example : Strict.number "9223372036854775808".toList = some (some (.float ⟨4890909195324358656⟩), []) :=
  numberIs_sound (by decide +kernel)
example : Strict.number "-9223372036854775808}".toList = some (some (.int (-9223372036854775808)), ['}']) :=
  numberIs_sound (by decide +kernel)
example : Strict.number "1E+0005".toList = some (some (.float ⟨4681608360884174848⟩), []) :=
  numberIs_sound (by decide +kernel)
example : Strict.number "3e-999".toList = some (some (.float F64.posZero), []) :=
  numberIs_sound (by decide +kernel)

/-- A string body the strict decoder accepts (every surrogate escape properly paired) is a raw body
`body` up to the closing quote, consisting of plain characters and backslash + one character
(`SVP.RawBody`: exactly what the `.str` / `.key` states copy verbatim), and the library's
`unquoteJSON body` is the decoded string. -/
theorem C03_strings (fuel : Nat) (t str rest : Str)
    (h : Strict.stringBody fuel t [] false = some (some str, rest)) :
    ∃ body, t = body ++ '"' :: rest ∧ RawBody body ∧ unquoteJSON body = str :=
  (stringBody_sound fuel t [] false str rest h).2.unquote

/-- non-vacuity: all two-character escapes, `\/`, a `\u` escape, a surrogate pair, raw non-ASCII -/
example : Strict.stringBody 100 "a\\/b\\\"\\\\\\b\\f\\n\\r\\t\\u0041\\ud83d\\ude00é\" ,".toList [] false =
    some (some ['a', '/', 'b', '"', '\\', '\x08', '\x0c', '\n', '\r', '\t', 'A', Char.ofNat 0x1F600, 'é'], [' ', ',']) := by
  apply of_chars (p := fun s => Strict.stringBody 100 s [] false =
    some (some ['a', '/', 'b', '"', '\\', '\x08', '\x0c', '\n', '\r', '\t', 'A', Char.ofNat 0x1F600, 'é'], [' ', ',']))
  decide +kernel

/-- `ParseList` returns exactly the tree of the reference decoder on every valid in-domain text with
an array root in which no run of number characters reaches `numRunBound` = 9600 characters.
Added hypothesis with respect to the full statement: `hnum`. -/
theorem C03_parse_list_partial (s : Str) (xs : List JVal) (hnum : NumRunsShort s)
    (h : Strict.decode s = .ok (.list xs) []) : parseListBytes (encode s) = .ok (.list xs) :=
  parseList_decode s xs hnum h

theorem C03_parse_object_partial (s : Str) (kvs : List (Str × JVal)) (hnum : NumRunsShort s)
    (h : Strict.decode s = .ok (.obj kvs) []) : parseObjectBytes (encode s) = .ok (.obj kvs) :=
  parseObject_decode s kvs hnum h

theorem C03_parse_list_short (s : Str) (xs : List JVal) (hlen : s.length < numRunBound)
    (h : Strict.decode s = .ok (.list xs) []) : parseListBytes (encode s) = .ok (.list xs) :=
  C03_parse_list_partial s xs (NumRunsShort.of_length hlen) h

theorem C03_parse_object_short (s : Str) (kvs : List (Str × JVal)) (hlen : s.length < numRunBound)
    (h : Strict.decode s = .ok (.obj kvs) []) : parseObjectBytes (encode s) = .ok (.obj kvs) :=
  C03_parse_object_partial s kvs (NumRunsShort.of_length hlen) h

/-- a list document with: leading / trailing / inner whitespace of all four kinds, `-0`, an exponent,
an integer literal beyond the int range, every escape including `\/` and a surrogate pair, raw
non-ASCII, empty containers, the three literals, a nested object with a duplicate key -/
def C03_sampleListDoc : Str :=
  " [ 1 , -0 ,\t1.5E3,\n 9223372036854775808 , \"a\\/b\\\"\\\\\\b\\f\\n\\r\\t\\u0041\\ud83d\\ude00é\" , [ ] , { } , true , false , null , {\"k\" : 1 , \"k\" : [2] , \"z\" : \"\" } ]\r\n".toList

def C03_sampleListTree : List JVal :=
  [.int 1, .int 0, .float ⟨4654311885213007872⟩, .float ⟨4890909195324358656⟩,
   .str ['a', '/', 'b', '"', '\\', '\x08', '\x0c', '\n', '\r', '\t', 'A', Char.ofNat 0x1F600, 'é'],
   .list [], .obj [], .bool true, .bool false, .null,
   .obj [(['k'], .list [.int 2]), (['z'], .str [])]]

/-- an object document with an escaped key equal to a later plain key (last one wins, first position
kept), the key `/` written `\/`, a negative fraction with exponent -/
def C03_sampleObjectDoc : Str :=
  "\n{ \"a\\u0062\" : { \"x\" : [ ] } , \"ab\" : -12.5e-1 , \"n\" : null ,\"\\/\":0.1}  ".toList

def C03_sampleObjectTree : List (Str × JVal) :=
  [(['a', 'b'], .float ⟨13831680355561635840⟩), (['n'], .null), (['/'], .float ⟨4591870180066957722⟩)]

theorem sampleListDoc_decode : Strict.decode C03_sampleListDoc = .ok (.list C03_sampleListTree) [] := by
  unfold C03_sampleListDoc
  apply of_chars (p := fun s => Strict.decode s = .ok (.list C03_sampleListTree) [])
  exact decodesTo_sound (by decide +kernel)

theorem sampleListDoc_length : C03_sampleListDoc.length < numRunBound := by
  unfold C03_sampleListDoc
  apply of_chars (p := fun s => s.length < numRunBound)
  decide +kernel

/-- non-vacuity of the hypotheses of `C03_parse_list_partial` / `_short` -/
example : Strict.decode C03_sampleListDoc = .ok (.list C03_sampleListTree) [] :=
  sampleListDoc_decode
example : C03_sampleListDoc.length < numRunBound := sampleListDoc_length
example : NumRunsShort C03_sampleListDoc := NumRunsShort.of_length sampleListDoc_length
example : parseListBytes (encode C03_sampleListDoc) = .ok (.list C03_sampleListTree) :=
  C03_parse_list_short _ _ sampleListDoc_length sampleListDoc_decode

theorem sampleObjectDoc_decode : Strict.decode C03_sampleObjectDoc = .ok (.obj C03_sampleObjectTree) [] := by
  unfold C03_sampleObjectDoc
  apply of_chars (p := fun s => Strict.decode s = .ok (.obj C03_sampleObjectTree) [])
  exact decodesTo_sound (by decide +kernel)

theorem sampleObjectDoc_length : C03_sampleObjectDoc.length < numRunBound := by
  unfold C03_sampleObjectDoc
  apply of_chars (p := fun s => s.length < numRunBound)
  decide +kernel

/-- non-vacuity of the hypotheses of `C03_parse_object_partial` / `_short` -/
example : Strict.decode C03_sampleObjectDoc = .ok (.obj C03_sampleObjectTree) [] :=
  sampleObjectDoc_decode
example : C03_sampleObjectDoc.length < numRunBound := sampleObjectDoc_length
example : NumRunsShort C03_sampleObjectDoc := NumRunsShort.of_length sampleObjectDoc_length
example : parseObjectBytes (encode C03_sampleObjectDoc) = .ok (.obj C03_sampleObjectTree) :=
  C03_parse_object_short _ _ sampleObjectDoc_length sampleObjectDoc_decode

/-- the list machine, started behind an opening bracket whose value the strict decoder accepts,
returns that value and stops exactly where the strict decoder stops -/
theorem C03_list_machine (body : Str) (fuel : Nat) (v : JVal) (rest : Str) (hnum : NumRunsShort body)
    (h : Strict.value fuel ('[' :: body) = .ok v rest) (line : Nat) :
    ∃ line', runList (encode body) line = .ok v (rest.map some) line' :=
  runList_value body fuel v rest hnum h line

theorem C03_object_machine (body : Str) (fuel : Nat) (v : JVal) (rest : Str) (hnum : NumRunsShort body)
    (h : Strict.value fuel ('{' :: body) = .ok v rest) (line : Nat) :
    ∃ line', runObject (encode body) line = .ok v (rest.map some) line' :=
  runObject_value body fuel v rest hnum h line

/-- `ParseList` on `pre ++ '[' :: body`: whatever bracket-free text precedes the root array and
whatever follows it (`rest`), the result is the strict decoder's value of the array -/
theorem C03_parse_list_embedded_partial (pre body : Str) (fuel : Nat) (v : JVal) (rest : Str)
    (hpre : '[' ∉ pre) (hnum : NumRunsShort body) (h : Strict.value fuel ('[' :: body) = .ok v rest) :
    parseListBytes (encode (pre ++ '[' :: body)) = .ok v :=
  parseList_embedded pre body fuel v rest hpre hnum h

theorem C03_parse_object_embedded_partial (pre body : Str) (fuel : Nat) (v : JVal) (rest : Str)
    (hpre : '{' ∉ pre) (hnum : NumRunsShort body) (h : Strict.value fuel ('{' :: body) = .ok v rest) :
    parseObjectBytes (encode (pre ++ '{' :: body)) = .ok v :=
  parseObject_embedded pre body fuel v rest hpre hnum h

/-- non-vacuity: text before the bracket, text (even ill-formed) behind the array -/
example : Strict.value 20 "[1, \"x\"] trailing } garbage".toList =
    .ok (.list [.int 1, .str ['x']]) " trailing } garbage".toList := by
  have : (match Strict.value 20 "[1, \"x\"] trailing } garbage".toList with
      | .ok w r => beqJ w (.list [.int 1, .str ['x']]) && r == " trailing } garbage".toList
      | _ => false) = true := by decide +kernel
  split at this
  · rename_i w r hw
    simp only [Bool.and_eq_true, beq_iff_eq] at this
    rw [hw, beqJ_sound _ _ this.1, this.2]
  · cases this
example : '[' ∉ "var x = ".toList := by
  apply of_chars (p := fun s => '[' ∉ s)
  decide
example : NumRunsShort "1, \"x\"] trailing } garbage".toList := by
  apply of_chars (p := NumRunsShort)
  exact NumRunsShort.of_length (by decide)

/-! ### the restriction on number literals cannot be dropped -/

/-- On the 10 011-character document `[1000…0e-100000]` (a one followed by 10000 zeros; the true
value 1e-90000 rounds to 0) the reference decoder answers `[0.0]`, but the model of `ParseList`
answers `[1.0]`: `strconv.ParseFloat` (`F64.readExpDigits`) stops accumulating exponent digits at
10000 and therefore reads the exponent as -10000. -/
theorem C03_cap_counterexample :
    ∃ s : Str, s.length = 10011 ∧ Strict.decode s = .ok (.list [.float F64.posZero]) [] ∧
      parseListBytes (encode s) = .ok (.list [.float F64.one]) :=
  cap_disagreement

/-- hence the statement without `hnum` is false -/
theorem C03_parse_list_full_is_false :
    ¬ ∀ (s : Str) (xs : List JVal), Strict.decode s = .ok (.list xs) [] →
        parseListBytes (encode s) = .ok (.list xs) := by
  intro hall
  obtain ⟨s, _, hd, hp⟩ := C03_cap_counterexample
  have := (hall s _ hd).symm.trans hp
  simp only [Except.ok.injEq, JVal.list.injEq, List.cons.injEq, JVal.float.injEq, and_true] at this
  revert this; decide

/-
NOT YET PROVED (and not provable: refuted by `C03_parse_list_full_is_false`)

theorem C03_parse_list (s : Str) (xs : List JVal) (h : Strict.decode s = .ok (.list xs) []) :
    parseListBytes (encode s) = .ok (.list xs)
theorem C03_parse_object (s : Str) (kvs : List (Str × JVal)) (h : Strict.decode s = .ok (.obj kvs) []) :
    parseObjectBytes (encode s) = .ok (.obj kvs)

Hypothesis added in the `_partial` theorems: `hnum : SVP.NumRunsShort s`, i.e. every maximal run of
characters from `0-9 + - . e E` is shorter than `SVP.numRunBound` = 9600 characters (implied by
`s.length < 9600`).

Why it is needed: see the head of this file; `Strict.number` caps its exponent too, at 1000000, and
is itself off from about 1000000 digits on.  Up to 9599 characters per literal the caps provably
never change the verdict (`SVP.caps_agree`, `SVP.goFinal_agree`).
-/

end Anytype

#print axioms Anytype.C03_numbers
#print axioms Anytype.C03_strings
#print axioms Anytype.C03_parse_list_partial
#print axioms Anytype.C03_parse_object_partial
#print axioms Anytype.C03_parse_list_short
#print axioms Anytype.C03_parse_object_short
#print axioms Anytype.C03_list_machine
#print axioms Anytype.C03_object_machine
#print axioms Anytype.C03_parse_list_embedded_partial
#print axioms Anytype.C03_parse_object_embedded_partial
#print axioms Anytype.C03_cap_counterexample
#print axioms Anytype.C03_parse_list_full_is_false
