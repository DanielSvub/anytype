/-
C08 — `Clone` returns a container that Equals the original while no List or Object reachable
from the clone (at any depth, itself included) is a container reachable from the original;
consequently any later sequence of mutations inside one of the two leaves the other observably
unchanged.

Vocabulary: `reify n h v` is the pure tree the value `v` denotes in heap `h` (fuel `n` bounds the
nesting depth that is followed; `reifyF` uses fuel `h.length + 1`); `reach n h v` lists the
addresses of the containers reachable from `v` (itself included) within `n` levels (`reachF`:
`h.length + 1` levels). "Observably unchanged" = the denoted tree is the same.
All statements about `reach n` / `reify n` hold for EVERY fuel `n`, in particular for
`reachF` / `reifyF`.
-/
import Anytype.Lemmas.TreeFormFrame
import Anytype.Lemmas.Acyclic
import Anytype.Lemmas.EqualsRefl
namespace Anytype
open Heap Rf

/-- cell 0: `[3, 1]`, cell 1: `{"k": <list 0>, "s": "x"}`, cell 2: `[<obj 1>, nil]`
(a list containing an object containing a list) -/
def c08H : Heap :=
  [.list [.int 3, .int 1] 0, .obj [(['k'], .list ⟨0, 0⟩), (['s'], .str ['x'])] 0,
   .list [.obj ⟨1, 0⟩, .nil] 0]

/-- the tree cell 2 denotes -/
def c08T : JVal := .list [.obj [(['k'], .list [.int 3, .int 1]), (['s'], .str ['x'])], .null]

theorem c08H_reify : reifyF c08H (.list ⟨2, 0⟩) = some c08T := by
  simp [reifyF, reify, reifyList, reifyFields, c08H, c08T]

theorem c08H_wf : HeapWF c08H := heapWF_of_cells (by decide)

/-! ## 1. fuel -/

/-- a successful reification is stable under more fuel -/
theorem C08_reify_mono (h : Heap) (v : Val) (t : JVal) (n m : Nat) (hnm : n ≤ m)
    (ht : reify n h v = some t) : reify m h v = some t := reify_mono hnm ht

/-- … and in any heap that still has all the cells (e.g. `h ++ extra`) -/
theorem C08_reify_ext (h extra : Heap) (v : Val) (t : JVal) (n m : Nat) (hnm : n ≤ m)
    (ht : reify n h v = some t) : reify m (h ++ extra) v = some t :=
  reify_mono_sub (Sub.append h extra) n m hnm v t ht

example : reify 4 c08H (.list ⟨2, 0⟩) = some c08T := c08H_reify

/-- the fuel that sufficed bounds the nesting depth of the tree -/
theorem C08_depth_le_fuel (h : Heap) (v : Val) (t : JVal) (n : Nat) (ht : reify n h v = some t) :
    depth t ≤ n := by
  induction n generalizing v t with
  | zero => cases v <;> simp only [reify] at ht <;> cases ht <;> exact Nat.le_refl 0
  | succ n ihn =>
    have ih : ∀ {xs ts}, reifyList n h xs = some ts → ∀ t ∈ ts, depth t ≤ n := fun hts t ht' => by
      obtain ⟨x, _, hx⟩ := reifyList_mem hts t ht'
      exact ihn x t hx
    cases v with
    | list r =>
      rw [reify_list_succ] at ht
      split at ht
      · obtain ⟨ts, hts, rfl⟩ := Option.map_eq_some_iff.1 ht
        exact Nat.succ_le_succ ((depthList_le ts).2 (ih hts))
      · cases ht
    | obj r =>
      rw [reify_obj_succ, reifyFields_eq] at ht
      split at ht
      · obtain ⟨kts, hk, rfl⟩ := Option.map_eq_some_iff.1 ht
        obtain ⟨ts, hts, rfl⟩ := Option.map_eq_some_iff.1 hk
        exact Nat.succ_le_succ ((depthFields_le _).2 fun kt hkt => ih hts _ (List.of_mem_zip hkt).2)
      · cases ht
    | _ => simp only [reify] at ht; cases ht; exact Nat.zero_le _

/-- the executable fuel `h.length + 1` of `reifyF` suffices exactly for the acyclic values: in an
acyclic value the addresses along a chain of nested containers are valid and pairwise distinct,
so there are at most `h.length` of them (pigeonhole) -/
theorem C08_acyclic_reifyF (h : Heap) (v : Val) : Acyclic h v ↔ (reifyF h v).isSome = true :=
  ⟨reifyF_of_acyclic, fun hs => ⟨h.length + 1, hs⟩⟩

/-- `reifyF` agrees with every fuel that succeeds -/
theorem C08_reifyF_eq (h : Heap) (v : Val) (n : Nat) (t : JVal) (ht : reify n h v = some t) :
    reifyF h v = some t := reifyF_eq_of_reify ht

/-- for an acyclic value, `reachF` is the complete set of reachable containers -/
theorem C08_reachF_complete (h : Heap) (v : Val) (hv : Acyclic h v) (m a : Nat)
    (ha : a ∈ reach m h v) : a ∈ reachF h v :=
  reach_sub_of_reify (h.length + 1) v (reifyF_of_acyclic hv) m a ha

example : Acyclic c08H (.list ⟨2, 0⟩) := ⟨4, by rw [show reify 4 c08H _ = _ from c08H_reify]; rfl⟩

/-- a cyclic heap: the list at address 0 contains itself; `reifyF` (and `Clone`) fail on it -/
example : ¬ Acyclic [.list [.list ⟨0, 0⟩] 0] (.list ⟨0, 0⟩) := by
  rw [C08_acyclic_reifyF]
  simp [reifyF, reify, reifyList]

/-- locality: the tree (and the reachable set) of `v` only depends on the cells reachable from `v` -/
theorem C08_reify_local (h h2 : Heap) (n : Nat) (v : Val)
    (hag : ∀ a ∈ reach n h v, h2[a]? = h[a]?) :
    reify n h2 v = reify n h v ∧ reach n h2 v = reach n h v :=
  ⟨reify_congr n v hag, reach_congr n v hag⟩

/-! ## 2. `build` followed by `reify` is the identity -/

theorem C08_build_reify (h : Heap) (t : JVal) (n : Nat) (hn : depth t ≤ n) :
    reify n (build h t).1 (build h t).2 = some t :=
  (build_spec h t).2.2.reify _ (AgreeOn.refl _ _ _) n hn

/-- also with the executable fuel -/
theorem C08_build_reifyF (h : Heap) (t : JVal) : reifyF (build h t).1 (build h t).2 = some t :=
  C08_build_reify h t _ (Nat.le_succ_of_le (Nat.le_trans (Nat.le_add_left _ _) (build_spec h t).2.1))

example : depth c08T = 3 := rfl

/-! ## 3. the clone equals the original -/

/-- the clone denotes the identical tree -/
theorem C08_equal (h h' : Heap) (v c : Val) (hc : O.clone h v = some (h', c)) :
    reifyF h' c = reifyF h v ∧ (reifyF h v).isSome := by
  obtain ⟨t, ht, hb⟩ := clone_inv hc
  have := C08_build_reifyF h t
  rw [hb] at this
  rw [this, ht]; exact ⟨rfl, rfl⟩

/-- hence `Equals` (the library's deep comparison, `equalsJ` on the denoted trees) holds, both ways,
whenever the content is NaN-free with distinct keys (`JVal.WF`; `NaN ≠ NaN` also in Go) -/
theorem C08_equals (h h' : Heap) (v c : Val) (hc : O.clone h v = some (h', c)) :
    ∃ t, reifyF h v = some t ∧ reifyF h' c = some t ∧ (t.WF → equalsJ t t = true) := by
  obtain ⟨t, ht, _⟩ := clone_inv hc
  exact ⟨t, ht, by rw [(C08_equal h h' v c hc).1, ht], RT.equalsJ_refl t⟩

/-- the NaN-freeness is needed (also in Go, where `NaN != NaN`): a list holding NaN does not
`Equals` its clone — nor itself -/
example : equalsJ (.list [.float F64.nan]) (.list [.float F64.nan]) = false := by
  simp [equalsJ, equalsList, F64.eqGo, F64.isNaN, F64.nan, F64.expBits, F64.frac]

/-- `Clone` succeeds on every value that reifies -/
theorem C08_clone_total (h : Heap) (v : Val) (hv : (reifyF h v).isSome) : (O.clone h v).isSome := by
  unfold O.clone; cases hr : reifyF h v <;> simp_all

example : (O.clone c08H (.list ⟨2, 0⟩)).isSome :=
  C08_clone_total _ _ (by rw [c08H_reify]; rfl)

/-! ## 4. the clone lives in new cells only -/

/-- old cells are untouched: the new heap is the old one plus appended cells -/
theorem C08_prefix (h h' : Heap) (v c : Val) (hc : O.clone h v = some (h', c)) :
    (∃ extra, h' = h ++ extra) ∧ ∀ b, b < h.length → h'[b]? = h[b]? := by
  obtain ⟨t, _, ⟨extra, he⟩, _⟩ := clone_spec hc
  exact ⟨⟨extra, he⟩, fun b hb' => by rw [he, List.getElem?_append_left hb']⟩

/-- every container reachable from the clone (itself included, at any depth) is a new cell -/
theorem C08_fresh (h h' : Heap) (v c : Val) (hc : O.clone h v = some (h', c)) (n : Nat) :
    ∀ a ∈ reach n h' c, h.length ≤ a ∧ a < h'.length := by
  obtain ⟨t, _, _, _, d, _⟩ := clone_spec hc
  exact fun a ha => d.reach h' (AgreeOn.refl _ _ _) n a ha

theorem C08_fresh_reachF (h h' : Heap) (v c : Val) (hc : O.clone h v = some (h', c)) :
    ∀ a ∈ reachF h' c, h.length ≤ a := fun a ha => (C08_fresh h h' v c hc _ a ha).1

/-- in a well-formed heap, everything reachable from the original is an old cell, also after the clone -/
theorem C08_original_old (h h' : Heap) (v c : Val) (wf : HeapWF h) (hv : v.okIn h)
    (hc : O.clone h v = some (h', c)) (n : Nat) : ∀ a ∈ reach n h' v, a < h.length := by
  obtain ⟨⟨extra, he⟩, _⟩ := C08_prefix h h' v c hc
  rw [he]
  exact reach_old wf (Sub.append h extra) n v hv

/-- no container reachable from the clone is a container reachable from the original -/
theorem C08_disjoint (h h' : Heap) (v c : Val) (wf : HeapWF h) (hv : v.okIn h)
    (hc : O.clone h v = some (h', c)) (n m : Nat) :
    ∀ a, a ∈ reach n h' c → a ∉ reach m h' v := by
  intro a ha hm
  exact Nat.not_lt.2 (C08_fresh h h' v c hc n a ha).1 (C08_original_old h h' v c wf hv hc m a hm)

theorem C08_disjoint_reachF (h h' : Heap) (v c : Val) (wf : HeapWF h) (hv : v.okIn h)
    (hc : O.clone h v = some (h', c)) : ∀ a, a ∈ reachF h' c → a ∉ reachF h' v :=
  C08_disjoint h h' v c wf hv hc _ _

theorem c08H_okIn : (Val.list ⟨2, 0⟩).okIn c08H := by decide

example : (Val.list ⟨2, 0⟩).okIn c08H := c08H_okIn

/-! ## 5. independence

"A mutation" is, abstractly, ANY change `h1 ↦ h2` of the heap that keeps every cell outside a
set `S` (cells may be appended). A value that reaches no cell of `S` denotes the same tree
before and after. -/

theorem C08_independent_abstract (h1 h2 : Heap) (S : Nat → Prop) (n : Nat) (v : Val)
    (hf : ∀ b, ¬ S b → h2[b]? = h1[b]?) (hd : ∀ a ∈ reach n h1 v, ¬ S a) :
    reify n h2 v = reify n h1 v ∧ reach n h2 v = reach n h1 v :=
  C08_reify_local h1 h2 n v (fun a ha => hf a (hd a ha))

/-- any change confined to the cells reachable from the clone (or to cells allocated later) leaves
the original observably unchanged -/
theorem C08_independent_original_abstract (h h' h2 : Heap) (v c : Val) (wf : HeapWF h) (hv : v.okIn h)
    (hc : O.clone h v = some (h', c)) (hf : ∀ b, b < h.length → h2[b]? = h'[b]?) (n : Nat) :
    reify n h2 v = reify n h v ∧ reach n h2 v = reach n h v := by
  have hp := (C08_prefix h h' v c hc).2
  have hold := reach_old wf (Sub.refl h) n v hv
  exact C08_reify_local h h2 n v (fun a ha => by rw [hf a (hold a ha), hp a (hold a ha)])

/-- any change that keeps the clone's cells (the interval `[h.length, h'.length)`) leaves the
clone observably unchanged: it still denotes the tree of the original at clone time -/
theorem C08_independent_clone_abstract (h h' h2 : Heap) (v c : Val)
    (hc : O.clone h v = some (h', c))
    (hf : ∀ b, h.length ≤ b → b < h'.length → h2[b]? = h'[b]?) (hlen : h'.length ≤ h2.length) :
    reifyF h2 c = reifyF h v ∧ ∀ n, ∀ a ∈ reach n h2 c, h.length ≤ a ∧ a < h'.length := by
  obtain ⟨t, ht, _, hd, d, _⟩ := clone_spec hc
  refine ⟨?_, fun n a ha => d.reach h2 hf n a ha⟩
  rw [ht]
  exact d.reify h2 hf _ (Nat.le_succ_of_le (Nat.le_trans (Nat.le_trans (Nat.le_add_left _ _) hd) hlen))

/-! ### programs of the concrete mutators

`MOp` (in `Lemmas/Mutators.lean`): `Add, Insert, Replace, Delete, Pop, Clear, Reverse, Sort` on a
list cell and `Set, Unset, Clear` on an object cell, with ARBITRARY arguments (scalars, nested
native slices / maps, references to existing containers; also calls that panic).
`runM h ops` executes them in order. Each changes at most its receiver's cell and appends cells
(`C05_frame`, `C06_frame_*`, here `stepM_ext`). -/

/-- a program all of whose receivers are cells of the clone or cells created later (address
`≥ h.length`) leaves the original observably unchanged -/
theorem C08_independent_original (h h' : Heap) (v c : Val) (wf : HeapWF h) (hv : v.okIn h)
    (hc : O.clone h v = some (h', c)) (ops : List MOp) (ht : ∀ op ∈ ops, h.length ≤ op.target)
    (n : Nat) :
    reify n (runM h' ops) v = reify n h v ∧ reach n (runM h' ops) v = reach n h v := by
  obtain ⟨⟨extra, he⟩, _⟩ := C08_prefix h h' v c hc
  have ag := runM_agreeOn 0 h.length h' ops (by rw [he]; simp) (fun op ho => Or.inr (ht op ho))
  exact C08_independent_original_abstract h h' _ v c wf hv hc (fun b hb => ag b (Nat.zero_le _) hb) n

/-- a program none of whose receivers is a cell of the clone leaves the clone observably unchanged -/
theorem C08_independent_clone (h h' : Heap) (v c : Val)
    (hc : O.clone h v = some (h', c)) (ops : List MOp)
    (ht : ∀ op ∈ ops, op.target < h.length ∨ h'.length ≤ op.target) :
    reifyF (runM h' ops) c = reifyF h v ∧
    ∀ n, ∀ a ∈ reach n (runM h' ops) c, h.length ≤ a ∧ a < h'.length :=
  C08_independent_clone_abstract h h' _ v c hc
    (runM_agreeOn h.length h'.length h' ops (Nat.le_refl _) ht) (runM_len h' ops)

example : runM c08H [.add 0 [.nil], .oset 1 [(some ['z'], .slice .any [.nil])] false] =
    [.list [.int 3, .int 1, .nil] 0,
     .obj [(['k'], .list ⟨0, 0⟩), (['s'], .str ['x']), (['z'], .list ⟨3, 0⟩)] 0,
     .list [.obj ⟨1, 0⟩, .nil] 0, .list [.nil] 0] := by decide

/-! ### "inside": receivers reachable from one of the two

`GOp` (in `Lemmas/TreeFormFrame.lean`): a method mutator (`.m op`, `op : MOp`) or one of the
tree-form mutators `SetTF` / `UnsetTF` on a list / an object (`.setL`, `.setO`, `.unsetL`,
`.unsetO`: they walk a path of nested containers, create missing intermediate containers and
change the container at the end of the path). `runG h ops` executes a program.
`ProgInside P root h ops`: every call of the program has a receiver that is reachable from `root`
in the heap the call is executed in (top level or nested at any depth), and the container
references among its arguments (at any depth of nested native slices / maps) all lie in the
address set `P`. Arguments that are scalars or native trees satisfy this for every `P`. -/

/-- any program of mutations inside the clone — receivers reachable from the clone at the time of
the call, via methods or tree-form paths; arguments: scalars, native trees, and references only
to new containers (parts of the clone, results of later calls), never to containers of the
original — leaves the original observably unchanged; and everything reachable from the clone is
still new afterwards -/
theorem C08_independent_inside_clone (h h' : Heap) (v c : Val) (wf : HeapWF h) (hv : v.okIn h)
    (hc : O.clone h v = some (h', c)) (ops : List GOp)
    (hp : ProgInside (fun a => h.length ≤ a) c h' ops) (n : Nat) :
    (reify n (runG h' ops) v = reify n h v ∧ reach n (runG h' ops) v = reach n h v) ∧
    ∀ a ∈ reach n (runG h' ops) c, h.length ≤ a := by
  obtain ⟨t, _, he, _, _, hcl⟩ := clone_spec hc
  have hlen : h.length ≤ h'.length := le_of_prefix he.choose_spec
  have cb := hcl (fun a => h.length ≤ a) (closed_of_ge (fun a ha => ha)) (fun a ha => ha)
  obtain ⟨cf, cl⟩ := runG_inside (fun a => h.length ≤ a) c cb.2 ops h' cb.1
    (fun a ha => Nat.le_trans hlen ha) hp
  exact ⟨C08_independent_original_abstract h h' _ v c wf hv hc
    (fun b hb' => cf.same b (Nat.lt_of_lt_of_le hb' hlen) (Nat.not_le.2 hb')) n, fun a ha => reach_closed cl n c cb.2 a ha⟩

/-- any program of mutations inside the original — receivers reachable from the original at the
time of the call, via methods or tree-form paths; arguments: scalars, native trees, and
references to any containers except the clone's — leaves the clone observably unchanged -/
theorem C08_independent_inside_original (h h' : Heap) (v c : Val) (wf : HeapWF h) (hv : v.okIn h)
    (hc : O.clone h v = some (h', c)) (ops : List GOp)
    (hp : ProgInside (fun a => a < h.length ∨ h'.length ≤ a) v h' ops) :
    reifyF (runG h' ops) c = reifyF h v ∧
    ∀ n, ∀ a ∈ reach n (runG h' ops) c, h.length ≤ a ∧ a < h'.length := by
  obtain ⟨⟨extra, he⟩, _⟩ := C08_prefix h h' v c hc
  obtain ⟨cf, _⟩ := runG_inside (fun a => a < h.length ∨ h'.length ≤ a) v
    (refP_of_okIn (fun _ hb => Or.inl hb) hv) ops h'
    (closed_of_wf wf (he ▸ Sub.append h extra) (fun _ hb => Or.inl hb) (fun _ hb => hb))
    (fun a ha => Or.inr ha) hp
  exact C08_independent_clone_abstract h h' _ v c hc
    (fun b h1 h2 => cf.same b h2 fun hc => hc.elim (Nat.not_lt.2 h1) (Nat.not_le.2 h2)) cf.len

/-- non-vacuity: clone cell 2 of `c08H`; the clone is `<list 5>` = `[<obj 4>, nil]`,
`<obj 4>` = `{"k": <list 3>, "s": "x"}`, `<list 3>` = `[3, 1]` -/
theorem c08H_clone : O.clone c08H (.list ⟨2, 0⟩) =
    some (c08H ++ [.list [.int 3, .int 1] 0, .obj [(['k'], .list ⟨3, 0⟩), (['s'], .str ['x'])] 0,
      .list [.obj ⟨4, 0⟩, .nil] 0], .list ⟨5, 0⟩) := by
  rw [O.clone, c08H_reify]
  simp [c08T, build, buildList, buildFields, c08H]

/-- a program inside the clone: `Add` to the nested list (address 3) a native slice, then `Set` on
the nested object (address 4) a reference to the clone's own list -/
example : ProgInside (fun a => c08H.length ≤ a) (.list ⟨5, 0⟩)
    (c08H ++ [.list [.int 3, .int 1] 0, .obj [(['k'], .list ⟨3, 0⟩), (['s'], .str ['x'])] 0,
      .list [.obj ⟨4, 0⟩, .nil] 0])
    [.m (.add 3 [.slice .any [.nil]]), .m (.oset 4 [(some ['q'], .list ⟨3, 0⟩)] false)] :=
  ⟨⟨3, mem_reach_of_kid (x := .obj ⟨4, 0⟩) (by decide)
      (mem_reach_of_kid (x := .list ⟨3, 0⟩) (by decide) (mem_reach_succ.2 (Or.inl rfl)))⟩,
    by simp only [GOp.refP, MOp.refP, refPList, GoVal.refP, and_self],
    ⟨2, mem_reach_of_kid (x := .obj ⟨4, 0⟩) (by decide) (mem_reach_succ.2 (Or.inl rfl))⟩,
    List.forall_mem_singleton.2 (show c08H.length ≤ 3 by decide), trivial⟩

/-- a tree-form mutation inside the clone: `clone.SetTF("#0.q", nil)` (receiver: the clone itself) -/
example : ProgInside (fun a => c08H.length ≤ a) (.list ⟨5, 0⟩)
    (c08H ++ [.list [.int 3, .int 1] 0, .obj [(['k'], .list ⟨3, 0⟩), (['s'], .str ['x'])] 0,
      .list [.obj ⟨4, 0⟩, .nil] 0])
    [.setL 4 5 ['#', '0', '.', 'q'] .nil] :=
  ⟨⟨1, mem_reach_succ.2 (Or.inl rfl)⟩, trivial, trivial⟩

/-- a program inside the original: `Pop` on the nested list 0, `Unset` on the nested object 1 -/
example : ProgInside (fun a => a < c08H.length ∨ 6 ≤ a) (.list ⟨2, 0⟩)
    (c08H ++ [.list [.int 3, .int 1] 0, .obj [(['k'], .list ⟨3, 0⟩), (['s'], .str ['x'])] 0,
      .list [.obj ⟨4, 0⟩, .nil] 0])
    [.m (.pop 0), .m (.ounset 1 [['s']])] :=
  ⟨⟨3, mem_reach_of_kid (x := .obj ⟨1, 0⟩) (by decide)
      (mem_reach_of_kid (x := .list ⟨0, 0⟩) (by decide) (mem_reach_succ.2 (Or.inl rfl)))⟩,
    trivial,
    -- `Pop` on cell 0 leaves cell 2 as it is
    ⟨2, mem_reach_of_kid (x := .obj ⟨1, 0⟩)
      (show _ ∈ (stepM _ (.pop 0)).items 2 by
        rw [(stepM_ext _ (.pop 0)).items (b := 2) (by decide) (by decide)]; decide)
      (mem_reach_succ.2 (Or.inl rfl))⟩,
    trivial, trivial⟩

/-! instances of the theorems above on the concrete clone -/

example := C08_equal c08H _ _ _ c08H_clone
example := C08_equals c08H _ _ _ c08H_clone
example := C08_prefix c08H _ _ _ c08H_clone
example := C08_fresh_reachF c08H _ _ _ c08H_clone
example := C08_disjoint_reachF c08H _ _ _ c08H_wf c08H_okIn c08H_clone
example := C08_independent_original c08H _ _ _ c08H_wf c08H_okIn
  c08H_clone [.add 3 [.slice .any [.nil]], .oclear 4, .sort 7] (by decide)
example := C08_independent_clone c08H _ _ _ c08H_clone [.pop 0, .ounset 1 [['s']], .clear 2, .add 9 []]
  (by decide)
example : c08T.WF := by
  simp [c08T, JVal.WF, WFList, WFFields, InRange]

#print axioms C08_reify_mono
#print axioms C08_reify_ext
#print axioms C08_depth_le_fuel
#print axioms C08_acyclic_reifyF
#print axioms C08_reifyF_eq
#print axioms C08_reachF_complete
#print axioms C08_reify_local
#print axioms C08_build_reify
#print axioms C08_build_reifyF
#print axioms C08_equal
#print axioms C08_equals
#print axioms C08_clone_total
#print axioms C08_prefix
#print axioms C08_fresh
#print axioms C08_fresh_reachF
#print axioms C08_original_old
#print axioms C08_disjoint
#print axioms C08_disjoint_reachF
#print axioms C08_independent_abstract
#print axioms C08_independent_original_abstract
#print axioms C08_independent_clone_abstract
#print axioms C08_independent_original
#print axioms C08_independent_clone
#print axioms C08_independent_inside_clone
#print axioms C08_independent_inside_original

end Anytype
