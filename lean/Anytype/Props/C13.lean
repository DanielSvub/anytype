/-
C13 — `NativeDict` / `NativeSlice` return plain Go maps and slices (no anytype container at any
depth) deep-equal to the container's content; `NewObjectFrom(m).NativeDict()` /
`NewListFrom(s).NativeSlice()` reproduce `m` / `s`; `Dict()` / `Slice()` are one-level snapshots
holding exactly what `Get` returns per key / index; none of them shares storage with the container.

`NVal` (plain Go data) has the constructors nil / bool / int / float / str / slice / dict and NO
constructor holding a `Ref`: "no container at any depth" holds by typing. Likewise `L.slice`
returns a `List Val`, `O.dict` an association list and `nativeM` an `Option NVal` — plain values
that contain no heap, so no later change of the heap can change them.
-/
import Anytype.Lemmas.Native
import Anytype.Lemmas.Mutators
namespace Anytype
open Heap Rf

/-- cell 0: `[3, 1]`, cell 1: `{"k": <list 0>, "s": "x"}`, cell 2: `[<obj 1>, nil]` -/
def c13H : Heap :=
  [.list [.int 3, .int 1] 0, .obj [(['k'], .list ⟨0, 0⟩), (['s'], .str ['x'])] 0,
   .list [.obj ⟨1, 0⟩, .nil] 0]

/-- a native tree: `[{"k": [3, 1], "s": "x"}, nil]` -/
def c13N : NVal := .slice [.dict [(['k'], .slice [.int 3, .int 1]), (['s'], .str ['x'])], .nil]

/-! ## 1. `native` is the content, as plain data -/

/-- `NativeSlice` / `NativeDict` / `native`: the denoted tree, translated constructor by constructor -/
theorem C13_native (h : Heap) (v : Val) : nativeM h v = (reifyF h v).map toNative := rfl

/-- the translation is a bijection between value trees and native trees ("deep-equal to the
container's content" = the same tree) -/
theorem C13_native_iso :
    (∀ t : JVal, fromNative (toNative t) = t) ∧ (∀ n : NVal, toNative (fromNative n) = n) ∧
    (∀ t u : JVal, toNative t = toNative u → t = u) :=
  ⟨fromNative_toNative, toNative_fromNative, fun t u e => by rw [← fromNative_toNative t, ← fromNative_toNative u, e]⟩

/-- hence: the native value is `n` iff the container denotes the tree `fromNative n` -/
theorem C13_native_iff (h : Heap) (v : Val) (n : NVal) :
    nativeM h v = some n ↔ reifyF h v = some (fromNative n) := by
  rw [nativeM, Option.map_eq_some_iff]
  exact ⟨fun ⟨t, ht, e⟩ => by rw [ht, ← e, fromNative_toNative],
    fun e => ⟨_, e, toNative_fromNative n⟩⟩

/-- structure is preserved level by level: a list becomes a slice of the same length with the
natives of its elements, an object a map with the same keys in the same order -/
theorem C13_native_shape (xs : List JVal) (kvs : List (Str × JVal)) :
    toNative (.list xs) = .slice (toNativeList xs) ∧ (toNativeList xs).length = xs.length ∧
    toNative (.obj kvs) = .dict (toNativeFields kvs) ∧
    (toNativeFields kvs).map (·.1) = kvs.map (·.1) :=
  ⟨rfl, toNativeList_length xs, rfl, toNativeFields_keys kvs⟩

example : nativeM c13H (.list ⟨2, 0⟩) = some c13N := by
  simp [nativeM, reifyF, reify, reifyList, reifyFields, c13H, c13N, toNative, toNativeList,
    toNativeFields]

/-! ## 2. round trip: `NewListFrom(s).NativeSlice() = s`, `NewObjectFrom(m).NativeDict() = m` -/

/-- canonical scalars are stored as they are -/
theorem C13_canonical_int (i : Int) (hi : InRange i) : wrap64 i = i := wrap64_of_inRange i hi

/-- for every supported native tree `n` (ints in range, map keys distinct; any depth and
branching): converting it (`parseVal`, what `NewListFrom` / `NewObjectFrom` / `Add` / `Set` do with
a `[]any` / `map[string]any`) succeeds; no existing cell changes; every cell reachable from the
result is new; the result denotes `fromNative n`; and `native` of the result is `n` again -/
theorem C13_roundtrip (n : NVal) (wf : n.WF) (h : Heap) :
    ∃ h' v, parseVal h n.toGo = (h', .ok v) ∧
      nativeM h' v = some n ∧
      (∀ k, depth (fromNative n) ≤ k → reify k h' v = some (fromNative n)) ∧
      h.length ≤ h'.length ∧ (∀ b, b < h.length → h'[b]? = h[b]?) ∧
      (∀ k, ∀ a ∈ reach k h' v, h.length ≤ a ∧ a < h'.length) := by
  obtain ⟨h', v, hp, e, hd, d⟩ := parseVal_native n wf h
  refine ⟨h', v, hp, ?_, fun k hk => d.reify h' (AgreeOn.refl _ _ _) k hk, e.len, e.same,
    fun k a ha => d.reach h' (AgreeOn.refl _ _ _) k a ha⟩
  rw [C13_native_iff]
  exact d.reify h' (AgreeOn.refl _ _ _) _ (by omega)

example : c13N.WF := by
  simp [c13N, NVal.WF, WFNList, WFNFields, InRange]

/-- `NewListFrom(s).NativeSlice() = s` -/
theorem C13_roundtrip_list (xs : List NVal) (wf : (NVal.slice xs).WF) (h : Heap) :
    ∃ h' r, L.newFrom h (NVal.slice xs).toGo = (h', .ok r) ∧ r = ⟨h.length, 0⟩ ∧
      nativeM h' (.list r) = some (.slice xs) ∧ ∀ b, b < h.length → h'[b]? = h[b]? := by
  obtain ⟨h', v, hp, hn, _, _, hs, _⟩ := C13_roundtrip (.slice xs) wf h
  obtain ⟨rfl, _⟩ := parseVal_slice_inv hp
  refine ⟨h', ⟨h.length, 0⟩, ?_, rfl, hn, hs⟩
  rw [NVal.toGo] at hp ⊢
  rw [L.newFrom, hp]

/-- `NewObjectFrom(m).NativeDict() = m` -/
theorem C13_roundtrip_object (kvs : List (Str × NVal)) (wf : (NVal.dict kvs).WF) (h : Heap) :
    ∃ h' r, O.newFrom h (NVal.dict kvs).toGo = (h', .ok r) ∧ r = ⟨h.length, 0⟩ ∧
      nativeM h' (.obj r) = some (.dict kvs) ∧ ∀ b, b < h.length → h'[b]? = h[b]? := by
  obtain ⟨h', v, hp, hn, _, _, hs, _⟩ := C13_roundtrip (.dict kvs) wf h
  obtain ⟨rfl, _⟩ := parseVal_map_inv hp
  refine ⟨h', ⟨h.length, 0⟩, ?_, rfl, hn, hs⟩
  rw [NVal.toGo] at hp ⊢
  rw [O.newFrom, hp]

/-- the element-type flavour of the Go slice / map (`[]any`, `[]string`, `map[string]int`, …) is
irrelevant for the conversion: the typed flavours are normalised to the same content -/
theorem C13_flavour (h : Heap) (fl : Flavour) (xs : List GoVal) (kvs : List (Str × GoVal)) :
    parseVal h (.slice fl xs) = parseVal h (.slice .any xs) ∧
    parseVal h (.map fl kvs) = parseVal h (.map .any kvs) := by
  exact ⟨rfl, rfl⟩

/-- numeric widths are normalised to Go `int` (two's complement wrap, C12) -/
theorem C13_width (h : Heap) (w : IntW) (i : Int) :
    parseVal h (.intw w i) = (h, .ok (.int (wrap64 i))) ∧
    (InRange i → parseVal h (.intw w i) = parseVal h (NVal.int i).toGo) := by
  exact ⟨rfl, fun _ => rfl⟩

/-! ## 3. `Slice()` / `Dict()` are one-level snapshots of what `Get` returns -/

/-- `Slice()`: element `i` is exactly what `Get(i)` returns (a scalar by value, a nested container
as the reference to the identical container), and `Get` panics exactly beyond its length -/
theorem C13_snapshot_slice (h : Heap) (a : Nat) :
    L.slice h a = (h.items a).map h.getVal ∧
    ((L.slice h a).length : Int) = L.count h a ∧
    (∀ i : Nat, i < (L.slice h a).length →
      ∃ v, (L.slice h a)[i]? = some v ∧ L.get h a (i : Int) = .ok v) ∧
    (∀ i : Int, ¬ (0 ≤ i ∧ i < ((L.slice h a).length : Int)) → L.get h a i = .panic .indexRange) := by
  have hl : (L.slice h a).length = (h.items a).length := List.length_map _
  refine ⟨rfl, by rw [hl]; rfl, fun i hi => ?_, fun i hi => L.get_out h a i (by rwa [hl] at hi)⟩
  have hx := List.getElem?_eq_getElem (hl ▸ hi)
  exact ⟨_, by rw [L.slice, List.getElem?_map, hx]; rfl,
    L.get_stored h a i _ (Int.natCast_nonneg i) (by rw [Int.toNat_natCast]; exact hx)⟩

/-- `Dict()`: the same keys (in the same iteration order), and under each key exactly what
`Get(key)` returns; `Get` panics exactly on the keys the dict does not have -/
theorem C13_snapshot_dict (h : Heap) (a : Nat) :
    O.dict h a = (h.fields a).map (fun kv => (kv.1, h.getVal kv.2)) ∧
    (O.dict h a).map (·.1) = (h.fields a).map (·.1) ∧
    (∀ k : Str, O.get h a k =
      match lookup (O.dict h a) k with
      | some v => .ok v
      | none => .panic .missingKey) := by
  refine ⟨rfl, by simp [O.dict], fun k => ?_⟩
  unfold O.get O.dict
  rw [lookup_map]
  cases lookup (h.fields a) k <;> rfl

example : L.slice c13H 2 = [.obj ⟨1, 0⟩, .nil] := by decide +kernel
example : O.dict c13H 1 = [(['k'], .list ⟨0, 0⟩), (['s'], .str ['x'])] := by decide +kernel

/-! ## 4. no shared storage

By typing (see the head of this file) neither side can reach into the other. The content-level
facts: -/

/-- the container built from `n` keeps denoting `n` under ANY later change of the heap that does
not touch its own (new) cells `[h.length, h'.length)` — in particular whatever happens to the
Go value `n` was read from, which the heap does not reference -/
theorem C13_noalias_built (n : NVal) (wf : n.WF) (h : Heap) :
    ∃ h' v, parseVal h n.toGo = (h', .ok v) ∧
      ∀ H : Heap, h'.length ≤ H.length → (∀ b, h.length ≤ b → b < h'.length → H[b]? = h'[b]?) →
        nativeM H v = some n := by
  obtain ⟨h', v, hp, e, hd, d⟩ := parseVal_native n wf h
  refine ⟨h', v, hp, fun H hl ag => ?_⟩
  rw [C13_native_iff]
  exact d.reify H ag _ (by omega)

/-- e.g. any program of mutators on other containers (old ones, or ones created later) -/
theorem C13_noalias_built_program (n : NVal) (wf : n.WF) (h : Heap) :
    ∃ h' v, parseVal h n.toGo = (h', .ok v) ∧
      ∀ ops : List MOp, (∀ op ∈ ops, op.target < h.length ∨ h'.length ≤ op.target) →
        nativeM (runM h' ops) v = some n := by
  obtain ⟨h', v, hp, hH⟩ := C13_noalias_built n wf h
  exact ⟨h', v, hp, fun ops ht => hH _ (runM_len h' ops)
    (runM_agreeOn h.length h'.length h' ops (Nat.le_refl _) ht)⟩

/-- a snapshot / native value taken before a mutation is, as a value, what it was: it equals the
content at the time it was taken whatever is done to the heap afterwards -/
theorem C13_noalias_snapshot (h : Heap) (a : Nat) (v : Val) (ops : List MOp) :
    (let s := L.slice h a; let _h' := runM h ops; s) = (h.items a).map h.getVal ∧
    (let d := O.dict h a; let _h' := runM h ops; d) = (h.fields a).map (fun kv => (kv.1, h.getVal kv.2)) ∧
    (let n := nativeM h v; let _h' := runM h ops; n) = (reifyF h v).map toNative :=
  ⟨rfl, rfl, rfl⟩

/-- while the container itself does change: the snapshot and the container are different things -/
example : L.slice (stepM c13H (.add 0 [.nil])) 0 ≠ L.slice c13H 0 := by
  decide +kernel

#print axioms C13_native
#print axioms C13_native_iso
#print axioms C13_native_iff
#print axioms C13_native_shape
#print axioms C13_canonical_int
#print axioms C13_roundtrip
#print axioms C13_roundtrip_list
#print axioms C13_roundtrip_object
#print axioms C13_flavour
#print axioms C13_width
#print axioms C13_snapshot_slice
#print axioms C13_snapshot_dict
#print axioms C13_noalias_built
#print axioms C13_noalias_built_program
#print axioms C13_noalias_snapshot

end Anytype
