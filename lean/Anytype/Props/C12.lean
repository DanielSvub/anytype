/-
C12 — every value accepted by a constructor or mutator is stored as exactly one of seven kinds;
`Get` returns the matching Go type, `TypeOf` reports the kind, exactly the matching typed getter
succeeds; integer widths become `int`, float32 becomes the exactly equal float64, supported maps and
slices become fresh nested Objects / Lists with recursively normalised content, and a value of any
other Go type is rejected with a panic and is not stored.

All constructors and mutators convert their arguments with `parseVal` (`L.add/insert/replace/new/
newOf/newFrom`, `O.set/new/newFrom`, the `Map*` results), so the statements are about `parseVal`
and about the readers `L.get/getK/typeOf`, `O.get/getK/typeOf`.
-/
import Anytype.Lemmas.Normalize
import Anytype.Lemmas.Float32
namespace Anytype
open Heap

/-- decidable equality of results, for the evaluated examples of this file only -/
local instance C12.outDecEq {α : Type} [DecidableEq α] : DecidableEq (Out α)
  | .ok a, .ok b => if h : a = b then isTrue (by rw [h]) else isFalse (fun e => by cases e; exact h rfl)
  | .panic a, .panic b => if h : a = b then isTrue (by rw [h]) else isFalse (fun e => by cases e; exact h rfl)
  | .ok _, .panic _ => isFalse (fun e => by cases e)
  | .panic _, .ok _ => isFalse (fun e => by cases e)

/-- cell 0: `[nil, true, -7, 1.0, "s", <list 1>, <object 2>]`, cell 1: `[]` registered at level 2,
cell 2: `{"k": nil, "n": 5}` -/
def exN : Heap :=
  [.list [.nil, .bool true, .int (-7), .float F64.one, .str ['s'], .list ⟨1, 0⟩, .obj ⟨2, 0⟩] 0,
   .list [] 2, .obj [(['k'], .nil), (['n'], .int 5)] 0]

/-! ## 1. seven kinds -/

/-- an accepted value is stored with the kind determined by its Go type: nil, bool, every integer
width → int, float32/float64 → float, string, List / slices → list, Object / maps → object -/
theorem C12_kind (h h' : Heap) (g : GoVal) (x : Val) (hp : parseVal h g = (h', .ok x)) :
    some x.kind = kindOfGo g := by
  cases g with
  | slice fl xs => rw [(parseVal_slice_inv hp).1]; rfl
  | map fl kvs => rw [(parseVal_map_inv hp).1]; rfl
  | unsupported => cases hp
  | _ => cases hp; rfl

example : parseVal exN (.intw .u8 200) = (exN, .ok (.int 200)) := by decide +kernel
example : kindOfGo (.intw .u8 200) = some .int ∧ kindOfGo (.f32 0) = some .float ∧
    kindOfGo (.slice .string []) = some .list ∧ kindOfGo (.map .any []) = some .object ∧
    kindOfGo .unsupported = none := by decide +kernel

/-- a stored value has exactly one of the seven kinds (never `undefined`), and what `Get` hands back
(`getVal`) has the same kind — i.e. the matching Go type -/
theorem C12_seven (h : Heap) (x : Val) :
    x.kind ∈ [Kind.nil, .object, .list, .string, .bool, .int, .float] ∧ (h.getVal x).kind = x.kind := by
  refine ⟨?_, getVal_kind h x⟩
  cases x <;> exact List.mem_of_elem_eq_true rfl

/-! ## 2. `Get`, `TypeOf` and the typed getters -/

/-- list: for the value `x` stored at index `i` — `Get` returns it (containers as the registered
outer value), `TypeOf` reports its kind, the typed getter for kind `k` returns the same value iff
`k` is the kind of `x` and panics otherwise; for nil no typed getter succeeds -/
theorem C12_getters_list (h : Heap) (a : Nat) (i : Int) (x : Val) (h0 : 0 ≤ i)
    (hx : (h.items a)[i.toNat]? = some x) :
    L.get h a i = .ok (h.getVal x) ∧ L.typeOf h a i = x.kind ∧
    (∀ k, L.getK h a k i = if k = x.kind then .ok (h.getVal x) else .panic .notKind) ∧
    (∀ k, k.isGetter = true → ((∃ v, L.getK h a k i = .ok v) ↔ k = x.kind)) ∧
    (x = .nil → ∀ k, k.isGetter = true → L.getK h a k i = .panic .notKind) := by
  have hk := fun k => L.getK_stored h a k i x h0 hx
  obtain ⟨hn, e⟩ := List.getElem?_eq_some_iff.1 hx
  exact ⟨L.get_stored h a i x h0 hx, by rw [L.typeOf_in h a i h0 hn, e], hk, getters_exactly_kind hk⟩

example : (exN.items 0)[(2 : Int).toNat]? = some (.int (-7)) := by decide +kernel
example : L.getK exN 0 .int 2 = .ok (.int (-7)) ∧ L.getK exN 0 .float 2 = .panic .notKind ∧
    L.getK exN 0 .list 5 = .ok (.list ⟨1, 2⟩) ∧ L.typeOf exN 0 0 = .nil ∧
    L.getK exN 0 .string 0 = .panic .notKind := by decide +kernel

/-- object: the same for the value stored under `key` -/
theorem C12_getters_obj (h : Heap) (a : Nat) (key : Str) (x : Val)
    (hx : lookup (h.fields a) key = some x) :
    O.get h a key = .ok (h.getVal x) ∧ O.typeOf h a key = x.kind ∧
    (∀ k, O.getK h a k key = if k = x.kind then .ok (h.getVal x) else .panic .notKind) ∧
    (∀ k, k.isGetter = true → ((∃ v, O.getK h a k key = .ok v) ↔ k = x.kind)) ∧
    (x = .nil → ∀ k, k.isGetter = true → O.getK h a k key = .panic .notKind) := by
  have hk := fun k => O.getK_stored h a k key x hx
  exact ⟨O.get_stored h a key x hx, by rw [O.typeOf, hx], hk, getters_exactly_kind hk⟩

example : lookup (exN.fields 2) ['n'] = some (.int 5) := by decide +kernel
example : O.getK exN 2 .int ['n'] = .ok (.int 5) ∧ O.getK exN 2 .bool ['n'] = .panic .notKind ∧
    O.typeOf exN 2 ['k'] = .nil ∧ O.getK exN 2 .object ['k'] = .panic .notKind := by decide +kernel

/-! ## 3. integer widths -/

/-- a value of any integer type that is representable as `int` is stored as the same number -/
theorem C12_int (h : Heap) (w : IntW) (v : Int) (hv : InRange v) :
    parseVal h (.intw w v) = (h, .ok (.int v)) := by
  simp only [parseVal, wrap64_of_inRange v hv]

/-- every value of a signed type and of `uint8/16/32` is representable -/
theorem C12_int_widths (w : IntW) (v : Int) (hw : w ≠ .uint ∧ w ≠ .u64) (h : w.inRange v = true) :
    InRange v := by
  -- eight widths have literal bounds inside the `int` range; `uint` and `u64` are excluded by `hw`
  cases w <;> first
    | (simp only [IntW.inRange, Bool.and_eq_true, decide_eq_true_eq] at h
       exact ⟨Int.le_trans (by decide) h.1, Int.lt_of_lt_of_le h.2 (by decide)⟩)
    | exact absurd rfl hw.1
    | exact absurd rfl hw.2

/-- `uint` / `uint64` values beyond the `int` range are stored as their two's-complement
reinterpretation `int(v)` (Go's conversion), not rejected -/
theorem C12_int_unsigned_big (h : Heap) (w : IntW) (v : Int) (h1 : (2:Int)^63 ≤ v) (h2 : v < (2:Int)^64) :
    parseVal h (.intw w v) = (h, .ok (.int (v - (2:Int)^64))) := by
  simp only [parseVal, wrap64_unsigned_big v h1 h2]

example : InRange (-128) ∧ IntW.inRange .i8 (-128) = true ∧ IntW.u32 ≠ .uint ∧ IntW.u32 ≠ .u64 := by decide +kernel
example : IntW.inRange .u64 18446744073709551615 = true ∧
    parseVal exN (.intw .u64 18446744073709551615) = (exN, .ok (.int (-1))) := by decide +kernel

/-! ## 4. float32 → float64 is exact

`F32.val1074 b = |b|·2^1074` and `F64.val1074 x = |x|·2^1074` are the exact magnitudes as natural
numbers (`mant · 2^(exp2+1074)`; the smallest exponents are −149 and −1074). -/

theorem C12_f32_stored (h : Heap) (b : UInt32) : parseVal h (.f32 b) = (h, .ok (.float (f32to64 b))) :=
  rfl

/-- finite values (zeros, subnormals, normals): finite, same sign, same magnitude -/
theorem C12_f32 (b : UInt32) (hfin : F32.isFinite b = true) :
    (f32to64 b).isFinite = true ∧ (f32to64 b).signBit = F32.sign b ∧
    (f32to64 b).val1074 = F32.val1074 b := F32.f32to64_finite b hfin

/-- ±0 ↦ ±0, ±Inf ↦ ±Inf, NaN ↦ NaN -/
theorem C12_f32_special (b : UInt32) :
    (F32.expo b = 0 → F32.frac b = 0 → f32to64 b = F64.withSign (F32.sign b) F64.posZero) ∧
    (F32.isInf b = true → (f32to64 b).isInf = true ∧ (f32to64 b).signBit = F32.sign b) ∧
    (F32.isNaN b = true → (f32to64 b).isNaN = true) :=
  ⟨F32.f32to64_zero b, F32.f32to64_inf b, F32.f32to64_nan b⟩

-- 1.5f, the smallest and the largest subnormal, -0, +Inf, a NaN
example : f32to64 0x3FC00000 = ⟨0x3FF8000000000000⟩ ∧ f32to64 1 = ⟨0x36A0000000000000⟩ ∧
    f32to64 0x007FFFFF = ⟨0x380FFFFFC0000000⟩ ∧ f32to64 0x80000000 = F64.negZero ∧
    f32to64 0x7F800000 = F64.posInf ∧ (f32to64 0x7FC00001).isNaN = true := by decide +kernel
example : F32.isFinite 0x007FFFFF = true ∧ F32.isInf 0xFF800000 = true ∧ F32.isNaN 0x7FC00001 = true := by decide +kernel

/-! ## 5. maps and slices become fresh nested Objects / Lists

`Stored h' lo g v` (Lemmas/Normalize.lean): `v` is the normal form of `g` in `h'`, every cell
created for it having an address `≥ lo`. -/

/-- the general form, for a value nested at any depth inside any argument: its normal form is
stored, in new cells only -/
theorem C12_nested (h h' : Heap) (g : GoVal) (v : Val) (hp : parseVal h g = (h', .ok v)) :
    Stored h' h.length g v ∧ h.length ≤ h'.length ∧ ∀ b, b < h.length → h'[b]? = h[b]? := by
  have e := parseVal_ext0 h g
  rw [hp] at e
  exact ⟨parseVal_stored h g h' v hp, e.len, e.same⟩

/-- a slice: the result is the new list cell `h.length`; no old cell differs; the cell is a plain
list; its items are the recursively normalised elements, every nested cell being new as well -/
theorem C12_nested_slice (h h' : Heap) (fl : Flavour) (xs : List GoVal) (v : Val)
    (hp : parseVal h (.slice fl xs) = (h', .ok v)) :
    v = .list ⟨h.length, 0⟩ ∧
    (h.length < h'.length ∧ ∀ b, b < h.length → h'[b]? = h[b]?) ∧
    h'.isList h.length = true ∧ h'.ego h.length = 0 ∧
    StoredList h' h.length xs (h'.items h.length) := by
  obtain ⟨⟨b, hb, _, hl, he, hx⟩, _, hs⟩ := C12_nested h h' _ v hp
  obtain ⟨rfl, _⟩ := parseVal_slice_inv hp
  cases hb
  exact ⟨rfl, ⟨isList_lt hl, hs⟩, hl, he, hx⟩

/-- a map: the same with an object cell; with distinct keys (a Go map) the fields are exactly the
pairs `(key, normal form)` -/
theorem C12_nested_map (h h' : Heap) (fl : Flavour) (kvs : List (Str × GoVal)) (v : Val)
    (hp : parseVal h (.map fl kvs) = (h', .ok v)) :
    v = .obj ⟨h.length, 0⟩ ∧
    (h.length < h'.length ∧ ∀ b, b < h.length → h'[b]? = h[b]?) ∧
    h'.isObj h.length = true ∧ h'.ego h.length = 0 ∧
    ∃ ps, StoredFields h' h.length kvs ps ∧ h'.fields h.length = setAll [] ps ∧
      ((ps.map Prod.fst).Nodup → h'.fields h.length = ps) := by
  obtain ⟨⟨b, ps, hb, _, hl, he, hx, hf⟩, _, hs⟩ := C12_nested h h' _ v hp
  obtain ⟨rfl, _⟩ := parseVal_map_inv hp
  cases hb
  exact ⟨rfl, ⟨isObj_lt hl, hs⟩, hl, he, ps, hx, hf,
    fun hn => by rw [hf, setAll_nodup [] ps hn]; rfl⟩

/-- it is accepted whenever no value of an unsupported type occurs in it -/
theorem C12_nested_accepts (h : Heap) (g : GoVal) (hs : hasUnsupported g = false) :
    ∃ h' v, parseVal h g = (h', .ok v) := by
  obtain ⟨v, hv⟩ := (hs ▸ parseVal_rejected h g).of_false
  exact ⟨(parseVal h g).1, v, by rw [← hv]⟩

example : parseVal exN (.slice .any [.intw .i8 1, .map .string [(['a'], .str ['x'])], .slice .int []]) =
    (exN ++ [.list [.int 1, .obj ⟨4, 0⟩, .list ⟨5, 0⟩] 0, .obj [(['a'], .str ['x'])] 0, .list [] 0],
     .ok (.list ⟨3, 0⟩)) := by decide +kernel
example : hasUnsupported (.slice .any [.intw .i8 1, .map .string [(['a'], .str ['x'])]]) = false := by decide +kernel

/-! ## 6. any other Go type is rejected -/

theorem C12_reject (h : Heap) : parseVal h .unsupported = (h, .panic .unsupported) :=
  rfl

/-- `parseVal` panics exactly on the values that contain (at any depth of maps / slices) a value of
an unsupported type, always with the "unsupported type" panic, and no old cell differs -/
theorem C12_reject_iff (h : Heap) (g : GoVal) :
    ((parseVal h g).2.isPanic = true ↔ hasUnsupported g = true) ∧
    (∀ k, (parseVal h g).2 = .panic k → k = .unsupported) ∧
    (h.length ≤ (parseVal h g).1.length ∧ ∀ b, b < h.length → (parseVal h g).1[b]? = h[b]?) :=
  ⟨(parseVal_rejected h g).iff.1, (parseVal_rejected h g).iff.2,
   (parseVal_ext0 h g).len, (parseVal_ext0 h g).same⟩

/-- the single-value entry points: the call panics (with the "unsupported type" panic whenever the
index / count is in range) and every old cell — the receiver included — is unchanged, so nothing
was stored -/
theorem C12_reject_entry (h : Heap) (a : Nat) (i : Int) (key : Str) (c : Int) (g : GoVal)
    (hs : hasUnsupported g = true) :
    ((L.add h a [g]).2 = .panic .unsupported ∧ Frame0 h (L.add h a [g]).1) ∧
    ((∃ k, (L.insert h a i g).2 = .panic k ∧ ((0 ≤ i ∧ i ≤ (h.items a).length) → k = .unsupported)) ∧
      Frame0 h (L.insert h a i g).1) ∧
    ((∃ k, (L.replace h a i g).2 = .panic k ∧ ((0 ≤ i ∧ i < (h.items a).length) → k = .unsupported)) ∧
      Frame0 h (L.replace h a i g).1) ∧
    ((∃ k, (L.newOf h g c).2 = .panic k ∧ (0 ≤ c → k = .unsupported)) ∧ Frame0 h (L.newOf h g c).1) ∧
    ((O.set h a [(some key, g)] false).2 = .panic .unsupported ∧
      Frame0 h (O.set h a [(some key, g)] false).1) := by
  obtain ⟨h1, hq, e⟩ := parseVal_reject h hs
  refine ⟨?_, ?_, ?_, ⟨?_, .of_ext0 (L.newOf_ext0 h g c)⟩, ?_⟩
  · rw [L.add, addEach_single, hq]
    exact ⟨rfl, .of_ext0 e⟩
  · by_cases hd : 0 ≤ i ∧ i ≤ (h.items a).length
    · rw [L.insert_panic_of_parse h a i g hq hd.1 hd.2]
      exact ⟨⟨_, rfl, fun _ => rfl⟩, .of_ext0 e⟩
    · rw [L.insert_out h a i g hd]
      exact ⟨⟨_, rfl, fun hd' => absurd hd' hd⟩, .of_ext0 (Ext0.refl h)⟩
  · by_cases hd : 0 ≤ i ∧ i < (h.items a).length
    · rw [L.replace_panic_of_parse h a i g hq hd.1 hd.2]
      exact ⟨⟨_, rfl, fun _ => rfl⟩, .of_ext0 e⟩
    · rw [L.replace_out h a i g hd]
      exact ⟨⟨_, rfl, fun hd' => absurd hd' hd⟩, .of_ext0 (Ext0.refl h)⟩
  · obtain ⟨h2, hq2, _⟩ := parseVal_reject (h ++ [.list [] 0]) hs
    unfold L.newOf
    split
    · next hc => exact ⟨_, rfl, fun h0 => by omega⟩
    · rw [hq2]
      exact ⟨_, rfl, fun _ => rfl⟩
  · rw [O.set, if_neg Bool.false_ne_true, O.setLoop, hq]
    exact ⟨rfl, .of_ext0 e⟩

example : hasUnsupported (.slice .any [.nil, .map .any [(['k'], .unsupported)]]) = true := by decide +kernel
example : (L.insert exN 0 1 (.slice .any [.nil, .unsupported])).2 = .panic .unsupported := by decide +kernel
example : (O.set exN 2 [(some ['z'], .unsupported)] false) = (exN, .panic .unsupported) := by decide +kernel

end Anytype

#print axioms Anytype.C12_kind
#print axioms Anytype.C12_seven
#print axioms Anytype.C12_getters_list
#print axioms Anytype.C12_getters_obj
#print axioms Anytype.C12_int
#print axioms Anytype.C12_int_widths
#print axioms Anytype.C12_int_unsigned_big
#print axioms Anytype.C12_f32_stored
#print axioms Anytype.C12_f32
#print axioms Anytype.C12_f32_special
#print axioms Anytype.C12_nested_slice
#print axioms Anytype.C12_nested_map
#print axioms Anytype.C12_nested
#print axioms Anytype.C12_nested_accepts
#print axioms Anytype.C12_reject
#print axioms Anytype.C12_reject_iff
#print axioms Anytype.C12_reject_entry
