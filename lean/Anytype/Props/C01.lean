/-
C01: `ParseList(l.String())` / `ParseObject(o.String())` returns no error and a container that
`Equals` the original, with every element kind preserved, for every well-formed value tree
(no bound on depth, width or string content) and every field order of every object.

No assumption about floating point: `FmtContract` (the serialiser's shortest formatting is read back as
the identical float64) is the theorem `fmtContract_holds` (`Lemmas/FmtContractHolds.lean`: seventeen digits
always suffice; the 'e' and 'f' layouts preserve the value).
-/
import Anytype.Lemmas.ParseTop
import Anytype.Lemmas.EqualsRefl
import Anytype.Lemmas.FmtContractHolds
namespace Anytype

theorem C01_roundtrip_list (xs : List JVal) (hw : (JVal.list xs).WF) :
    parseListBytes (encode (ser (.list xs))) = .ok (.list xs) := by
  simp only [parseListBytes, RT.split_list, RT.runList_ser fmtContract_holds xs hw]

theorem C01_roundtrip_object (kvs : List (Str × JVal)) (hw : (JVal.obj kvs).WF) :
    parseObjectBytes (encode (ser (.obj kvs))) = .ok (.obj kvs) := by
  simp only [parseObjectBytes, RT.split_obj, RT.runObject_ser fmtContract_holds kvs hw]

/-- non-vacuity of `hw`: `sampleList` / `sampleFields` (`Lemmas/TreeWF.lean`) are nested values with a
string containing `"`, `\`, control characters, non-ASCII, U+FFFD and astral characters, extreme ints,
negative zero, an empty object and an empty list.  (`fmtContract_holds` is the theorem about float formatting; spot
checks of it are in `Lemmas/Contract.lean`.) -/
example : (JVal.list sampleList).WF := sampleList_WF
example : (JVal.obj sampleFields).WF := sampleFields_WF
example : parseListBytes (encode (ser (.list sampleList))) = .ok (.list sampleList) :=
  C01_roundtrip_list _ sampleList_WF
example : parseObjectBytes (encode (ser (.obj sampleFields))) = .ok (.obj sampleFields) :=
  C01_roundtrip_object _ sampleFields_WF

/-- the root bracket is the first byte, and the machine started behind it stops exactly at the end
of the text (nothing is left over), on the line it started on -/
theorem C01_consumes_all_list (xs : List JVal) (hw : (JVal.list xs).WF) :
    ∃ post, splitAtByte 0x5B (encode (ser (.list xs))) = some ([], post) ∧
      ∀ startLine, runList post startLine = .ok (.list xs) [] startLine :=
  ⟨_, RT.split_list xs, RT.runList_ser fmtContract_holds xs hw⟩

theorem C01_consumes_all_object (kvs : List (Str × JVal)) (hw : (JVal.obj kvs).WF) :
    ∃ post, splitAtByte 0x7B (encode (ser (.obj kvs))) = some ([], post) ∧
      ∀ startLine, runObject post startLine = .ok (.obj kvs) [] startLine :=
  ⟨_, RT.split_obj kvs, RT.runObject_ser fmtContract_holds kvs hw⟩

example : (JVal.list sampleList).WF := sampleList_WF
example : (JVal.obj sampleFields).WF := sampleFields_WF

/-- the form used by the entry points: start line 1 -/
theorem C01_consumes_all :
    (∀ xs, (JVal.list xs).WF → ∃ post l, splitAtByte 0x5B (encode (ser (.list xs))) = some ([], post) ∧
        runList post 1 = .ok (.list xs) [] l) ∧
    (∀ kvs, (JVal.obj kvs).WF → ∃ post l, splitAtByte 0x7B (encode (ser (.obj kvs))) = some ([], post) ∧
        runObject post 1 = .ok (.obj kvs) [] l) :=
  ⟨fun xs hw => ⟨_, 1, RT.split_list xs, RT.runList_ser fmtContract_holds xs hw 1⟩,
    fun kvs hw => ⟨_, 1, RT.split_obj kvs, RT.runObject_ser fmtContract_holds kvs hw 1⟩⟩

/-- `Equals` is reflexive on the domain (no NaN, distinct keys) -/
theorem C01_equals (v : JVal) (hw : v.WF) : equalsJ v v = true :=
  RT.equalsJ_refl v hw

theorem C01_equals_roundtrip_list (xs : List JVal) (hw : (JVal.list xs).WF) :
    ∃ w, parseListBytes (encode (ser (.list xs))) = .ok w ∧
      equalsJ w (.list xs) = true ∧ equalsJ (.list xs) w = true :=
  ⟨_, C01_roundtrip_list xs hw, C01_equals _ hw, C01_equals _ hw⟩

theorem C01_equals_roundtrip_object (kvs : List (Str × JVal)) (hw : (JVal.obj kvs).WF) :
    ∃ w, parseObjectBytes (encode (ser (.obj kvs))) = .ok w ∧
      equalsJ w (.obj kvs) = true ∧ equalsJ (.obj kvs) w = true :=
  ⟨_, C01_roundtrip_object kvs hw, C01_equals _ hw, C01_equals _ hw⟩

example : (JVal.list sampleList).WF ∧ (JVal.obj sampleFields).WF := ⟨sampleList_WF, sampleFields_WF⟩

/-- every element comes back with the kind it had (float as float also when whole-valued or
negative zero, int as int), at every depth -/
theorem C01_kinds_list (xs : List JVal) (hw : (JVal.list xs).WF) :
    ∃ w, parseListBytes (encode (ser (.list xs))) = .ok w ∧ kindTree w = kindTree (.list xs) :=
  ⟨_, C01_roundtrip_list xs hw, rfl⟩

theorem C01_kinds_object (kvs : List (Str × JVal)) (hw : (JVal.obj kvs).WF) :
    ∃ w, parseObjectBytes (encode (ser (.obj kvs))) = .ok w ∧ kindTree w = kindTree (.obj kvs) :=
  ⟨_, C01_roundtrip_object kvs hw, rfl⟩

example : (JVal.list sampleList).WF ∧ (JVal.obj sampleFields).WF := ⟨sampleList_WF, sampleFields_WF⟩

/-- serialising the re-parsed container and parsing again yields the same container -/
theorem C01_twice_list (xs : List JVal) (hw : (JVal.list xs).WF) :
    ∃ w, parseListBytes (encode (ser (.list xs))) = .ok w ∧
      parseListBytes (encode (ser w)) = .ok w ∧ equalsJ w (.list xs) = true :=
  ⟨_, C01_roundtrip_list xs hw, C01_roundtrip_list xs hw, C01_equals _ hw⟩

theorem C01_twice_object (kvs : List (Str × JVal)) (hw : (JVal.obj kvs).WF) :
    ∃ w, parseObjectBytes (encode (ser (.obj kvs))) = .ok w ∧
      parseObjectBytes (encode (ser w)) = .ok w ∧ equalsJ w (.obj kvs) = true :=
  ⟨_, C01_roundtrip_object kvs hw, C01_roundtrip_object kvs hw, C01_equals _ hw⟩

example : (JVal.list sampleList).WF ∧ (JVal.obj sampleFields).WF := ⟨sampleList_WF, sampleFields_WF⟩

end Anytype

#print axioms Anytype.C01_roundtrip_list
#print axioms Anytype.C01_roundtrip_object
#print axioms Anytype.C01_consumes_all_list
#print axioms Anytype.C01_consumes_all_object
#print axioms Anytype.C01_consumes_all
#print axioms Anytype.C01_equals
#print axioms Anytype.C01_equals_roundtrip_list
#print axioms Anytype.C01_equals_roundtrip_object
#print axioms Anytype.C01_kinds_list
#print axioms Anytype.C01_kinds_object
#print axioms Anytype.C01_twice_list
#print axioms Anytype.C01_twice_object
