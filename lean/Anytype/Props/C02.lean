/-
C02: `String()` is one syntactically valid RFC 8259 JSON text, and an independent strict decoder
recovers exactly the container's content from it.

No assumption about floating point: `FmtContract` (the serialiser's shortest formatting is read back as
the identical float64) is the theorem `fmtContract_holds` (`Lemmas/FmtContractHolds.lean`: seventeen digits
always suffice; the 'e' and 'f' layouts preserve the value).
-/
import Anytype.Lemmas.StrictRoundTrip
import Anytype.Lemmas.ContractOne
import Anytype.Lemmas.FmtContractHolds
namespace Anytype

/-- the strict decoder reads the serialisation of every well-formed value tree back exactly
(same nesting, order, lengths, keys, strings, booleans, nulls; ints as the same int, floats as the
identical float64) and consumes the whole text -/
theorem C02_decode (v : JVal) (hw : v.WF) :
    Strict.decode (ser v) = .ok v [] :=
  Strict.decode_ser fmtContract_holds v hw

theorem C02_valid_and_faithful (v : JVal) (hw : v.WF) (_hc : v.isContainer = true) :
    Strict.decodeStrict (ser v) = some v := by
  unfold Strict.decodeStrict
  rw [C02_decode v hw]

theorem C02_valid (v : JVal) (hw : v.WF) (_hc : v.isContainer = true) :
    Strict.isStrictJSON (ser v) = true := by
  unfold Strict.isStrictJSON
  rw [C02_decode v hw]

/-! ### non-vacuity: concrete nested values in the domain (defined in `Lemmas/TreeWF.lean`) -/

example : (JVal.obj sampleFields).WF ∧ (JVal.obj sampleFields).isContainer = true := ⟨sampleFields_WF, rfl⟩
example : (JVal.list sampleList).WF ∧ (JVal.list sampleList).isContainer = true := ⟨sampleList_WF, rfl⟩

end Anytype

#print axioms Anytype.C02_decode
#print axioms Anytype.C02_valid_and_faithful
#print axioms Anytype.C02_valid


/-! ### the float-formatting hypothesis is a single statement

`FmtContract` (the hypothesis of C01, C02, C04's cut-serial corollary and C16 about float formatting,
discharged by `fmtContract_holds`) is equivalent to its field `strict` alone: a strict RFC 8259 reader takes the text `serF x` of every
finite `x`, as a whole, for the identical float64. `parse_back` (Go's `ParseFloat` reads it back)
follows because the parser model and the strict reader agree on number literals (`C03_numbers`). -/

open Anytype in
theorem C02_contract_one_field :
    FmtContract ↔
      ∀ x : F64, x.isFinite = true → Strict.number (serF x) = some (some (.float x), []) :=
  FmtContract.iff_strict

open Anytype in
/-- that single statement is a theorem: the serialiser's text of every finite float64 is, for a strict RFC 8259
reader, a number denoting the identical float64 (seventeen significant digits always suffice; the 'e' and 'f'
layouts and the appended ".0" preserve the value and keep the text a float) -/
theorem C02_number_text_faithful (x : F64) (hf : x.isFinite = true) :
    Strict.number (serF x) = some (some (.float x), []) ∧ F64.parseFloat (serF x) = some x :=
  ⟨serF_strict x hf, serF_parse_back x hf⟩

open Anytype in
example : (⟨0x3ff199999999999a⟩ : F64).isFinite = true := by decide   -- 1.1: the hypothesis is satisfiable

open Anytype in
#print axioms C02_contract_one_field
open Anytype in
#print axioms C02_number_text_faithful
