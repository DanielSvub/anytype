/-
C05 — any finite program of List operations behaves like an ordered sequence that holds
scalars by value and Lists/Objects by reference; panics exactly outside the documented
domains; a panicking single-index operation leaves every list unchanged.

Conventions: `a` is the address of the receiver, `xs := h.items a` its elements,
`n := xs.length`. A *scalar* argument is one `parseVal` stores without allocating.
-/
import Anytype.Lemmas.HeapWF
import Anytype.Lemmas.Slices
namespace Anytype
open Heap

/-! Concrete heaps for the non-vacuity examples.
cell 0: `[3, 1, 2]`, cell 1: `["b", <list 0>, nil]`, cell 2: an empty object -/
def exH : Heap :=
  [.list [.int 3, .int 1, .int 2] 0, .list [.str ['b'], .list ⟨0, 0⟩, .nil] 0, .obj [] 0]

/-! ## 0. scalars are stored as they are -/

theorem C05_parseVal_scalar (h : Heap) (g : GoVal) (hs : g.isScalar = true) :
    parseVal h g = (h, .ok (scalarVal g)) := parseVal_scalar h hs

example : (GoVal.intw .i8 5).isScalar = true ∧ (GoVal.list ⟨0, 0⟩).isScalar = true := by decide

/-- what a list "shows" after its cell has been set: exactly the new elements; nothing else moved -/
theorem C05_setItems_view (h : Heap) (a : Nat) (ys : List Val) (hl : h.isList a = true) :
    (h.setItems a ys).items a = ys ∧ (h.setItems a ys).length = h.length ∧
    (h.setItems a ys).egoRef a = h.egoRef a ∧
    ∀ b, b ≠ a → (h.setItems a ys)[b]? = h[b]? :=
  ⟨items_setItems_same ys hl, length_setItems h a ys, egoRef_setItems h a a ys,
   fun _ hb => getElem?_setItems_ne h ys hb⟩

example : exH.isList 0 = true := by decide

/-! ## 1. the mutators and deriving operations equal their sequence specifications -/

theorem C05_insert_spec (h : Heap) (a : Nat) (i : Int) (g : GoVal) (hs : g.isScalar = true)
    (h0 : 0 ≤ i) (hn : i ≤ (h.items a).length) :
    L.insert h a i g =
      (h.setItems a ((h.items a).insertIdx i.toNat (scalarVal g)), .ok (h.egoRef a)) := by
  rw [L.insert_eq, if_pos ⟨h0, hn⟩, L.storeWith_of_ok (parseVal_scalar h hs), L.insertStep_eq _ _ _ h0 hn]

example : L.insert exH 0 1 (.str ['x']) =
    (exH.setItems 0 [.int 3, .str ['x'], .int 1, .int 2], .ok ⟨0, 0⟩) :=
  C05_insert_spec exH 0 1 (.str ['x']) (by decide) (by decide) (by decide)

/-- `Insert` with an arbitrary (also nested native) argument: convert first, then insert -/
theorem C05_insert_spec_any (h : Heap) (a : Nat) (i : Int) (g : GoVal) (h1 : Heap) (v : Val)
    (hl : h.isList a = true) (hp : parseVal h g = (h1, .ok v))
    (h0 : 0 ≤ i) (hn : i ≤ (h.items a).length) :
    L.insert h a i g = (h1.setItems a ((h.items a).insertIdx i.toNat v), .ok (h1.egoRef a)) := by
  rw [L.insert_eq, if_pos ⟨h0, hn⟩, L.storeWith_of_ok hp, items_after_parse hl hp, L.insertStep_eq _ _ _ h0 hn]

example : parseVal exH (.slice .any [.nil]) = (exH ++ [.list [.nil] 0], .ok (.list ⟨3, 0⟩)) := rfl

theorem C05_replace_spec (h : Heap) (a : Nat) (i : Int) (g : GoVal) (hs : g.isScalar = true)
    (h0 : 0 ≤ i) (hn : i < (h.items a).length) :
    L.replace h a i g = (h.setItems a ((h.items a).set i.toNat (scalarVal g)), .ok (h.egoRef a)) :=
  L.replace_scalar h a i g hs h0 hn

example := C05_replace_spec exH 0 2 (.bool true) (by decide) (by decide) (by decide)

theorem C05_replace_spec_any (h : Heap) (a : Nat) (i : Int) (g : GoVal) (h1 : Heap) (v : Val)
    (hl : h.isList a = true) (hp : parseVal h g = (h1, .ok v))
    (h0 : 0 ≤ i) (hn : i < (h.items a).length) :
    L.replace h a i g = (h1.setItems a ((h.items a).set i.toNat v), .ok (h1.egoRef a)) := by
  rw [L.replace_eq, if_pos ⟨h0, hn⟩, L.storeWith_of_ok hp, items_after_parse hl hp]

theorem C05_add_spec (h : Heap) (a : Nat) (gs : List GoVal) (hs : ∀ g ∈ gs, g.isScalar = true) :
    L.add h a gs = (h.setItems a (h.items a ++ gs.map scalarVal), .ok (h.egoRef a)) :=
  L.add_scalars h a gs hs

example := C05_add_spec exH 0 [.nil, .obj ⟨2, 0⟩] (by decide)

theorem C05_delete_single_spec (h : Heap) (a : Nat) (i : Int)
    (h0 : 0 ≤ i) (hn : i < (h.items a).length) :
    L.delete h a [i] = (h.setItems a ((h.items a).eraseIdx i.toNat), .ok (h.egoRef a)) :=
  L.delete_single h a i h0 hn

example := C05_delete_single_spec exH 0 1 (by decide) (by decide)

/-- `Delete(indexes...)` with distinct in-range indexes (in any order) leaves exactly the elements
whose position is not listed, in their original order -/
theorem C05_delete_multi (h : Heap) (a : Nat) (idx : List Int) (hnd : idx.Nodup)
    (h0 : ∀ d ∈ idx, 0 ≤ d) (hn : ∀ d ∈ idx, d < (h.items a).length) :
    L.delete h a idx = (h.setItems a (eraseAll (h.items a) idx), .ok (h.egoRef a)) :=
  L.delete_nodup h a idx hnd h0 hn

example := C05_delete_multi exH 0 [2, 0] (by decide) (by decide) (by decide)
example : eraseAll [.int 3, .int 1, .int 2] [2, 0] = [.int 1] := by decide

theorem C05_pop_spec (h : Heap) (a : Nat) (hn : 0 < (h.items a).length) :
    L.pop h a = (h.setItems a (h.items a).dropLast, .ok (h.egoRef a)) := by
  unfold L.pop L.count
  have h1 : (0 : Int) ≤ (h.items a).length - 1 := Int.sub_nonneg_of_le (Int.ofNat_lt.2 hn)
  rw [L.delete_single h a _ h1 (Int.sub_one_lt_of_le (Int.le_refl _)),
    show (((h.items a).length : Int) - 1).toNat = (h.items a).length - 1 from Int.toNat_sub _ 1,
    List.eraseIdx_length_sub_one]

example := C05_pop_spec exH 0 (by decide)

theorem C05_clear_spec (h : Heap) (a : Nat) : L.clear h a = (h.setItems a [], .ok (h.egoRef a)) := rfl

/-- the swap loop of `Reverse` computes the reversed sequence -/
theorem C05_reverseLoop (xs : List Val) : L.reverseLoop xs xs.length (xs.length / 2) = xs.reverse :=
  L.reverseLoop_eq_reverse xs

theorem C05_reverse_spec (h : Heap) (a : Nat) :
    L.reverse h a = (h.setItems a (h.items a).reverse, .ok (h.egoRef a)) :=
  L.reverse_eq h a

/-- `SubList(start, end)`: a fresh cell at address `h.length`; `end ≤ 0` counts from the length -/
theorem C05_subList_spec (h : Heap) (a : Nat) (s e : Int)
    (he : ¬ (e > (h.items a).length ∨ e < -((h.items a).length : Int)))
    (e' : Int) (he' : e' = if e ≤ 0 then ((h.items a).length : Int) + e else e)
    (hs : ¬ s > e') (h0 : ¬ s < 0) :
    L.subList h a s e =
      (h ++ [.list (((h.items a).drop s.toNat).take (e' - s).toNat) 0], .ok ⟨h.length, 0⟩) := by
  subst he'
  rw [L.subList_cases h a s e, if_neg he, if_neg hs, if_neg h0]

example : L.subList exH 0 1 (-1) = (exH ++ [.list [.int 1] 0], .ok ⟨3, 0⟩) :=
  C05_subList_spec exH 0 1 (-1) (by decide) 2 (by decide) (by decide) (by decide)

/-- `Concat`: a fresh cell holding `xs ++ ys`; receiver and argument cells are untouched; the argument may
be a derived list of any embedding level (no hypothesis on `h.ego r.addr`, since the repair F9) -/
theorem C05_concat_spec (h : Heap) (a : Nat) (r : Ref)
    (hl : h.isList r.addr = true) :
    L.concat h a r = (h ++ [.list (h.items a ++ h.items r.addr) 0], .ok ⟨h.length, 0⟩) ∧
    ∀ b, b < h.length → (h ++ [Cell.list (h.items a ++ h.items r.addr) 0])[b]? = h[b]? :=
  ⟨L.concat_ok h a r hl, fun _ hb => getElem?_append_old h _ hb⟩

example := C05_concat_spec exH 0 ⟨1, 0⟩ (by decide)

/-- `NewList(values...)` of scalars: a fresh cell holding the normalised values -/
theorem C05_new_spec (h : Heap) (gs : List GoVal) (hs : ∀ g ∈ gs, g.isScalar = true) :
    L.new h gs = (h ++ [.list (gs.map scalarVal) 0], .ok ⟨h.length, 0⟩) := by
  unfold L.new
  simp only [addEach_scalars _ _ gs hs, items_append_new, List.nil_append, setItems_append_new]

/-- `NewListOf(value, count)`: `count` copies of the one converted element (shared if a container) -/
theorem C05_newOf_spec (h : Heap) (g : GoVal) (c : Int) (hs : g.isScalar = true) (hc : 0 ≤ c) :
    L.newOf h g c = (h ++ [.list (List.replicate c.toNat (scalarVal g)) 0], .ok ⟨h.length, 0⟩) := by
  unfold L.newOf
  rw [if_neg (Int.not_lt.2 hc)]
  simp only [parseVal_scalar _ hs, setItems_append_new]

example := C05_newOf_spec exH (.list ⟨0, 0⟩) 2 (by decide) (by decide)

/-! ## 2. an operation panics exactly outside its documented domain, with the right panic -/

private theorem Out.isPanic_iff {α} {r : Out α} {P : Prop} (hp : P → ∃ k, r = .panic k) (hn : ¬ P → ∃ v, r = .ok v) :
    r.isPanic = true ↔ P := by
  by_cases hP : P
  · obtain ⟨k, rfl⟩ := hp hP; exact ⟨fun _ => hP, fun _ => rfl⟩
  · obtain ⟨v, rfl⟩ := hn hP; exact ⟨nofun, fun h => absurd h hP⟩

theorem C05_panic_iff_insert (h : Heap) (a : Nat) (i : Int) (g : GoVal) (hs : g.isScalar = true) :
    ((L.insert h a i g).2.isPanic = true ↔ ¬ (0 ≤ i ∧ i ≤ (h.items a).length)) ∧
    (¬ (0 ≤ i ∧ i ≤ (h.items a).length) → L.insert h a i g = (h, .panic .indexRange)) := by
  refine ⟨Out.isPanic_iff (fun hd => ⟨_, congrArg Prod.snd (L.insert_out h a i g hd)⟩) fun hd => ?_,
    L.insert_out h a i g⟩
  have hd := Decidable.of_not_not hd
  exact ⟨_, congrArg Prod.snd (C05_insert_spec h a i g hs hd.1 hd.2)⟩

theorem C05_panic_iff_replace (h : Heap) (a : Nat) (i : Int) (g : GoVal) (hs : g.isScalar = true) :
    ((L.replace h a i g).2.isPanic = true ↔ ¬ (0 ≤ i ∧ i < (h.items a).length)) ∧
    (¬ (0 ≤ i ∧ i < (h.items a).length) → L.replace h a i g = (h, .panic .indexRange)) := by
  refine ⟨Out.isPanic_iff (fun hd => ⟨_, congrArg Prod.snd (L.replace_out h a i g hd)⟩) fun hd => ?_,
    L.replace_out h a i g⟩
  have hd := Decidable.of_not_not hd
  exact ⟨_, congrArg Prod.snd (L.replace_scalar h a i g hs hd.1 hd.2)⟩

theorem C05_panic_iff_get (h : Heap) (a : Nat) (i : Int) :
    ((L.get h a i).isPanic = true ↔ ¬ (0 ≤ i ∧ i < (h.items a).length)) ∧
    (¬ (0 ≤ i ∧ i < (h.items a).length) → L.get h a i = .panic .indexRange) := by
  refine ⟨Out.isPanic_iff (fun hd => ⟨_, L.get_out h a i hd⟩) fun hd => ?_, L.get_out h a i⟩
  have hd := Decidable.of_not_not hd
  exact ⟨_, L.get_in h a i hd.1 (toNat_lt_of_lt hd.1 hd.2)⟩

theorem C05_panic_iff_delete (h : Heap) (a : Nat) (i : Int) :
    ((L.delete h a [i]).2.isPanic = true ↔ ¬ (0 ≤ i ∧ i < (h.items a).length)) ∧
    (¬ (0 ≤ i ∧ i < (h.items a).length) → L.delete h a [i] = (h, .panic .indexRange)) := by
  refine ⟨Out.isPanic_iff (fun hd => ⟨_, congrArg Prod.snd (L.delete_single_out h a i hd)⟩) fun hd => ?_,
    L.delete_single_out h a i⟩
  have hd := Decidable.of_not_not hd
  exact ⟨_, congrArg Prod.snd (L.delete_single h a i hd.1 hd.2)⟩

theorem C05_panic_iff_pop (h : Heap) (a : Nat) :
    ((L.pop h a).2.isPanic = true ↔ (h.items a).length = 0) ∧
    ((h.items a).length = 0 → L.pop h a = (h, .panic .indexRange)) := by
  have he (hd : (h.items a).length = 0) : L.pop h a = (h, .panic .indexRange) :=
    L.delete_single_out h a _ (by unfold L.count; omega)
  exact ⟨Out.isPanic_iff (fun hd => ⟨_, congrArg Prod.snd (he hd)⟩)
    fun hd => ⟨_, congrArg Prod.snd (C05_pop_spec h a (Nat.pos_of_ne_zero hd))⟩, he⟩

/-- a cascade of checks panics iff one of its tests holds or what follows them panics -/
private theorem isPanic_ite {α β} (c : Prop) [Decidable c] (x : α) (k : PanicKind) (r : α × Out β) :
    (if c then (x, Out.panic k) else r).2.isPanic = true ↔ c ∨ r.2.isPanic = true := by
  by_cases hc : c
  · rw [if_pos hc]; exact ⟨fun _ => .inl hc, fun _ => rfl⟩
  · rw [if_neg hc]; exact ⟨.inr, fun h => h.elim (absurd · hc) id⟩

/-- `SubList(start, end)` panics iff `end > n`, `end < -n`, `start > end'` or `start < 0`
(`end' = n + end` if `end ≤ 0`), checked in this order, each with its own panic -/
theorem C05_panic_iff_subList (h : Heap) (a : Nat) (s e : Int)
    (e' : Int) (he' : e' = if e ≤ 0 then ((h.items a).length : Int) + e else e) :
    ((L.subList h a s e).2.isPanic = true ↔
      (e > (h.items a).length ∨ e < -((h.items a).length : Int) ∨ s > e' ∨ s < 0)) ∧
    ((e > (h.items a).length ∨ e < -((h.items a).length : Int)) →
      L.subList h a s e = (h, .panic .subListEnd)) ∧
    (¬ (e > (h.items a).length ∨ e < -((h.items a).length : Int)) → s > e' →
      L.subList h a s e = (h, .panic .subListOrder)) ∧
    (¬ (e > (h.items a).length ∨ e < -((h.items a).length : Int)) → ¬ s > e' → s < 0 →
      L.subList h a s e = (h, .panic .subListStart)) := by
  subst he'
  have hc := L.subList_cases h a s e
  simp only at hc
  rw [hc]
  refine ⟨?_, fun h1 => if_pos h1, fun h1 h2 => by rw [if_neg h1, if_pos h2],
    fun h1 h2 h3 => by rw [if_neg h1, if_neg h2, if_pos h3]⟩
  rw [isPanic_ite, isPanic_ite, isPanic_ite]
  simp only [Out.isPanic, Bool.false_eq_true, or_false, or_assoc]

example : L.subList exH 0 0 4 = (exH, .panic .subListEnd) :=
  (C05_panic_iff_subList exH 0 0 4 4 (by decide)).2.1 (by decide)
example : L.subList exH 0 3 (-1) = (exH, .panic .subListOrder) :=
  (C05_panic_iff_subList exH 0 3 (-1) 2 (by decide)).2.2.1 (by decide) (by decide)
example : L.subList exH 0 (-1) 2 = (exH, .panic .subListStart) :=
  (C05_panic_iff_subList exH 0 (-1) 2 2 (by decide)).2.2.2 (by decide) (by decide) (by decide)

/-! ## 3. a panicking single-index operation leaves every existing cell unchanged
(for ANY argument, also unsupported or nested native values: `Insert` converts before it shifts) -/

theorem C05_panic_frame_insert (h : Heap) (a : Nat) (i : Int) (g : GoVal) (k : PanicKind)
    (hp : (L.insert h a i g).2 = .panic k) :
    h.length ≤ (L.insert h a i g).1.length ∧ ∀ b, b < h.length → (L.insert h a i g).1[b]? = h[b]? := by
  rw [L.insert_eq] at hp ⊢
  exact have e := L.storeWith_panic_ext0 _ h a g _ _ hp; ⟨e.len, e.same⟩

example : (L.insert exH 0 1 (.slice .any [.nil, .unsupported])).2 = .panic .unsupported := rfl

theorem C05_panic_frame_replace (h : Heap) (a : Nat) (i : Int) (g : GoVal) (k : PanicKind)
    (hp : (L.replace h a i g).2 = .panic k) :
    h.length ≤ (L.replace h a i g).1.length ∧ ∀ b, b < h.length → (L.replace h a i g).1[b]? = h[b]? := by
  rw [L.replace_eq] at hp ⊢
  exact have e := L.storeWith_panic_ext0 _ h a g _ _ hp; ⟨e.len, e.same⟩

theorem C05_panic_frame_delete (h : Heap) (a : Nat) (i : Int) (k : PanicKind)
    (hp : (L.delete h a [i]).2 = .panic k) : (L.delete h a [i]).1 = h := by
  by_cases hd : 0 ≤ i ∧ i < (h.items a).length
  · rw [L.delete_single h a i hd.1 hd.2] at hp; cases hp
  · rw [L.delete_single_out h a i hd]

theorem C05_panic_frame_pop (h : Heap) (a : Nat) (k : PanicKind)
    (hp : (L.pop h a).2 = .panic k) : (L.pop h a).1 = h :=
  C05_panic_frame_delete h a _ k hp

example : (L.pop exH 2).2 = .panic .indexRange := by
  rw [(C05_panic_iff_pop exH 2).2 (by decide)]

/- `Get` (like every observer) has type `Heap → Nat → Int → Out Val`: it returns no heap, so a
panicking `Get` cannot change any list; its panic condition is `C05_panic_iff_get`. -/

/-! ## 4. frames: a mutator touches only its receiver's cell; a deriving operation none -/

/-! `FrameAt h h' a`: no cell lost, old cells other than `a` identical, kinds and egos kept;
`Frame0 h h'`: no cell lost, every old cell identical (definitions in `Lemmas/ListOps.lean`). -/

/-- every mutator, with any arguments (also when it panics): only cell `a` may change -/
theorem C05_frame (h : Heap) (a : Nat) (gs : List GoVal) (g : GoVal) (i : Int) (idx : List Int) :
    FrameAt h (L.add h a gs).1 a ∧ FrameAt h (L.insert h a i g).1 a ∧
    FrameAt h (L.replace h a i g).1 a ∧ FrameAt h (L.delete h a idx).1 a ∧
    FrameAt h (L.pop h a).1 a ∧ FrameAt h (L.clear h a).1 a ∧
    FrameAt h (L.reverse h a).1 a ∧ FrameAt h (L.sort h a).1 a :=
  ⟨.of_ext (L.add_ext h a gs), .of_ext (L.insert_ext h a i g), .of_ext (L.replace_ext h a i g),
   .of_ext (L.delete_ext h a idx), .of_ext (L.pop_ext h a), .of_ext (L.clear_ext h a),
   .of_ext (L.reverse_ext h a), .of_ext (L.sort_ext h a)⟩

/-- the conversion of an argument and the `Add` loop themselves -/
theorem C05_frame_parseVal (h : Heap) (a : Nat) (g : GoVal) (gs : List GoVal)
    (kvs : List (Str × GoVal)) :
    Frame0 h (parseVal h g).1 ∧ FrameAt h (addEach h a gs).1 a ∧ FrameAt h (setEach h a kvs).1 a :=
  ⟨.of_ext0 (parseVal_ext0 h g), .of_ext (addEach_ext h a gs), .of_ext (setEach_ext h a kvs)⟩

/-- the deriving operations leave every old cell unchanged and return the new address `h.length` -/
theorem C05_frame_deriving (h : Heap) (a : Nat) (s e : Int) (r : Ref) (gs : List GoVal) (g : GoVal)
    (c : Int) :
    (Frame0 h (L.subList h a s e).1 ∧ ∀ q, (L.subList h a s e).2 = .ok q → q = ⟨h.length, 0⟩) ∧
    (Frame0 h (L.concat h a r).1 ∧ ∀ q, (L.concat h a r).2 = .ok q → q = ⟨h.length, 0⟩) ∧
    (Frame0 h (L.new h gs).1 ∧ ∀ q, (L.new h gs).2 = .ok q →
      q = ⟨h.length, 0⟩ ∧ (L.new h gs).1.isList h.length = true) ∧
    (Frame0 h (L.newOf h g c).1 ∧ ∀ q, (L.newOf h g c).2 = .ok q → q = ⟨h.length, 0⟩) ∧
    (Frame0 h (L.newFrom h g).1 ∧ ∀ q, (L.newFrom h g).2 = .ok q → q = ⟨h.length, 0⟩) :=
  ⟨⟨.of_ext0 (L.subList_derives h a s e).ext0, fun _ => (L.subList_derives h a s e).ref⟩,
    ⟨.of_ext0 (L.concat_derives h a r).ext0, fun _ => (L.concat_derives h a r).ref⟩,
    ⟨.of_ext0 (L.new_ext0 h gs), fun _ => L.new_ok h gs⟩,
    ⟨.of_ext0 (L.newOf_ext0 h g c), fun _ => L.newOf_ok h g c⟩,
    ⟨.of_ext0 (L.newFrom_ext0 h g), fun _ => L.newFrom_ok h g⟩⟩

/-! ## 5. `Get` returns the identical nested container; changes through one alias are visible -/

theorem C05_get_identity (h : Heap) (a : Nat) (i : Int) (h0 : 0 ≤ i) (hn : i.toNat < (h.items a).length) :
    L.get h a i = .ok (h.getVal ((h.items a)[i.toNat])) ∧
    (∀ r, (h.items a)[i.toNat] = .list r → L.get h a i = .ok (.list ⟨r.addr, h.ego r.addr⟩)) ∧
    (∀ r, (h.items a)[i.toNat] = .obj r → L.get h a i = .ok (.obj ⟨r.addr, h.ego r.addr⟩)) := by
  have := L.get_in h a i h0 hn
  refine ⟨this, fun r hr => ?_, fun r hr => ?_⟩ <;> rw [this, hr] <;> rfl

example : L.get exH 1 1 = .ok (.list ⟨0, 0⟩) :=
  (C05_get_identity exH 1 1 (by decide) (by decide)).2.1 ⟨0, 0⟩ (by decide)

/-- after ANY change `h ↦ h'` that only touches another cell `b ≠ a` (e.g. a mutator applied to
an alias of the nested container), `Get(i)` on `a` still returns the stored value, a container
as the reference to the same address; what that address holds is whatever the change put there -/
theorem C05_get_alias (h h' : Heap) (a b : Nat) (i : Int)
    (hl : h.isList a = true) (hf : FrameAt h h' b) (hne : a ≠ b)
    (h0 : 0 ≤ i) (hn : i.toNat < (h.items a).length) :
    L.get h' a i = .ok (h'.getVal ((h.items a)[i.toNat])) ∧
    (∀ r, (h.items a)[i.toNat] = .list r → L.get h' a i = .ok (.list ⟨r.addr, h'.ego r.addr⟩)) ∧
    (∀ r, (h.items a)[i.toNat] = .obj r → L.get h' a i = .ok (.obj ⟨r.addr, h'.ego r.addr⟩)) := by
  obtain ⟨_, hother, _⟩ := hf
  have hi : h'.items a = h.items a := items_congr (hother a (isList_lt hl) hne)
  have hn' : i.toNat < (h'.items a).length := by rw [hi]; exact hn
  have := (C05_get_identity h' a i h0 hn').1
  simp only [hi] at this
  refine ⟨this, fun r hr => ?_, fun r hr => ?_⟩ <;> rw [this, hr] <;> rfl

/-- concretely: elements added to the nested list through the alias `r` show up behind the
reference that `Get` keeps returning from the outer list -/
theorem C05_get_alias_add (h : Heap) (a : Nat) (i : Int) (r : Ref) (gs : List GoVal)
    (hl : h.isList a = true) (hlr : h.isList r.addr = true) (hne : a ≠ r.addr)
    (hs : ∀ g ∈ gs, g.isScalar = true)
    (h0 : 0 ≤ i) (hn : i.toNat < (h.items a).length) (hr : (h.items a)[i.toNat] = .list r) :
    L.get (L.add h r.addr gs).1 a i = .ok (.list ⟨r.addr, h.ego r.addr⟩) ∧
    (L.add h r.addr gs).1.items r.addr = h.items r.addr ++ gs.map scalarVal ∧
    (L.add h r.addr gs).1.items a = h.items a := by
  have e := L.add_ext h r.addr gs
  refine ⟨?_, ?_, e.items (isList_lt hl) hne⟩
  · rw [(C05_get_alias h _ a r.addr i hl (.of_ext e) hne h0 hn).2.1 r hr, e.ego (isList_lt hlr)]
  · rw [L.add_scalars h r.addr gs hs]
    exact items_setItems_same _ hlr

example := C05_get_alias_add exH 1 1 ⟨0, 0⟩ [.nil] (by decide) (by decide) (by decide) (by decide)
  (by decide) (by decide) (by decide)

/-! ## 6. observers -/

theorem C05_observers (h : Heap) (a : Nat) :
    L.count h a = ((h.items a).length : Int) ∧
    (L.empty h a = true ↔ h.items a = []) ∧
    L.slice h a = (h.items a).map h.getVal ∧
    (∀ i : Int, ∀ _ : 0 ≤ i, ∀ hn : i.toNat < (h.items a).length,
      L.typeOf h a i = ((h.items a)[i.toNat]).kind) ∧
    (∀ i : Int, ¬ (0 ≤ i ∧ i < (h.items a).length) → L.typeOf h a i = .undefined) ∧
    (∀ e, L.contains h a e = true ↔ ∃ x ∈ h.items a, L.goEq (h.getVal x) e = true) :=
  ⟨rfl, L.empty_iff h a, rfl, fun i h0 hn => L.typeOf_in h a i h0 hn, fun i ho => L.typeOf_out h a i ho,
   fun e => L.contains_iff h a e⟩

/-- the typed getters: `Get` followed by a kind check -/
theorem C05_getK (h : Heap) (a : Nat) (k : Kind) (i : Int) (h0 : 0 ≤ i) (hn : i.toNat < (h.items a).length) :
    L.getK h a k i =
      if ((h.items a)[i.toNat]).kind = k then .ok (h.getVal ((h.items a)[i.toNat]))
      else .panic .notKind := by
  unfold L.getK
  rw [L.get_in h a i h0 hn]
  simp only [getVal_kind, beq_iff_eq]

theorem C05_getK_out (h : Heap) (a : Nat) (k : Kind) (i : Int)
    (ho : ¬ (0 ≤ i ∧ i < (h.items a).length)) : L.getK h a k i = .panic .indexRange := by
  unfold L.getK
  rw [L.get_out h a i ho]

/-- `IndexOf` is the position of the FIRST element equal (Go `==`) to `e`, or `-1` -/
theorem C05_indexOf (h : Heap) (a : Nat) (e : Val) :
    (L.indexOf h a e = -1 ↔ ∀ x ∈ h.items a, L.goEq (h.getVal x) e = false) ∧
    (∀ j : Nat, L.indexOf h a e = (j : Int) ↔
      ∃ hj : j < (h.items a).length, L.goEq (h.getVal (h.items a)[j]) e = true ∧
        ∀ j' (hj' : j' < j), ¬ L.goEq (h.getVal ((h.items a)[j']'(Nat.lt_trans hj' hj))) e = true) ∧
    (L.indexOf h a e =
      match (h.items a).findIdx? (fun x => L.goEq (h.getVal x) e) with
      | some j => (j : Int)
      | none => -1) := by
  -- by `hq` both claims are core's characterisations of `findIdx?`; the arithmetic left over is
  -- `-1 ≠ (j : Int)` and `(j : Int) = (j' : Int) ↔ j = j'`
  have hq := L.indexOf_eq h a e
  refine ⟨?_, ?_, hq⟩
  · rw [hq, ← List.findIdx?_eq_none_iff]
    cases List.findIdx? (fun x => L.goEq (h.getVal x) e) (h.items a) with
    | none => simp
    | some j => simp <;> omega
  · intro j
    rw [hq, ← List.findIdx?_eq_some_iff_getElem (p := fun x => L.goEq (h.getVal x) e)]
    cases List.findIdx? (fun x => L.goEq (h.getVal x) e) (h.items a) with
    | none => simp <;> omega
    | some j' => simp <;> omega

example : L.indexOf exH 0 (.int 1) = 1 := by decide
example : L.contains exH 1 (.list ⟨0, 0⟩) = true := by decide

/-! ## 7. programs: well-formedness of the heap is an invariant -/

/-- any single operation keeps the heap well-formed, provided the references among its
arguments are valid -/
theorem C05_step_wf (h : Heap) (op : LOp) (wf : HeapWF h) (hop : op.okIn h) : HeapWF (stepL h op) :=
  stepL_wf h op wf hop

/-- after every prefix of any finite program of the thirteen `LOp` operations (constructors, mutators,
`SubList`, `Concat`) the heap is well-formed: no list ever holds a dangling or ill-kinded reference;
and no list cell ever disappears or changes its kind or ego -/
theorem C05_program (h : Heap) (ops : List LOp) (wf : HeapWF h) (hp : ProgOk h ops) (k : Nat) :
    HeapWF (runL h (ops.take k)) ∧ h.length ≤ (runL h (ops.take k)).length ∧
    ∀ b, h.isList b = true → (runL h (ops.take k)).isList b = true ∧
      (runL h (ops.take k)).ego b = h.ego b := by
  have m := runL_mono h (ops.take k)
  refine ⟨runL_wf h _ wf (ProgOk_take hp k), m.len, fun b hb => ⟨m.isList hb, ?_⟩⟩
  exact ego_of_shape (m.shape b (isList_lt hb))

/-- cell by cell, as the heap was allocated -/
theorem exH_wf : HeapWF exH :=
  have wf1 := HeapWF.nil.append_list [.int 3, .int 1, .int 2] 0
    (List.forall_mem_cons.2 ⟨trivial, List.forall_mem_cons.2 ⟨trivial, List.forall_mem_cons.2 ⟨trivial, List.forall_mem_nil _⟩⟩⟩)
  have wf2 := wf1.append_list [.str ['b'], .list ⟨0, 0⟩, .nil] 0
    (List.forall_mem_cons.2 ⟨trivial, List.forall_mem_cons.2 ⟨rfl, List.forall_mem_cons.2 ⟨trivial, List.forall_mem_nil _⟩⟩⟩)
  wf2.append_obj [] 0 (List.forall_mem_nil _)

example : HeapWF (runL exH ([.add 0 [.nil], .pop 2, .sort 0].take 3)) :=
  (C05_program exH _ exH_wf (by exact ⟨⟨trivial, trivial⟩, trivial, trivial, trivial⟩) 3).1

example : ProgOk exH [.add 0 [.list ⟨1, 0⟩, .slice .any [.obj ⟨2, 0⟩]], .new [.list ⟨0, 0⟩],
    .insert 3 0 (.list ⟨3, 0⟩), .pop 2, .sort 0, .reverse 1, .concat 1 ⟨0, 0⟩] :=
  -- one component per reference among the arguments, checked in the heap the operation runs in
  ⟨⟨rfl, ⟨rfl, trivial⟩, trivial⟩, ⟨rfl, trivial⟩, rfl, trivial, trivial, trivial, trivial, trivial⟩

/-! ## Storage level: arrays, capacities, `append`

Everything above reads `ego.val []field` as a plain list.  `Model/Slices` executes the same list
operations on backing arrays with capacities (append in place or into a new array, `copy`, `make`),
and the theorems below show that the plain-list reading is what the arrays do: for every growth
policy of `append`, every spare capacity, every program — provided no two lists share an array, which
is itself an invariant of all operations (and was not, for the `Concat` of the pinned source: F5).
`astep` is written with the same core functions (`insertIdx`, `eraseIdx`, `set`, `dropLast`, `reverse`,
`++`, `take`/`drop`) the specifications `C05_*_spec` above are written with. -/

theorem C05_slice_refines {α : Type} (cfg : Slices.Cfg α) (sorted : List α → List α) (σ : Slices.SHeap α)
    (hw : σ.WF) (op : Slices.Op α) :
    (Slices.step cfg sorted σ op).1.WF ∧
    ((Slices.step cfg sorted σ op).1.abs, (Slices.step cfg sorted σ op).2) = Slices.astep sorted σ.abs op :=
  ⟨Slices.step_wf cfg sorted σ hw op, Slices.step_refines cfg sorted σ hw op⟩

theorem C05_slice_program {α : Type} (cfg : Slices.Cfg α) (sorted : List α → List α) (ops : List (Slices.Op α)) :
    (Slices.run cfg sorted Slices.SHeap.empty ops).1.WF ∧
    ((Slices.run cfg sorted Slices.SHeap.empty ops).1.abs, (Slices.run cfg sorted Slices.SHeap.empty ops).2)
      = Slices.arun sorted [] ops :=
  Slices.run_from_empty cfg sorted ops

theorem C05_slice_program_from {α : Type} (cfg : Slices.Cfg α) (sorted : List α → List α) (σ : Slices.SHeap α)
    (hw : σ.WF) (ops : List (Slices.Op α)) :
    (Slices.run cfg sorted σ ops).1.WF ∧
    ((Slices.run cfg sorted σ ops).1.abs, (Slices.run cfg sorted σ ops).2) = Slices.arun sorted σ.abs ops :=
  Slices.run_refines cfg sorted σ hw ops

/-- what a program leaves in the lists, and whether it panics, does not depend on Go's growth policy -/
theorem C05_slice_grow_irrelevant {α : Type} (cfg cfg' : Slices.Cfg α) (sorted : List α → List α)
    (ops : List (Slices.Op α)) :
    (Slices.run cfg sorted Slices.SHeap.empty ops).1.abs = (Slices.run cfg' sorted Slices.SHeap.empty ops).1.abs ∧
    (Slices.run cfg sorted Slices.SHeap.empty ops).2 = (Slices.run cfg' sorted Slices.SHeap.empty ops).2 :=
  Slices.grow_irrelevant cfg cfg' sorted ops

/-- frame at storage level: an operation changes at most the list it is called on -/
theorem C05_slice_frame {α : Type} (cfg : Slices.Cfg α) (sorted : List α → List α) (σ : Slices.SHeap α)
    (hw : σ.WF) (op : Slices.Op α) (d : Nat) (hd : d < σ.cells.length) (hne : op.tgt ≠ some d) :
    (Slices.step cfg sorted σ op).1.abs[d]? = σ.abs[d]? :=
  Slices.step_frame cfg sorted σ hw op d hd hne

/-- the hypothesis `WF` is met by a non-trivial heap (a list with spare capacity and a second list),
and the `Concat` of the pinned source destroys it there: the result shares the receiver's array and a
later `Add` on the receiver shows through it; the repaired `Concat` on the same heap does not -/
theorem C05_slice_concatOld_breaks :
    Slices.σF5.WF ∧ Slices.σF5.abs = [[1, 2, 3], [9]] ∧
    ¬ (Slices.concatOld Slices.cfg2 Slices.σF5 0 1).1.WF ∧
    (Slices.concatOld Slices.cfg2 Slices.σF5 0 1).1.abs = [[1, 2, 3], [9], [1, 2, 3, 9]] ∧
    (Slices.step Slices.cfg2 id (Slices.concatOld Slices.cfg2 Slices.σF5 0 1).1 (.add 0 [7])).1.abs
      = [[1, 2, 3, 7], [9], [1, 2, 3, 7]] ∧
    (Slices.step Slices.cfg2 id (Slices.step Slices.cfg2 id Slices.σF5 (.concat 0 1)).1 (.add 0 [7])).1.abs
      = [[1, 2, 3, 7], [9], [1, 2, 3, 9]] :=
  Slices.concatOld_breaks

/-- `astep`'s sublist is the sublist of `C05_subList_spec` -/
theorem C05_slice_subList_bridge {α : Type} (xs : List α) (s e : Nat) :
    (xs.take e).drop s = (xs.drop s).take (e - s) := by
  rw [List.drop_take]


/-! ### the two levels meet

What an operation of the heap model (`L.*`, the definitions every theorem above is about and the translated Go methods are
proved equal to) leaves in its receiver is what the array-level operation leaves in the corresponding list — for every
capacity, every growth policy. -/

private theorem step_abs {α} (cfg : Slices.Cfg α) (sorted : List α → List α) (σ : Slices.SHeap α) (hw : σ.WF)
    (op : Slices.Op α) : (Slices.step cfg sorted σ op).1.abs = (Slices.astep sorted σ.abs op).1 := by
  rw [← Slices.step_refines cfg sorted σ hw op]

/-- a mutator: the heap model stores `ys` in its receiver, the array level stores `ys` in list `c` -/
private theorem bridge_set {cfg : Slices.Cfg Val} {sorted : List Val → List Val} {σ : Slices.SHeap Val} (hw : σ.WF)
    {op : Slices.Op Val} {c : Nat} {h : Heap} {a : Nat} {xs ys : List Val} {r : Heap × Out Ref} {o : Out Ref}
    (hl : h.isList a = true) (hr : r = (h.setItems a ys, o)) (hc : σ.abs[c]? = some xs)
    (hs : (Slices.astep sorted σ.abs op).1 = σ.abs.set c ys) :
    (Slices.step cfg sorted σ op).1.abs[c]? = some (r.1.items a) := by
  rw [step_abs cfg sorted σ hw, hs, hr, items_setItems_same _ hl,
    List.getElem?_set_self (List.getElem?_eq_some_iff.1 hc).1]

/-- a deriving operation: both levels allocate a new list holding `ys` -/
private theorem bridge_new {cfg : Slices.Cfg Val} {sorted : List Val → List Val} {σ : Slices.SHeap Val} (hw : σ.WF)
    {op : Slices.Op Val} {h : Heap} {ys : List Val} {r : Heap × Out Ref} {o : Out Ref}
    (hr : r = (h ++ [.list ys 0], o)) (hs : (Slices.astep sorted σ.abs op).1 = σ.abs ++ [ys]) :
    (Slices.step cfg sorted σ op).1.abs[σ.cells.length]? = some (r.1.items h.length) := by
  rw [step_abs cfg sorted σ hw, hs, hr, items_append_new, show σ.cells.length = σ.abs.length by simp [Slices.SHeap.abs],
    List.getElem?_concat_length]

/-- the two levels meet: what `L.insert` leaves in the receiver of the heap model is what the array-level `Insert`
leaves in the corresponding list, whatever its capacity and the growth policy -/
theorem C05_slice_bridge_insert (h : Heap) (a : Nat) (i : Int) (g : GoVal) (hs : g.isScalar = true)
    (hl : h.isList a = true) (h0 : 0 ≤ i) (hn : i ≤ (h.items a).length)
    (cfg : Slices.Cfg Val) (sorted : List Val → List Val) (σ : Slices.SHeap Val) (hw : σ.WF) (c : Nat)
    (hc : σ.abs[c]? = some (h.items a)) :
    (Slices.step cfg sorted σ (.insert c i.toNat (scalarVal g))).1.abs[c]? = some ((L.insert h a i g).1.items a) :=
  bridge_set hw hl (C05_insert_spec h a i g hs h0 hn) hc (by
    have hle : ¬ i.toNat > (h.items a).length := Nat.not_lt.2 (Int.toNat_le.2 hn)
    simp only [Slices.astep, hc, hle, if_false])

theorem C05_slice_bridge_replace (h : Heap) (a : Nat) (i : Int) (g : GoVal) (hs : g.isScalar = true)
    (hl : h.isList a = true) (h0 : 0 ≤ i) (hn : i < (h.items a).length)
    (cfg : Slices.Cfg Val) (sorted : List Val → List Val) (σ : Slices.SHeap Val) (hw : σ.WF) (c : Nat)
    (hc : σ.abs[c]? = some (h.items a)) :
    (Slices.step cfg sorted σ (.replace c i.toNat (scalarVal g))).1.abs[c]? = some ((L.replace h a i g).1.items a) :=
  bridge_set hw hl (C05_replace_spec h a i g hs h0 hn) hc (by
    have hlt : i.toNat < (h.items a).length := toNat_lt_of_lt h0 hn
    simp only [Slices.astep, hc, hlt, if_true])

theorem C05_slice_bridge_add (h : Heap) (a : Nat) (gs : List GoVal) (hs : ∀ g ∈ gs, g.isScalar = true)
    (hl : h.isList a = true)
    (cfg : Slices.Cfg Val) (sorted : List Val → List Val) (σ : Slices.SHeap Val) (hw : σ.WF) (c : Nat)
    (hc : σ.abs[c]? = some (h.items a)) :
    (Slices.step cfg sorted σ (.add c (gs.map scalarVal))).1.abs[c]? = some ((L.add h a gs).1.items a) :=
  bridge_set hw hl (C05_add_spec h a gs hs) hc (by simp only [Slices.astep, hc])

theorem C05_slice_bridge_pop (h : Heap) (a : Nat) (hl : h.isList a = true) (hn : 0 < (h.items a).length)
    (cfg : Slices.Cfg Val) (sorted : List Val → List Val) (σ : Slices.SHeap Val) (hw : σ.WF) (c : Nat)
    (hc : σ.abs[c]? = some (h.items a)) :
    (Slices.step cfg sorted σ (.pop c)).1.abs[c]? = some ((L.pop h a).1.items a) :=
  bridge_set hw hl (C05_pop_spec h a hn) hc (by
    simp only [Slices.astep, hc, Nat.ne_of_gt hn, if_false])

theorem C05_slice_bridge_clear (h : Heap) (a : Nat) (hl : h.isList a = true)
    (cfg : Slices.Cfg Val) (sorted : List Val → List Val) (σ : Slices.SHeap Val) (hw : σ.WF) (c : Nat)
    (hc : σ.abs[c]? = some (h.items a)) :
    (Slices.step cfg sorted σ (.clear c)).1.abs[c]? = some ((L.clear h a).1.items a) :=
  bridge_set hw hl (C05_clear_spec h a) hc (by simp only [Slices.astep, hc])

theorem C05_slice_bridge_reverse (h : Heap) (a : Nat) (hl : h.isList a = true)
    (cfg : Slices.Cfg Val) (sorted : List Val → List Val) (σ : Slices.SHeap Val) (hw : σ.WF) (c : Nat)
    (hc : σ.abs[c]? = some (h.items a)) :
    (Slices.step cfg sorted σ (.reverse c)).1.abs[c]? = some ((L.reverse h a).1.items a) :=
  bridge_set hw hl (C05_reverse_spec h a) hc (by simp only [Slices.astep, hc])

theorem C05_slice_bridge_delete (h : Heap) (a : Nat) (i : Int) (hl : h.isList a = true)
    (h0 : 0 ≤ i) (hn : i < (h.items a).length)
    (cfg : Slices.Cfg Val) (sorted : List Val → List Val) (σ : Slices.SHeap Val) (hw : σ.WF) (c : Nat)
    (hc : σ.abs[c]? = some (h.items a)) :
    (Slices.step cfg sorted σ (.delete c [i.toNat])).1.abs[c]? = some ((L.delete h a [i]).1.items a) :=
  bridge_set hw hl (C05_delete_single_spec h a i h0 hn) hc (by
    have hlt : i.toNat < (h.items a).length := toNat_lt_of_lt h0 hn
    simp only [Slices.astep, List.mergeSort_singleton, List.reverse_singleton, Slices.adeleteLoop, hc, hlt, if_true])

/-- `Concat`: the new list of the heap model holds what the new list of the array-level model holds -/
theorem C05_slice_bridge_concat (h : Heap) (a : Nat) (r : Ref) (hlr : h.isList r.addr = true)
    (cfg : Slices.Cfg Val) (sorted : List Val → List Val) (σ : Slices.SHeap Val) (hw : σ.WF) (c d : Nat)
    (hc : σ.abs[c]? = some (h.items a)) (hd : σ.abs[d]? = some (h.items r.addr)) :
    (Slices.step cfg sorted σ (.concat c d)).1.abs[σ.cells.length]? = some ((L.concat h a r).1.items h.length) :=
  bridge_new hw (C05_concat_spec h a r hlr).1 (by simp only [Slices.astep, hc, hd])

/-- `SubList(s, e)` with a positive end inside the list: the new list of the heap model holds what the new list of the
array-level model holds -/
theorem C05_slice_bridge_subList (h : Heap) (a : Nat) (s e : Int)
    (h0 : 0 ≤ s) (hse : s ≤ e) (hpos : 0 < e) (hen : e ≤ (h.items a).length)
    (cfg : Slices.Cfg Val) (sorted : List Val → List Val) (σ : Slices.SHeap Val) (hw : σ.WF) (c : Nat)
    (hc : σ.abs[c]? = some (h.items a)) :
    (Slices.step cfg sorted σ (.subList c s.toNat e.toNat)).1.abs[σ.cells.length]?
      = some ((L.subList h a s e).1.items h.length) := by
  obtain ⟨m, rfl⟩ := Int.eq_ofNat_of_zero_le h0
  obtain ⟨n, rfl⟩ := Int.eq_ofNat_of_zero_le (Int.le_of_lt hpos)
  have hcond : m ≤ n ∧ n ≤ (h.items a).length := ⟨Int.ofNat_le.1 hse, Int.ofNat_le.1 hen⟩
  refine bridge_new hw (C05_subList_spec h a m n (by omega) n (if_neg (Int.not_le.2 hpos)).symm
    (Int.not_lt.2 hse) (Int.not_lt.2 h0)) ?_
  simp only [Slices.astep, hc, Int.toNat_natCast, hcond, and_self, if_true, Int.toNat_sub, List.drop_take]

/-- `NewList(values...)` of scalars -/
theorem C05_slice_bridge_new (h : Heap) (gs : List GoVal) (hs : ∀ g ∈ gs, g.isScalar = true)
    (cfg : Slices.Cfg Val) (sorted : List Val → List Val) (σ : Slices.SHeap Val) (hw : σ.WF) :
    (Slices.step cfg sorted σ (.newList (gs.map scalarVal))).1.abs[σ.cells.length]?
      = some ((L.new h gs).1.items h.length) :=
  bridge_new hw (C05_new_spec h gs hs) rfl

/-- `NewListOf(value, count)` of a scalar -/
theorem C05_slice_bridge_newOf (h : Heap) (g : GoVal) (n : Int) (hs : g.isScalar = true) (hn : 0 ≤ n)
    (cfg : Slices.Cfg Val) (sorted : List Val → List Val) (σ : Slices.SHeap Val) (hw : σ.WF) :
    (Slices.step cfg sorted σ (.newListOf (scalarVal g) n.toNat)).1.abs[σ.cells.length]?
      = some ((L.newOf h g n).1.items h.length) :=
  bridge_new hw (C05_newOf_spec h g n hs hn) rfl

/-- `Sort()` on a list of ints: with Go's `sort.Ints` read as the model reads it, the receiver of the heap model holds what the
array-level receiver holds (whose array is the one `NewListFrom` allocated for the sorted values) -/
theorem C05_slice_bridge_sort_ints (h : Heap) (a : Nat) (hl : h.isList a = true) (i0 : Int) (rest : List Val)
    (hx : h.items a = .int i0 :: rest)
    (cfg : Slices.Cfg Val) (σ : Slices.SHeap Val) (hw : σ.WF) (c : Nat)
    (hc : σ.abs[c]? = some (h.items a)) :
    (Slices.step cfg (fun xs => ((xs.filterMap L.asInt).mergeSort (fun x y => decide (x ≤ y))).map .int) σ (.sort c)).1.abs[c]?
      = some ((L.sort h a).1.items a) := by
  have hne : ¬ (h.items a).length = 0 := by rw [hx]; exact nofun
  exact bridge_set hw hl (L.sort_ints h a i0 rest hx) hc (by simp only [Slices.astep, hc, hne, if_false])

#print axioms C05_parseVal_scalar
#print axioms C05_setItems_view
#print axioms C05_insert_spec
#print axioms C05_insert_spec_any
#print axioms C05_replace_spec
#print axioms C05_replace_spec_any
#print axioms C05_add_spec
#print axioms C05_delete_single_spec
#print axioms C05_delete_multi
#print axioms C05_pop_spec
#print axioms C05_clear_spec
#print axioms C05_reverseLoop
#print axioms C05_reverse_spec
#print axioms C05_subList_spec
#print axioms C05_concat_spec
#print axioms C05_new_spec
#print axioms C05_newOf_spec
#print axioms C05_panic_iff_insert
#print axioms C05_panic_iff_replace
#print axioms C05_panic_iff_get
#print axioms C05_panic_iff_delete
#print axioms C05_panic_iff_pop
#print axioms C05_panic_iff_subList
#print axioms C05_panic_frame_insert
#print axioms C05_panic_frame_replace
#print axioms C05_panic_frame_delete
#print axioms C05_panic_frame_pop
#print axioms C05_frame
#print axioms C05_frame_parseVal
#print axioms C05_frame_deriving
#print axioms C05_get_identity
#print axioms C05_get_alias
#print axioms C05_get_alias_add
#print axioms C05_observers
#print axioms C05_getK
#print axioms C05_getK_out
#print axioms C05_indexOf
#print axioms C05_step_wf
#print axioms C05_program
#print axioms C05_slice_refines
#print axioms C05_slice_program
#print axioms C05_slice_program_from
#print axioms C05_slice_grow_irrelevant
#print axioms C05_slice_frame
#print axioms C05_slice_concatOld_breaks
#print axioms C05_slice_subList_bridge
#print axioms C05_slice_bridge_insert
#print axioms C05_slice_bridge_replace
#print axioms C05_slice_bridge_add
#print axioms C05_slice_bridge_pop
#print axioms C05_slice_bridge_clear
#print axioms C05_slice_bridge_reverse
#print axioms C05_slice_bridge_delete
#print axioms C05_slice_bridge_concat
#print axioms C05_slice_bridge_subList
#print axioms C05_slice_bridge_new
#print axioms C05_slice_bridge_newOf
#print axioms C05_slice_bridge_sort_ints

end Anytype
