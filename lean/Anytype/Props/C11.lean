/-
C11 — SetTF / UnsetTF.

"For every tree, well-formed path p (as in C10) and value v, SetTF(p, v) succeeds and afterwards
GetTF(p) yields v: missing or wrong-kind intermediates are replaced by new containers of the kind
the next segment requires, lists are padded with nil up to the requested index, existing
intermediates of the right kind are reused (not copied), and every entry that is not on the path or
inside a replaced intermediate keeps its previous value. UnsetTF(p) on a resolvable path removes
exactly the addressed object field or list element (later elements of that list shift down by one)
and changes nothing else; on a path that does not resolve the tree is left unchanged."

Vocabulary: as in C10 (`Seg`, `render`, `navigate`, `ValidPath`), plus
`setTF h v s g` / `unsetTF h v s` (the calls on a root value, fuel `len(s)+1`),
`trail h v p` — the addresses of the EXISTING cells SetTF is called on (it follows containers of
the right kind; after the first newly created container only new cells are visited),
`putAt xs i x` — write `x` at index `i`, padding with nil beyond the end,
`mkCell b` / `mkRef b n` — the empty object (`b = true`) or list cell and the reference to cell `n`.
"Tree" enters as `Acyclic h v` (some fuel reifies the value); the sharper hypothesis actually used
is `(trail h v p).Nodup`: no cell is visited twice. On a cyclic heap set-then-get can fail
(`C11_set_get_needs_tree`).
-/
import Anytype.Lemmas.TreeFormAcyclic
import Anytype.Lemmas.Slices
namespace Anytype
open TFP Heap

namespace C11
/-- cell 0: `{"a": <list 1>, "n": 7}`, cell 1: `[5, <object 2>]`, cell 2: `{"k": "v"}` -/
def exT : Heap :=
  [.obj [(['a'], .list ⟨1, 0⟩), (['n'], .int 7)] 0,
   .list [.int 5, .obj ⟨2, 0⟩] 0,
   .obj [(['k'], .str ['v'])] 0]
def root : Val := .obj ⟨0, 0⟩
/-- `.a#1.k` (all intermediates exist) -/
def exP : List Seg := [.key ['a'], .idx 1, .key ['k']]
/-- `.n#3.z`: a scalar in the way, then padding, then a new object -/
def exNew : List Seg := [.key ['n'], .idx 3, .key ['z']]

local instance (h : Heap) (v : Val) : Decidable (v.okIn h) := by cases v <;> unfold Val.okIn <;> infer_instance

/-- well-formedness looks only at the cells there are, so on a concrete heap it can be evaluated -/
theorem wf_of_cells {h : Heap}
    (hc : ∀ a < h.length, (∀ v ∈ h.items a, v.okIn h) ∧ (∀ kv ∈ h.fields a, kv.2.okIn h)) : HeapWF h := by
  intro a
  by_cases ha : a < h.length
  · exact hc a ha
  · simp [Heap.items, Heap.fields, List.getElem?_eq_none (Nat.le_of_not_lt ha)]

theorem exT_wf : HeapWF exT := wf_of_cells (by decide +kernel)

theorem exT_acyclic : Acyclic exT root :=
  ⟨4, by simp [reify, reifyList, reifyFields, exT, root]⟩

theorem root_ok : Val.okIn exT root := (by decide : exT.isObj 0 = true)

/-- a cyclic heap: cell 0 `[<object 1>]`, cell 1 `{"k": <list 0>}` -/
def cyc : Heap := [.list [.obj ⟨1, 0⟩] 0, .obj [(['k'], .list ⟨0, 0⟩)] 0]
theorem cyc_wf : HeapWF cyc := wf_of_cells (by decide +kernel)
end C11
open C11

/-! ## 0. fuel -/

theorem C11_fuel_set (g : GoVal) (h : Heap) (a : Nat) (tf : Str) (n : Nat) (hn : tf.length < n) :
    TF.setL n h a tf g = TF.setL (tf.length + 1) h a tf g ∧
    TF.setO n h a tf g = TF.setO (tf.length + 1) h a tf g :=
  ⟨setV_fuel g n _ (h, .list ⟨a, 0⟩) tf hn (Nat.lt_succ_self _),
    setV_fuel g n _ (h, .obj ⟨a, 0⟩) tf hn (Nat.lt_succ_self _)⟩

theorem C11_fuel_unset (h : Heap) (a : Nat) (tf : Str) (n : Nat) (hn : tf.length < n) :
    TF.unsetL n h a tf = TF.unsetL (tf.length + 1) h a tf ∧
    TF.unsetO n h a tf = TF.unsetO (tf.length + 1) h a tf :=
  ⟨unsetV_fuel h n _ (.list ⟨a, 0⟩) tf hn (Nat.lt_succ_self _),
    unsetV_fuel h n _ (.obj ⟨a, 0⟩) tf hn (Nat.lt_succ_self _)⟩

example : (['#', '0'] : Str).length < 5 := by decide +kernel

/-! ## 7. the shape of one descent step (the twelve cases: 2 wanted kinds × 6 — list: index beyond the
end, element of the wanted kind, element of another kind; object: key of the wanted kind, key missing,
key holding another kind; the last two are one theorem) -/

/-- list, index beyond the end: a new cell of the wanted kind at address `h.length`; the list is
padded with `i - count` nils, then comes the new reference -/
theorem C11_step_shape_list_pad (h : Heap) (a : Nat) (i : Int) (wantObj : Bool)
    (hl : h.isList a = true) (hi : ((h.items a).length : Int) ≤ i) :
    TF.stepL h a i wantObj =
      ((h ++ [mkCell wantObj]).setItems a
        (h.items a ++ List.replicate (i.toNat - (h.items a).length) .nil ++ [mkRef wantObj h.length]),
       .ok h.length) := by
  rw [stepL_eq h a i wantObj hl (by omega), List.getElem?_eq_none (by omega)]
  simp only [putAt, if_neg (show ¬ i.toNat < (h.items a).length by omega)]

example : exT.isList 1 = true ∧ ((exT.items 1).length : Int) ≤ 4 := by decide +kernel

theorem isList_of_item {h : Heap} {a j : Nat} {x : Val} (hx : (h.items a)[j]? = some x) : h.isList a = true := by
  cases hl : h.isList a with
  | true => rfl
  | false => rw [items_of_not_isList hl] at hx; cases hx

/-- list, element of the wanted kind: the heap is unchanged and the existing address is returned
(reused, not copied) -/
theorem C11_step_shape_list_reuse (h : Heap) (a : Nat) (i : Int) (wantObj : Bool) (x : Val) (h0 : 0 ≤ i)
    (hx : (h.items a)[i.toNat]? = some x) (hk : x.kind = wantKind wantObj) :
    TF.stepL h a i wantObj = (h, .ok (addrOf x)) := by
  rw [stepL_eq h a i wantObj (isList_of_item hx) h0, hx]
  exact if_pos hk

example : (0 : Int) ≤ 1 ∧ (exT.items 1)[(1 : Int).toNat]? = some (.obj ⟨2, 0⟩) ∧
    (Val.obj ⟨2, 0⟩).kind = wantKind true := by decide +kernel

/-- list, element of another kind (scalar, nil, the other container kind): a new cell at
`h.length`, element `i` replaced by the reference, all other elements unchanged -/
theorem C11_step_shape_list_replace (h : Heap) (a : Nat) (i : Int) (wantObj : Bool) (x : Val) (h0 : 0 ≤ i)
    (hx : (h.items a)[i.toNat]? = some x) (hk : x.kind ≠ wantKind wantObj) :
    TF.stepL h a i wantObj =
      ((h ++ [mkCell wantObj]).setItems a ((h.items a).set i.toNat (mkRef wantObj h.length)),
       .ok h.length) := by
  rw [stepL_eq h a i wantObj (isList_of_item hx) h0, hx]
  simp only [if_neg hk, putAt, if_pos (List.getElem?_eq_some_iff.1 hx).1]

example : (0 : Int) ≤ 0 ∧ (exT.items 1)[(0 : Int).toNat]? = some (.int 5) ∧
    (Val.int 5).kind ≠ wantKind true := by decide +kernel

/-- object, key of the wanted kind: reused -/
theorem C11_step_shape_obj_reuse (h : Heap) (a : Nat) (k : Str) (wantObj : Bool) (x : Val)
    (hx : lookup (h.fields a) k = some x) (hk : x.kind = wantKind wantObj) :
    TF.stepO h a k wantObj = (h, addrOf x) := by
  rw [stepO_eq, hx]
  exact if_pos hk

example : lookup (exT.fields 0) ['a'] = some (.list ⟨1, 0⟩) ∧ (Val.list ⟨1, 0⟩).kind = wantKind false := by
  decide

/-- object, key missing or holding another kind: a new cell at `h.length`, stored under the key -/
theorem C11_step_shape_obj_new (h : Heap) (a : Nat) (k : Str) (wantObj : Bool)
    (hx : ∀ x, lookup (h.fields a) k = some x → x.kind ≠ wantKind wantObj) :
    TF.stepO h a k wantObj =
      ((h ++ [mkCell wantObj]).setFields a (setKV (h.fields a) k (mkRef wantObj h.length)), h.length) := by
  rw [stepO_eq]
  cases hl : lookup (h.fields a) k with
  | none => rfl
  | some x => exact if_neg (hx x hl)

example : ∀ x, lookup (exT.fields 0) ['n'] = some x → x.kind ≠ wantKind false := by
  intro x hx; cases hx; decide
example : ∀ x, lookup (exT.fields 0) ['q'] = some x → x.kind ≠ wantKind true := by
  intro x hx; cases hx

/-- in all cases only cell `a` and the (at most one) new cell differ from `h`, and no cell
changes its kind -/
theorem C11_step_shape_frame_list (h : Heap) (a : Nat) (i : Int) (wantObj : Bool)
    (hl : h.isList a = true) (h0 : 0 ≤ i) :
    FrameAt h (TF.stepL h a i wantObj).1 a ∧ (TF.stepL h a i wantObj).1.length ≤ h.length + 1 := by
  have new : ∀ xs, FrameAt h ((h ++ [mkCell wantObj]).setItems a xs) a ∧
      ((h ++ [mkCell wantObj]).setItems a xs).length ≤ h.length + 1 :=
    fun xs => ⟨FrameAt.of_ext (((Ext0.append h _).toExt a).trans (Ext.setItems _ a _)), by simp⟩
  rw [stepL_eq h a i wantObj hl h0]
  cases (h.items a)[i.toNat]? with
  | none => exact new _
  | some x =>
    by_cases hk : x.kind = wantKind wantObj
    · simp only [if_pos hk]; exact ⟨FrameAt.of_ext (Ext.refl h a), by simp⟩
    · simp only [if_neg hk]; exact new _

theorem C11_step_shape_frame_obj (h : Heap) (a : Nat) (k : Str) (wantObj : Bool) :
    FrameAt h (TF.stepO h a k wantObj).1 a ∧ (TF.stepO h a k wantObj).1.length ≤ h.length + 1 := by
  have new : ∀ kvs, FrameAt h ((h ++ [mkCell wantObj]).setFields a kvs) a ∧
      ((h ++ [mkCell wantObj]).setFields a kvs).length ≤ h.length + 1 :=
    fun kvs => ⟨FrameAt.of_ext (((Ext0.append h _).toExt a).trans (Ext.setFields _ a _)), by simp⟩
  rw [stepO_eq]
  cases lookup (h.fields a) k with
  | none => exact new _
  | some x =>
    by_cases hk : x.kind = wantKind wantObj
    · simp only [if_pos hk]; exact ⟨FrameAt.of_ext (Ext.refl h a), by simp⟩
    · simp only [if_neg hk]; exact new _

example : exT.isList 1 = true ∧ (0 : Int) ≤ 5 := by decide +kernel

/-- how SetTF on a path uses these steps (`setV` is `TF.setL/setO` dispatched on the receiver value,
with explicit fuel): the last segment stores the value (`setLeaf`: `Add` after padding / `Replace` /
`Set`), every other segment makes one descent step asking for the kind the NEXT segment needs
(`stepV` is `TF.stepL` / `TF.stepO`) and continues in the container it returns -/
theorem C11_set_unfold (n : Nat) (h : Heap) (v : Val) (s : Seg) (q : List Seg) (g : GoVal) (hs : s.Valid) :
    setV (n + 1) h v (render (s :: q)) g =
      match q with
      | [] => setLeaf h v s g
      | s' :: _ =>
        match stepV h v s s'.isKey with
        | (h1, .panic p) => (h1, .panic p)
        | (h1, .ok c) => setV n h1 (mkRef s'.isKey c) (render q) g := by
  rw [setV_succ, walkV_render _ _ _ _ s q hs]
  simp only [setLeaf_eq, stepV_eq]
  cases slotOf v s <;> cases q <;> rfl

/-- the step in terms of Get: if `Get` yields a container of the wanted kind it is reused and the
heap is untouched; in every other case (missing key, index beyond the end, nil, scalar, the other
container kind) a new empty container is allocated at `h.length` and stored in the slot
(`leafHeap … = putAt` / `setKV` on the receiver cell) -/
theorem C11_set_step (h : Heap) (v : Val) (s : Seg) (wantObj : Bool) (wf : HeapWF h) (hok : v.okIn h)
    (hk : v.kind = s.kind) :
    (∃ w, navStep h v s = some w ∧ w.kind = wantKind wantObj ∧ w.okIn h ∧
        stepV h v s wantObj = (h, .ok (addrOf w))) ∨
    ((∀ w, navStep h v s = some w → w.kind ≠ wantKind wantObj) ∧
        stepV h v s wantObj =
          (leafHeap (h ++ [mkCell wantObj]) v s (mkRef wantObj h.length), .ok h.length)) :=
  stepV_cases wf ⟨hok, hk⟩ wantObj

example : Val.okIn exT root ∧ root.kind = (Seg.key ['n']).kind := ⟨root_ok, by decide +kernel⟩

/-- the last segment with a scalar value (or an existing container passed by reference) -/
theorem C11_set_leaf (h : Heap) (v : Val) (s : Seg) (g : GoVal) (hok : v.okIn h) (hk : v.kind = s.kind)
    (hg : g.isScalar = true) : setLeaf h v s g = (leafHeap h v s (scalarVal g), .ok ()) :=
  setLeaf_scalar ⟨hok, hk⟩ hg

/-! ## 8. set, then get -/

/-- SetTF succeeds and afterwards GetTF yields the stored value (for a scalar the equal scalar,
for a container reference the identical container) — provided no cell is visited twice -/
theorem C11_set_get (h : Heap) (v : Val) (p : List Seg) (g : GoVal) (hne : p ≠ []) (hv : ValidPath p)
    (wf : HeapWF h) (hok : v.okIn h) (hk : ∀ s ∈ p.head?, v.kind = s.kind)
    (hg : g.isScalar = true) (hnd : (trail h v p).Nodup) :
    (setTF h v (render p) g).2 = .ok () ∧
    getTF (setTF h v (render p) g).1 v (render p) =
      .ok ((setTF h v (render p) g).1.getVal (scalarVal g)) := by
  induction p generalizing h v with
  | nil => exact absurd rfl hne
  | cons s q ih =>
    have hr : Recv h v s := ⟨hok, hk s (by simp)⟩
    cases q with
    | nil =>
      rw [setTF_cons h v s [] g hv.head]
      simp only [setLeaf_scalar hr hg]
      exact ⟨trivial, getTF_cons_some _ v _ s [] hv.head (leafHeap_navStep (scalarVal g) hr)⟩
    | cons s' q' =>
      obtain ⟨h1, w, e, st⟩ := setTF_step wf hr hv.head s' q' g
      have hroot := setTF_step_root g st hv.tail hr.lt hnd
      obtain ⟨hok', hget⟩ := ih h1 w (by simp) hv.tail st.wf st.recv.1
        (by intro x hx; simp at hx; rw [← hx]; exact st.recv.2) (st.nodup hnd).2
      obtain ⟨w1, hw1, hc1⟩ := st.nav
      rw [e]
      obtain ⟨w', hw', hcw⟩ := navStep_congr hroot hw1
      have hwk' : w'.kind = s'.kind := by rw [← canon_kind, hcw, hc1, canon_kind]; exact st.recv.2
      refine ⟨hok', ?_⟩
      rw [getTF_cons_some _ v w' s _ hv.head hw']
      simp only [hwk', if_true]
      rw [← getTF_canon, hcw, hc1, getTF_canon]
      exact hget

example : exP ≠ [] ∧ ValidPath exP ∧ Val.okIn exT root ∧ (∀ s ∈ exP.head?, root.kind = s.kind) ∧
    (GoVal.str ['w']).isScalar = true ∧ (trail exT root exP).Nodup := by
  refine ⟨by decide +kernel, by decide +kernel, root_ok, by decide +kernel, by decide +kernel, by decide +kernel⟩

/-- the statement for trees (and DAGs): `Acyclic h v` -/
theorem C11_set_get_tree (h : Heap) (v : Val) (p : List Seg) (g : GoVal) (hne : p ≠ []) (hv : ValidPath p)
    (wf : HeapWF h) (hok : v.okIn h) (hk : ∀ s ∈ p.head?, v.kind = s.kind)
    (hg : g.isScalar = true) (hac : Acyclic h v) :
    (setTF h v (render p) g).2 = .ok () ∧
    getTF (setTF h v (render p) g).1 v (render p) =
      .ok ((setTF h v (render p) g).1.getVal (scalarVal g)) := by
  refine C11_set_get h v p g hne hv wf hok hk hg (trail_nodup_of_acyclic h p v ?_ hac)
  cases p with
  | nil => exact absurd rfl hne
  | cons s q => exact isContainer_of_kind (hk s (by simp))

example : getTF (setTF exT root (render exNew) (.str ['w'])).1 root (render exNew) = .ok (.str ['w']) :=
  (C11_set_get_tree exT root exNew (.str ['w']) (by decide +kernel) (by decide +kernel) exT_wf root_ok (by decide +kernel)
    (by decide +kernel) exT_acyclic).2

/-- the tree hypothesis is needed: on the cyclic heap `cyc` the path `#0.k#0` comes back to the
root list and overwrites the element the path goes through -/
theorem C11_set_get_needs_tree :
    HeapWF cyc ∧ (setTF cyc (.list ⟨0, 0⟩) ['#', '0', '.', 'k', '#', '0'] (.str ['x'])).2.isPanic = false ∧
    (getTF (setTF cyc (.list ⟨0, 0⟩) ['#', '0', '.', 'k', '#', '0'] (.str ['x'])).1 (.list ⟨0, 0⟩)
      ['#', '0', '.', 'k', '#', '0']).isPanic = true :=
  ⟨cyc_wf, by decide +kernel, by decide +kernel⟩

/-! ## 9. frame of SetTF -/

/-- no cell is lost, no cell changes its kind, and every existing cell that is not on the trail is
identical afterwards (any value `g`, also one that is converted into new containers) -/
theorem C11_set_frame (h : Heap) (v : Val) (p : List Seg) (g : GoVal) (hne : p ≠ []) (hv : ValidPath p)
    (wf : HeapWF h) (hok : v.okIn h) :
    h.length ≤ (setTF h v (render p) g).1.length ∧
    (∀ b, b < h.length → ((setTF h v (render p) g).1.isList b = h.isList b ∧
        (setTF h v (render p) g).1.isObj b = h.isObj b ∧ (setTF h v (render p) g).1.ego b = h.ego b)) ∧
    ∀ b, b < h.length → b ∉ trail h v p → (setTF h v (render p) g).1[b]? = h[b]? := by
  obtain ⟨m, fr⟩ := set_frame g p hne hv h v wf hok
  exact ⟨m.len, fun b hb => ⟨isList_of_shape (m.shape b hb), isObj_of_shape (m.shape b hb),
    ego_of_shape (m.shape b hb)⟩, fr⟩

example : exNew ≠ [] ∧ ValidPath exNew ∧ HeapWF exT ∧ Val.okIn exT root :=
  ⟨by decide +kernel, by decide +kernel, exT_wf, root_ok⟩
example : trail exT root exP = [0, 1, 2] ∧ trail exT root exNew = [0] := by decide +kernel

/-- inside every existing cell the path goes through (`p = pre ++ s :: post`, `pre` resolves to a
container `c` of the kind `s` applies to) only the slot `s` addresses changes: for a list every
other position that existed keeps its element, for an object every other key keeps its value -/
theorem C11_set_frame_slots (h : Heap) (v c : Val) (pre : List Seg) (s : Seg) (post : List Seg) (g : GoVal)
    (hv : ValidPath (pre ++ s :: post)) (wf : HeapWF h) (hok : v.okIn h) (hg : g.isScalar = true)
    (hn : navigate h v pre = some c) (hk : c.kind = s.kind)
    (hnd : (trail h v (pre ++ s :: post)).Nodup) :
    SlotsKept h (setTF h v (render (pre ++ s :: post)) g).1 c s := by
  induction pre generalizing v with
  | nil =>
    cases hn
    have hr : Recv h c s := ⟨hok, hk⟩
    cases post with
    | nil =>
      rw [List.nil_append, setTF_cons h c s [] g hv.head]
      simp only [setLeaf_scalar hr hg]
      exact leafHeap_slots _ hr
    | cons s' q' =>
      obtain ⟨h1, w, e, st⟩ := setTF_step wf hr hv.head s' q' g
      rw [List.nil_append, e]
      exact st.slots.congr rfl (setTF_step_root g st hv.tail hr.lt hnd)
  | cons s0 pre' ih =>
    obtain ⟨w, hw, hn'⟩ := navigate_cons_some hn
    simp only [List.cons_append] at hv hnd ⊢
    cases hq : pre' ++ s :: post with
    | nil => simp at hq
    | cons s1 q1 =>
      have hwk : w.kind = s1.kind := by
        cases pre' with
        | nil =>
          cases hn'
          simp only [List.nil_append, List.cons.injEq] at hq
          rw [hk, hq.1]
        | cons s1' pre'' =>
          simp only [List.cons_append, List.cons.injEq] at hq
          rw [← hq.1]
          exact navigate_kind hn'
      rw [hq] at hnd
      obtain ⟨h1, w1, e, st⟩ := setTF_step wf ⟨hok, navStep_kind hw⟩ hv.head s1 q1 g
      obtain ⟨rfl, rfl⟩ := st.reuse w hw hwk
      rw [e, ← hq]
      rw [trail_reuse q1 hw hwk, List.nodup_cons, ← hq] at hnd
      exact ih w1 hv.tail st.recv.1 hn' hnd.2

/-- `SlotsKept` spelled out -/
theorem C11_slotsKept_idx (h h' : Heap) (c : Val) (i : Nat) :
    SlotsKept h h' c (.idx i) ↔ ∀ j, j ≠ i → j < (h.items (addrOf c)).length →
      (h'.items (addrOf c))[j]? = (h.items (addrOf c))[j]? := Iff.rfl
theorem C11_slotsKept_key (h h' : Heap) (c : Val) (k : Str) :
    SlotsKept h h' c (.key k) ↔ ∀ k', k' ≠ k →
      lookup (h'.fields (addrOf c)) k' = lookup (h.fields (addrOf c)) k' := Iff.rfl

example : ValidPath ([Seg.key ['a']] ++ Seg.idx 1 :: [Seg.key ['k']]) ∧
    navigate exT root [.key ['a']] = some (.list ⟨1, 0⟩) ∧
    (Val.list ⟨1, 0⟩).kind = (Seg.idx 1).kind ∧
    (trail exT root ([Seg.key ['a']] ++ Seg.idx 1 :: [Seg.key ['k']])).Nodup := by decide +kernel

/-! ## 10. UnsetTF on a resolvable path -/

/-- `p = q ++ [last]`, `q` resolves to the container `c` and `last` resolves in `c`: UnsetTF
succeeds and the heap is `h` with exactly that field / element removed -/
theorem C11_unset_ok (h : Heap) (v c x : Val) (q : List Seg) (last : Seg) (hv : ValidPath (q ++ [last]))
    (hq : navigate h v q = some c) (hx : navStep h c last = some x) :
    unsetTF h v (render (q ++ [last])) = (unsetSpec h c last, .ok ()) := by
  induction q generalizing v with
  | nil =>
    cases hq
    rw [List.nil_append, unsetTF_cons h c last [] hv.head]
    exact unsetLeaf_resolved hx
  | cons s q' ih =>
    obtain ⟨w, hw, hq'⟩ := navigate_cons_some hq
    have hnav : navigate h w (q' ++ [last]) = some x := by
      rw [navigate_append, hq']; simp only [navigate, hx]
    rw [List.cons_append, unsetTF_cons h v s _ hv.head, getStep_of_navStep hw]
    cases hq'' : q' ++ [last] with
    | nil => simp at hq''
    | cons s' q'' =>
      rw [hq''] at hnav
      simp only [descend, wantKind_isKey, navigate_kind hnav, if_true]
      rw [← hq'']
      exact ih w hv.tail hq'

/-- the same from `navigate h v p = some _` -/
theorem C11_unset_ok_path (h : Heap) (v x : Val) (q : List Seg) (last : Seg) (hv : ValidPath (q ++ [last]))
    (hn : navigate h v (q ++ [last]) = some x) :
    ∃ c, navigate h v q = some c ∧ unsetTF h v (render (q ++ [last])) = (unsetSpec h c last, .ok ()) := by
  rw [navigate_append] at hn
  cases hq : navigate h v q with
  | none => simp [hq] at hn
  | some c =>
    simp only [hq, navigate] at hn
    cases hx : navStep h c last with
    | none => simp [hx] at hn
    | some y => exact ⟨c, rfl, C11_unset_ok h v c y q last hv hq hx⟩

example : ValidPath ([Seg.key ['a']] ++ [Seg.idx 0]) ∧
    navigate exT root [Seg.key ['a']] = some (.list ⟨1, 0⟩) ∧
    navStep exT (.list ⟨1, 0⟩) (.idx 0) = some (.int 5) ∧
    navigate exT root ([Seg.key ['a']] ++ [Seg.idx 0]) = some (.int 5) := by decide +kernel

/-- what `unsetSpec` is: a removed field -/
theorem C11_unset_ok_key (h : Heap) (r : Ref) (k : Str) (x : Val)
    (hx : navStep h (.obj r) (.key k) = some x) :
    (unsetSpec h (.obj r) (.key k)).fields r.addr = delKV (h.fields r.addr) k ∧
    (unsetSpec h (.obj r) (.key k)).length = h.length ∧
    ∀ b, b ≠ r.addr → (unsetSpec h (.obj r) (.key k))[b]? = h[b]? := by
  have hl : h.isObj r.addr = true := by
    cases hl : h.isObj r.addr with
    | true => rfl
    | false =>
      rw [navStep_key_obj, fields_of_not_isObj hl] at hx
      simp [lookup] at hx
  exact ⟨fields_setFields_same _ hl, length_setFields _ _ _, fun b hb => getElem?_setFields_ne h _ hb⟩

/-- … a removed element: the later elements shift down by one (`List.eraseIdx`) -/
theorem C11_unset_ok_idx (h : Heap) (r : Ref) (i : Nat) (x : Val)
    (hx : navStep h (.list r) (.idx i) = some x) :
    (unsetSpec h (.list r) (.idx i)).items r.addr = (h.items r.addr).eraseIdx i ∧
    (unsetSpec h (.list r) (.idx i)).length = h.length ∧
    ∀ b, b ≠ r.addr → (unsetSpec h (.list r) (.idx i))[b]? = h[b]? := by
  have hl : h.isList r.addr = true := by
    cases hl : h.isList r.addr with
    | true => rfl
    | false =>
      rw [navStep_idx_list, items_of_not_isList hl] at hx
      simp at hx
  exact ⟨items_setItems_same _ hl, length_setItems _ _ _, fun b hb => getElem?_setItems_ne h _ hb⟩

example : navStep exT (.list ⟨1, 0⟩) (.idx 0) = some (.int 5) ∧
    navStep exT (.obj ⟨2, 0⟩) (.key ['k']) = some (.str ['v']) := by decide +kernel

/-! ## 11. UnsetTF on a path that does not resolve -/

/-- the heap is unchanged (the call panics, or — a missing last key of an existing object — is a
no-op) -/
theorem C11_unset_no (h : Heap) (v : Val) (p : List Seg) (hne : p ≠ []) (hv : ValidPath p)
    (hn : navigate h v p = none) : (unsetTF h v (render p)).1 = h := by
  induction p generalizing v with
  | nil => exact absurd rfl hne
  | cons s q ih =>
    rw [unsetTF_cons h v s q hv.head]
    cases hw : navStep h v s with
    | none =>
      cases q with
      | nil => exact unsetLeaf_unresolved hw
      | cons s' q' =>
        obtain ⟨pk, hp⟩ := getStep_of_navStep_none hw
        simp only [hp, descend]
    | some w =>
      rw [navigate_cons_of_step _ hw] at hn
      cases q with
      | nil => cases hn
      | cons s' q' =>
        simp only [getStep_of_navStep hw, descend, wantKind_isKey]
        by_cases hk : w.kind = s'.kind
        · simp only [hk, if_true]
          exact ih w (by simp) hv.tail hn
        · simp only [hk, if_false]

example : ValidPath [.key ['a'], .idx 9] ∧ navigate exT root [.key ['a'], .idx 9] = none ∧
    navigate exT root [.key ['z', 'z']] = none := by decide +kernel


/-! ## Storage level -/

/-- a tree-form write at a leaf of a list, at storage level: inside the list the slot is overwritten in place; at or behind the
end the list grows by the gap of `nil`s and the value — whatever was left behind the length by earlier removals never shows,
for every capacity and growth policy (the padded shape is the one `C11_step_shape_list_pad` gives for the heap model) -/
theorem C11_slice_leaf_write {α : Type} (cfg : Slices.Cfg α) (sorted : List α → List α) (nilv : α) (σ : Slices.SHeap α)
    (hw : σ.WF) (c i : Nat) (v : α) (s : Slices.Slice) (hc : σ.cells[c]? = some s) :
    (Slices.step cfg sorted σ (Slices.leafWrite nilv σ c i v)).1.abs[c]?
      = some (if i < s.len then (Slices.view σ.mem s).set i v
              else Slices.view σ.mem s ++ List.replicate (i - s.len) nilv ++ [v]) := by
  have habs : σ.abs[c]? = some (Slices.view σ.mem s) := by rw [Slices.abs_getElem?, hc]; rfl
  have hlt := (List.getElem?_eq_some_iff.1 habs).1
  have hlen := Slices.view_length (hw.1 s (List.mem_of_getElem? hc)).2
  have hr : (Slices.step cfg sorted σ (Slices.leafWrite nilv σ c i v)).1.abs = _ :=
    congrArg Prod.fst (Slices.step_refines cfg sorted σ hw _)
  rw [hr]
  simp only [Slices.leafWrite, hc]
  by_cases hi : i < s.len
  · simp only [if_pos hi, Slices.astep, habs, hlen, List.getElem?_set_self hlt]
  · simp only [if_neg hi, Slices.astep, habs, List.getElem?_set_self hlt, List.append_assoc]

end Anytype

#print axioms Anytype.C11_fuel_set
#print axioms Anytype.C11_fuel_unset
#print axioms Anytype.C11_step_shape_list_pad
#print axioms Anytype.C11_step_shape_list_reuse
#print axioms Anytype.C11_step_shape_list_replace
#print axioms Anytype.C11_step_shape_obj_reuse
#print axioms Anytype.C11_step_shape_obj_new
#print axioms Anytype.C11_step_shape_frame_list
#print axioms Anytype.C11_step_shape_frame_obj
#print axioms Anytype.C11_set_unfold
#print axioms Anytype.C11_set_step
#print axioms Anytype.C11_set_leaf
#print axioms Anytype.C11_set_get
#print axioms Anytype.C11_set_get_tree
#print axioms Anytype.C11_set_get_needs_tree
#print axioms Anytype.C11_set_frame
#print axioms Anytype.C11_set_frame_slots
#print axioms Anytype.C11_slotsKept_idx
#print axioms Anytype.C11_slotsKept_key
#print axioms Anytype.C11_unset_ok
#print axioms Anytype.C11_unset_ok_path
#print axioms Anytype.C11_unset_ok_key
#print axioms Anytype.C11_unset_ok_idx
#print axioms Anytype.C11_unset_no
#print axioms Anytype.C11_slice_leaf_write
