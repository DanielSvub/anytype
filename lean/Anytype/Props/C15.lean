/-
C15 — For every container and every interleaving of the worker goroutines, ForEachAsync calls the
function exactly once per element/field with the matching (index or key, value) pair and returns
only after all calls have returned, and MapAsync returns exactly what Map returns for the same
pure function.  The library's own memory accesses in these calls are free of data races, and any
number of goroutines may run non-mutating operations on a shared unmodified container
concurrently with the same results as sequentially.

What is proved here, and about what.  `Model/Async.lean` gives a transition system (threads =
main + one worker per element, WaitGroup counter, mutex, event log) for a *skeleton* `Skel` of an
`…Async` method; `vextract` extracts the skeletons of the four Go methods from the source and
`Anytype/Generated/Async.lean` checks (`decide`) that each of them is one of the two accepted
skeletons `forEachSkel`, `mapSkel` (`WellFormed`).  The theorems below hold for every
well-formed skeleton, EVERY number of elements `n` and EVERY schedule (`Reachable s n st` = `st`
is reached by some interleaving).  A worker carries the index `i` of its element; the `i`-th
element/field `x_i` of the unmodified container is determined by `i` (the `go` statement
evaluates `i` and `item.getVal()` in main, at spawn time: `ArgPass.byValue`), so "call with
argument `i`" stands for "call with `(i, x_i)`" (for objects: `i` = position of the key in the
iteration order of that run).

Outside the model: real memory (data races are checked dynamically with the race detector; the
model's counterpart is `unsyncWrite = false`: `result` is stored only under the mutex), panics
inside the callback, the unspecified iteration order of Go maps (any order is some numbering).
-/
import Anytype.Lemmas.AsyncWF
import Anytype.Model.Heap
namespace Anytype
open Async

/-! ### non-vacuity: both skeletons are well-formed and have reachable returned states -/

example : WellFormed forEachSkel = true := by decide
example : WellFormed mapSkel = true := by decide

/-- a complete schedule of the Map skeleton for two elements (worker 1 takes the mutex first) -/
def exSchedule : List Action :=
  [.add, .spawn, .spawn, .work 1, .work 1, .work 1, .work 1, .work 0, .work 0, .work 0, .work 0,
   .work 0, .work 1, .wait]

def exFinal : State :=
  (runSchedule mapSkel 2 (init mapSkel 2) exSchedule).getD (init mapSkel 2)

theorem exRun : runSchedule mapSkel 2 (init mapSkel 2) exSchedule = some exFinal := by decide

theorem exFinal_eq : exFinal =
    { counter := 0, mutex := none, main := .returned,
      workers := [⟨true, 4, false, 0⟩, ⟨true, 4, false, 1⟩], result := [some 0, some 1],
      log := [.callStart 1, .callEnd 1, .write 1, .callStart 0, .callEnd 0, .write 0, .ret],
      panicked := false, unsyncWrite := false } := by decide

theorem exFinal_reachable : Reachable mapSkel 2 exFinal :=
  reachable_of_runSchedule .init exRun

theorem exFinal_returned : exFinal.main = .returned := by rw [exFinal_eq]

example : exFinal.main = .returned := exFinal_returned
example : exFinal.log = [.callStart 1, .callEnd 1, .write 1, .callStart 0, .callEnd 0, .write 0,
    .ret] := by rw [exFinal_eq]

/-! ### 1. no panic -/

/-- the WaitGroup counter never goes negative, no goroutine unlocks a mutex it does not hold, and
`result` is never stored without the mutex -/
theorem C15_no_panic {s : Skel} {n : Nat} {st : State} (hwf : WellFormed s = true)
    (hr : Reachable s n st) :
    st.panicked = false ∧ 0 ≤ st.counter ∧ st.unsyncWrite = false := by
  have hc := core_of_wf hwf hr
  exact ⟨hc.noPanic, hc.counter_nonneg (Nat.zero_lt_of_lt (callPos_lt hwf)), hc.noUnsync⟩

example : exFinal.panicked = false ∧ 0 ≤ exFinal.counter ∧ exFinal.unsyncWrite = false :=
  C15_no_panic (by decide) exFinal_reachable

/-- a worker whose next statement is `mutex.Unlock()` holds the mutex -/
theorem C15_unlock_by_holder {s : Skel} {n : Nat} {st : State} {i : Nat} {w : Worker}
    (hwf : WellFormed s = true) (hr : Reachable s n st) (hw : st.workers[i]? = some w)
    (hb : s.body[w.pc]? = some .unlock) : st.mutex = some i := by
  rcases wf_cases hwf with rfl | rfl
  · rcases forEach_body_cases hb with ⟨_, e⟩ | ⟨_, e⟩ <;> cases e
  · have I := invMap_of_reachable hr
    rcases map_body_cases hb with ⟨_, e⟩ | ⟨_, e⟩ | ⟨hpc, _⟩ | ⟨_, e⟩
    · cases e
    · cases e
    · exact (I.cs i w hw).1 (Or.inr hpc)
    · cases e

/-! ### 2. the method returns only after every call has returned -/

/-- in a returned state every worker is live, has run its whole body (in particular `callEnd`
and `Done`), is not inside the callback, and its `callEnd` is in the log -/
theorem C15_return_after_all {s : Skel} {n : Nat} {st : State} (hwf : WellFormed s = true)
    (hr : Reachable s n st) (hret : st.main = .returned) (i : Nat) (hi : i < n) :
    (∃ w, st.workers[i]? = some w ∧ w.live = true ∧ w.pc = s.body.length ∧ w.inCall = false) ∧
    Event.callEnd i ∈ st.log := by
  have hc := core_of_wf hwf hr
  have hcl := callPos_lt hwf
  obtain ⟨w, hw, hl, hpc, hic, _⟩ := hc.returned_all (Nat.lt_of_succ_lt hcl) hret i hi
  refine ⟨⟨w, hw, hl, hpc, hic⟩, ?_⟩
  rw [← List.count_pos_iff, (hc.counts i).2, hw]
  simp only
  rw [if_pos (by omega)]; omega

example : Event.callEnd 0 ∈ exFinal.log :=
  (C15_return_after_all (by decide) exFinal_reachable exFinal_returned 0 (by decide)).2

/-- `ret` is logged exactly once, as the last event, after which nothing happens: a returned
state has no enabled action -/
theorem C15_ret_last {s : Skel} {n : Nat} {st : State} (hwf : WellFormed s = true)
    (hr : Reachable s n st) (hret : st.main = .returned) :
    (observe st.log).getLast? = some .ret ∧ st.log.count .ret = 1 ∧ enabled s n st = [] := by
  have hc := core_of_wf hwf hr
  have hv := validTrace_counts (hc.trace_valid hret)
  refine ⟨hv.2.2.2.2, ?_, ?_⟩
  · rw [← count_observe _ (by rfl)]; exact hv.2.2.2.1
  · rw [List.eq_nil_iff_forall_not_mem]
    intro a ha
    rw [mem_enabled] at ha
    cases a with
    | add => cases hret.symm.trans (isEnabled_add ha)
    | spawn => obtain ⟨k, hk, _⟩ := isEnabled_spawn ha; cases hret.symm.trans hk
    | wait => obtain ⟨k, hk, _⟩ := isEnabled_wait ha; cases hret.symm.trans hk
    | work i =>
      obtain ⟨_, w, b, hw, _, hb, _⟩ := isEnabled_work ha
      have := hc.ret hret w (List.mem_iff_getElem?.2 ⟨i, hw⟩)
      have := lt_length_of_getElem? hb
      omega

/-! ### 3. exactly once, with the matching argument -/

/-- in every reachable state the callback has been entered at most once for each index, left at
most as often as entered, and never for an index that is not an element -/
theorem C15_at_most_once {s : Skel} {n : Nat} {st : State} (hwf : WellFormed s = true)
    (hr : Reachable s n st) (i : Nat) :
    st.log.count (.callStart i) ≤ 1 ∧ st.log.count (.callEnd i) ≤ st.log.count (.callStart i) ∧
    (n ≤ i → Event.callStart i ∉ st.log ∧ Event.callEnd i ∉ st.log) := by
  have hc := core_of_wf hwf hr
  obtain ⟨h1, h2⟩ := hc.counts i
  refine ⟨?_, ?_, hc.no_events_out_of_range i⟩
  · rw [h1]; split
    · split <;> omega
    · omega
  · rw [h1, h2]; split
    · split
      · next h => rw [if_pos (Or.inl h)]; omega
      · omega
    · omega

/-- in a returned state: exactly one `callStart i` and exactly one `callEnd i` for every `i < n` -/
theorem C15_exactly_once {s : Skel} {n : Nat} {st : State} (hwf : WellFormed s = true)
    (hr : Reachable s n st) (hret : st.main = .returned) (i : Nat) (hi : i < n) :
    st.log.count (.callStart i) = 1 ∧ st.log.count (.callEnd i) = 1 := by
  have hc := core_of_wf hwf hr
  have hv := (validTrace_counts (hc.trace_valid hret)).1 i hi
  rw [count_observe _ (by rfl), count_observe _ (by rfl)] at hv
  exact hv

example : exFinal.log.count (.callStart 1) = 1 ∧ exFinal.log.count (.callEnd 1) = 1 :=
  C15_exactly_once (by decide) exFinal_reachable exFinal_returned 1 (by decide)

/-- worker `i` carries the index `i` (by-value argument passing), and every event a step of
worker `i` appends to the log is about index `i`: the call made by worker `i` is `f(i, x_i)` -/
theorem C15_call_argument {s : Skel} {n : Nat} {st : State} {i : Nat} (hwf : WellFormed s = true)
    (hr : Reachable s n st) (he : isEnabled s n st (.work i) = true) :
    (∃ w, st.workers[i]? = some w ∧ w.arg = i) ∧
    ∃ evs, (step s n st (.work i)).log = st.log ++ evs ∧ ∀ e ∈ evs, e.index? = some i := by
  have hc := core_of_wf hwf hr
  obtain ⟨_, w, b, hw, hl, hb, _⟩ := isEnabled_work he
  have ha := (hc.wk i w hw).arg hl
  refine ⟨⟨w, hw, ha⟩, ?_⟩
  have hs : s.args = .byValue := by rcases wf_cases hwf with rfl | rfl <;> rfl
  obtain ⟨evs, hlog, hidx, _⟩ := stepWorker_log (n := n) (st := st) (i := i) (w := w) hs
  refine ⟨evs, ?_, ?_⟩
  · rw [step_work hw]; exact hlog
  · intro e he; rw [hidx e he, ha]

/-! ### 4. the mutex of MapAsync -/

/-- a worker between `Lock` and `Unlock` is the holder of the mutex … -/
theorem C15_mutex {s : Skel} {n : Nat} {st : State} {i : Nat} {w : Worker}
    (hwf : WellFormed s = true) (hr : Reachable s n st) (hw : st.workers[i]? = some w)
    (hb : betweenLockUnlock s w) : st.mutex = some i := by
  rcases wf_cases hwf with rfl | rfl
  · exact absurd hb between_forEach
  · have I := invMap_of_reachable hr
    exact (I.cs i w hw).1 ((between_map_iff (I.core.wk i w hw).pc_le).1 hb)

/-- … hence at most one worker is between `Lock` and `Unlock` -/
theorem C15_mutex_exclusive {s : Skel} {n : Nat} {st : State} {i j : Nat} {w v : Worker}
    (hwf : WellFormed s = true) (hr : Reachable s n st)
    (hw : st.workers[i]? = some w) (hv : st.workers[j]? = some v)
    (hi : betweenLockUnlock s w) (hj : betweenLockUnlock s v) : i = j := by
  have h1 := C15_mutex hwf hr hw hi
  have h2 := C15_mutex hwf hr hv hj
  rw [h1] at h2; exact Option.some.inj h2

/-- in MapAsync the callback runs under the mutex -/
theorem C15_callback_under_mutex {n : Nat} {st : State} {i : Nat} {w : Worker}
    (hr : Reachable mapSkel n st) (hw : st.workers[i]? = some w) (hc : w.inCall = true) :
    st.mutex = some i := by
  have I := invMap_of_reachable hr
  exact (I.cs i w hw).1 (Or.inl ((I.core.wk i w hw).inCall hc))

/-- `write j` is appended only by worker `j`, and only while it holds the mutex -/
theorem C15_write_owner {n : Nat} {st : State} {i : Nat} (hr : Reachable mapSkel n st)
    (he : isEnabled mapSkel n st (.work i) = true) (j : Nat)
    (hj : Event.write j ∈ (step mapSkel n st (.work i)).log) :
    Event.write j ∈ st.log ∨ (j = i ∧ st.mutex = some i) :=
  map_write_owner (invMap_of_reachable hr) he j hj

/-- every slot is written at most once, and exactly once when the method has returned;
ForEachAsync writes nothing -/
theorem C15_write_once {s : Skel} {n : Nat} {st : State} (hwf : WellFormed s = true)
    (hr : Reachable s n st) (j : Nat) :
    st.log.count (.write j) ≤ 1 ∧
    (st.main = .returned → j < n → st.log.count (.write j) = if s.hasResult then 1 else 0) ∧
    (n ≤ j → Event.write j ∉ st.log) := by
  rcases wf_cases hwf with rfl | rfl
  · have I := invFE_of_reachable hr
    have h0 := List.count_eq_zero.2 (I.noWrite j)
    exact ⟨by omega, fun _ _ => by simp [forEachSkel, h0], fun _ => I.noWrite j⟩
  · have I := invMap_of_reachable hr
    refine ⟨map_write_count_le I j, ?_, I.writesOut j⟩
    intro hret hj
    obtain ⟨w, hw, _, hpc, _, _⟩ := I.core.returned_all (by decide) hret j hj
    rw [I.writes j w hw, hpc]; simp [mapSkel]

/-- MapAsync: when the method returns, slot `i` of `result` holds the value computed from
element `i`, for every `i` … -/
theorem C15_map_result {n : Nat} {st : State} (hr : Reachable mapSkel n st)
    (hret : st.main = .returned) : st.result = (List.range n).map some :=
  map_result_returned (invMap_of_reachable hr) hret

/-- what the model's `result` stands for, given the elements `xs` and the callback `f` -/
def materialize {α β} (f : Nat → α → β) (xs : List α) (res : List (Option Nat)) : List (Option β) :=
  res.map (fun o => o.bind (fun i => xs[i]?.map (f i)))

/-- … i.e. the result is `[f 0 x_0, f 1 x_1, …]`, which is what the sequential `Map` computes
for the pure `f` (C14: `Map` stores `f(i, Get(i))` at position `i`) -/
theorem C15_map_result_values {α β} (f : Nat → α → β) (xs : List α) {st : State}
    (hr : Reachable mapSkel xs.length st) (hret : st.main = .returned) :
    materialize f xs st.result = (xs.mapIdx f).map some := by
  rw [materialize, C15_map_result hr hret]
  apply List.ext_getElem?
  intro i
  simp only [List.getElem?_map, List.getElem?_mapIdx]
  by_cases hi : i < xs.length
  · simp [List.getElem?_range hi, List.getElem?_eq_getElem hi]
  · have hle : xs.length ≤ i := Nat.le_of_not_lt hi
    have h1 : (List.range xs.length)[i]? = none := List.getElem?_eq_none (by simpa using hle)
    have h2 : xs[i]? = none := List.getElem?_eq_none hle
    simp [h1, h2]

example : materialize (fun i (x : Nat) => x * 10 + i) [5, 7] exFinal.result = [some 50, some 71] :=
  C15_map_result_values _ [5, 7] exFinal_reachable exFinal_returned

/-! ### 5. progress -/

/-- no deadlock: a reachable state in which the method has not returned has an enabled action
(and is not panicked, by `C15_no_panic`) -/
theorem C15_progress {s : Skel} {n : Nat} {st : State} (hwf : WellFormed s = true)
    (hr : Reachable s n st) (hnr : st.main ≠ .returned) : ∃ a, a ∈ enabled s n st := by
  obtain ⟨a, ha⟩ := progress_wf hwf hr hnr
  exact ⟨a, mem_enabled.2 ha⟩

/-- every step strictly decreases `measure` (for EVERY skeleton, also the rejected ones) -/
theorem C15_measure_decreases {s : Skel} {n : Nat} {st : State} {a : Action}
    (hr : Reachable s n st) (ha : a ∈ enabled s n st) :
    measure s n (step s n st a) < measure s n st :=
  measure_step_lt (basic_of_reachable hr) (mem_enabled.1 ha)

/-- so every execution has at most `n + 2 + 2·n·|body|` steps … -/
theorem C15_run_bounded {s : Skel} {n : Nat} {st : State} {as : List Action}
    (h : Run s n (init s n) as st) : as.length ≤ n + 2 + n * (2 * s.body.length) := by
  have := h.length_le .init
  rw [measure_init] at this
  omega

/-- … and a maximal one (nothing enabled any more) ends with the method returned -/
theorem C15_terminal_returned {s : Skel} {n : Nat} {st : State} (hwf : WellFormed s = true)
    (hr : Reachable s n st) (hterm : enabled s n st = []) : st.main = .returned :=
  Decidable.byContradiction fun h => by
    obtain ⟨a, ha⟩ := C15_progress hwf hr h
    rw [hterm] at ha; cases ha

example : enabled mapSkel 2 exFinal = [] := by rw [exFinal_eq]; decide

/-! ### 6. observable traces -/

/-- the observable trace of a completed call is accepted by `validTrace`: a trace recorded from
the real goroutines that `validTrace` rejects cannot be produced by the model -/
theorem C15_trace_sound {s : Skel} {n : Nat} {st : State} (hwf : WellFormed s = true)
    (hr : Reachable s n st) (hret : st.main = .returned) :
    validTrace s.hasResult n (observe st.log) = true :=
  (core_of_wf hwf hr).trace_valid hret

/-- what `validTrace` accepts, declaratively: every `i < n` is entered exactly once and left
exactly once, the entry before the exit; no event for `i ≥ n`; `ret` exactly once and last; for
Map the intervals are pairwise disjoint -/
theorem C15_validTrace_spec {isMap : Bool} {n : Nat} {tr : List Event}
    (h : validTrace isMap n tr = true) :
    (∀ i, i < n → tr.count (.callStart i) = 1 ∧ tr.count (.callEnd i) = 1 ∧
      tr.idxOf (.callStart i) < tr.idxOf (.callEnd i)) ∧
    (∀ i, n ≤ i → Event.callStart i ∉ tr ∧ Event.callEnd i ∉ tr) ∧
    (∀ i, Event.write i ∉ tr) ∧
    tr.count .ret = 1 ∧ tr.getLast? = some .ret ∧
    (isMap = true → ∀ i j, i < n → j < n → i ≠ j →
      tr.idxOf (.callEnd i) < tr.idxOf (.callStart j) ∨
      tr.idxOf (.callEnd j) < tr.idxOf (.callStart i)) := by
  obtain ⟨h1, h2, h3, h4, h5⟩ := validTrace_counts h
  obtain ⟨h6, h7⟩ := validTrace_order h
  exact ⟨fun i hi => ⟨(h1 i hi).1, (h1 i hi).2, h6 i hi⟩, h2, h3, h4, h5, h7⟩

example : validTrace true 2
    [.callStart 1, .callEnd 1, .callStart 0, .callEnd 0, .ret] = true := by decide
example : validTrace true 2
    [.callStart 1, .callStart 0, .callEnd 1, .callEnd 0, .ret] = false := by decide
example : validTrace false 2
    [.callStart 1, .callStart 0, .callEnd 1, .callEnd 0, .ret] = true := by decide
example : validTrace false 2 [.callStart 1, .callEnd 1, .ret, .callStart 0, .callEnd 0] = false := by
  decide

/-! ### 7. packaging -/

/-- the executable checker used by `exploreAll` / `firstViolation` finds nothing in any
reachable state of a well-formed skeleton, for any `n` -/
theorem C15_checker_agrees {s : Skel} {n : Nat} {st : State} (hwf : WellFormed s = true)
    (hr : Reachable s n st) : violation? s n st = none ∧ deadlocked s n st = false :=
  ⟨violation_none hwf hr, not_deadlocked hwf hr⟩

/-- items 1–6 for one skeleton -/
structure SafeSkel (s : Skel) : Prop where
  no_panic : ∀ n st, Reachable s n st →
    st.panicked = false ∧ 0 ≤ st.counter ∧ st.unsyncWrite = false
  return_after_all : ∀ n st, Reachable s n st → st.main = .returned → ∀ i, i < n →
    (∃ w, st.workers[i]? = some w ∧ w.live = true ∧ w.pc = s.body.length ∧ w.inCall = false) ∧
    Event.callEnd i ∈ st.log
  at_most_once : ∀ n st, Reachable s n st → ∀ i,
    st.log.count (.callStart i) ≤ 1 ∧ st.log.count (.callEnd i) ≤ st.log.count (.callStart i) ∧
    (n ≤ i → Event.callStart i ∉ st.log ∧ Event.callEnd i ∉ st.log)
  exactly_once : ∀ n st, Reachable s n st → st.main = .returned → ∀ i, i < n →
    st.log.count (.callStart i) = 1 ∧ st.log.count (.callEnd i) = 1
  call_argument : ∀ n st i, Reachable s n st → isEnabled s n st (.work i) = true →
    (∃ w, st.workers[i]? = some w ∧ w.arg = i) ∧
    ∃ evs, (step s n st (.work i)).log = st.log ++ evs ∧ ∀ e ∈ evs, e.index? = some i
  mutex : ∀ n st (i : Nat) (w : Worker), Reachable s n st → st.workers[i]? = some w →
    betweenLockUnlock s w → st.mutex = some i
  write_once : ∀ n st, Reachable s n st → ∀ j,
    st.log.count (.write j) ≤ 1 ∧
    (st.main = .returned → j < n → st.log.count (.write j) = if s.hasResult then 1 else 0) ∧
    (n ≤ j → Event.write j ∉ st.log)
  result : s.hasResult = true → ∀ n st, Reachable s n st → st.main = .returned →
    st.result = (List.range n).map some
  progress : ∀ n st, Reachable s n st → st.main ≠ .returned → ∃ a, a ∈ enabled s n st
  measure_decreases : ∀ n st a, Reachable s n st → a ∈ enabled s n st →
    measure s n (step s n st a) < measure s n st
  trace_sound : ∀ n st, Reachable s n st → st.main = .returned →
    validTrace s.hasResult n (observe st.log) = true
  checker : ∀ n st, Reachable s n st → violation? s n st = none ∧ deadlocked s n st = false

theorem C15_wellformed_safe {s : Skel} (hwf : WellFormed s = true) : SafeSkel s where
  no_panic := fun _ _ hr => C15_no_panic hwf hr
  return_after_all := fun _ _ hr hret => C15_return_after_all hwf hr hret
  at_most_once := fun _ _ hr => C15_at_most_once hwf hr
  exactly_once := fun _ _ hr hret => C15_exactly_once hwf hr hret
  call_argument := fun _ _ _ hr he => C15_call_argument hwf hr he
  mutex := fun _ _ _ _ hr hw hb => C15_mutex hwf hr hw hb
  write_once := fun _ _ hr => C15_write_once hwf hr
  result := fun hres n st hr hret => by
    rcases wf_cases hwf with rfl | rfl
    · cases hres
    · exact C15_map_result hr hret
  progress := fun _ _ hr hnr => C15_progress hwf hr hnr
  measure_decreases := fun _ _ _ hr ha => C15_measure_decreases hr ha
  trace_sound := fun _ _ hr hret => C15_trace_sound hwf hr hret
  checker := fun _ _ hr => C15_checker_agrees hwf hr

/-! ### 8. negative sanity: the model rejects broken protocols -/

/-- `group.Done()` before the callback: the method can return while a callback is running -/
def doneFirstSkel : Skel := { forEachSkel with body := [.done, .call] }
/-- MapAsync without the mutex -/
def noMutexSkel : Skel := { mapSkel with body := [.callWrite, .done] }
/-- a closure capturing the (go 1.18, shared) loop variables -/
def capturedSkel : Skel := { forEachSkel with args := .captured }
/-- no `wg.Wait()` -/
def noWaitSkel : Skel := { forEachSkel with waitBeforeReturn := false }
/-- `wg.Add` forgotten -/
def noAddSkel : Skel := { forEachSkel with add := .missing }
/-- `Unlock` forgotten -/
def noUnlockSkel : Skel := { mapSkel with body := [.lock, .callWrite, .done] }

theorem C15_neg_done_first : (firstViolation doneFirstSkel 1).isSome = true := by decide
theorem C15_neg_no_mutex : (firstViolation noMutexSkel 2).isSome = true := by decide
theorem C15_neg_captured : (firstViolation capturedSkel 2).isSome = true := by decide
theorem C15_neg_no_wait : (firstViolation noWaitSkel 1).isSome = true := by decide
theorem C15_neg_no_add : (firstViolation noAddSkel 1).isSome = true := by decide
theorem C15_neg_no_unlock : (firstViolation noUnlockSkel 2).isSome = true := by decide

/-- without the mutex two callbacks can overlap: an observable trace that `validTrace true`
rejects is reachable -/
theorem C15_neg_no_mutex_overlap :
    ∃ st, Reachable noMutexSkel 2 st ∧
      observe st.log = [.callStart 0, .callStart 1] ∧
      (runMon true 2 (observe st.log)).isNone = true :=
  ⟨_, reachable_of_runSchedule (st := init noMutexSkel 2)
      (as := [.add, .spawn, .spawn, .work 0, .work 1]) .init rfl, by decide, by decide⟩

/-- and the accepted skeletons pass the exhaustive exploration for small `n` (all schedules):
the search finds nothing for any `n` (`firstViolation_none`), since every state it visits is
reachable and the checker agrees with the invariants there -/
theorem C15_explore_clean :
    firstViolation forEachSkel 0 = none ∧ firstViolation forEachSkel 1 = none ∧
    firstViolation forEachSkel 2 = none ∧ firstViolation mapSkel 0 = none ∧
    firstViolation mapSkel 1 = none ∧ firstViolation mapSkel 2 = none :=
  ⟨firstViolation_none rfl 0, firstViolation_none rfl 1, firstViolation_none rfl 2,
    firstViolation_none rfl 0, firstViolation_none rfl 1, firstViolation_none rfl 2⟩

/-! ### read-only operations -/

/-- The second sentence of the property, in the model: a non-mutating operation is a *function*
of the heap (it does not return a new heap), so any number of them evaluated in any order on the
same heap give the same results as sequentially.  (That the operations listed as read-only do
not write is the generated, source-level statement `Generated.readonly_do_not_write`; data races
on real memory are outside the model and are checked dynamically with the race detector.) -/
theorem C15_readonly_commute {α β : Type} (f : Heap → α) (g : Heap → β) (h : Heap) :
    (let a := f h; let b := g h; (a, b)) = (let b := g h; let a := f h; (a, b)) := rfl

/-- … for any number of readers and any permutation of the order in which they run -/
theorem C15_readonly_any_order {α : Type} (fs : List (Heap → α)) (h : Heap)
    (order : List Nat) :
    order.map (fun i => (fs[i]?).map (· h)) = order.map (fun i => ((fs.map (· h))[i]?)) := by
  simp

#print axioms C15_no_panic
#print axioms C15_unlock_by_holder
#print axioms C15_return_after_all
#print axioms C15_ret_last
#print axioms C15_at_most_once
#print axioms C15_exactly_once
#print axioms C15_call_argument
#print axioms C15_mutex
#print axioms C15_mutex_exclusive
#print axioms C15_callback_under_mutex
#print axioms C15_write_owner
#print axioms C15_write_once
#print axioms C15_map_result
#print axioms C15_map_result_values
#print axioms C15_progress
#print axioms C15_measure_decreases
#print axioms C15_run_bounded
#print axioms C15_terminal_returned
#print axioms C15_trace_sound
#print axioms C15_validTrace_spec
#print axioms C15_checker_agrees
#print axioms C15_wellformed_safe
#print axioms C15_neg_done_first
#print axioms C15_neg_no_mutex
#print axioms C15_neg_captured
#print axioms C15_neg_no_wait
#print axioms C15_neg_no_add
#print axioms C15_neg_no_unlock
#print axioms C15_neg_no_mutex_overlap
#print axioms C15_explore_clean
#print axioms C15_readonly_commute
#print axioms C15_readonly_any_order

end Anytype
