/-
C14. For every list and every kind X among object, list, string, bool, int and float, each
typed variant the API offers (XSlice, ForEachX, MapX, FilterX, ReduceX) operates on exactly the
elements whose TypeOf is X, in index order, each exactly once, and AllX (AllNumeric) holds
exactly when every element has kind X (is int or float), vacuously on the empty list. The
untyped ForEach, ForEachValue, Map, MapValues, Filter and Reduce visit every element once, in
order, with its index and the value Get returns; for objects, ForEach/Map and their typed
variants visit exactly the fields (of that kind), each once, and Map variants store the result
under the same key.

All theorems hold for every heap `h`, every receiver address `a`, every kind `k` (not only the
six the API offers) and every callback. The `Map` theorems come in two forms: closed formulas
for callbacks whose results on the visited elements are *scalar* (`GoVal.isScalar`: anything but
a Go slice / map / unsupported dynamic type, so that `parseVal` allocates nothing), sections 5
and 7; and the general, relational statements for arbitrary callbacks (results may allocate
nested cells or make the call panic), section 8 (`C14_*_general*`). Both rest on the equations
`C14_*_general_eq` before section 5: every `Map` call is one abstract loop over the visited
elements.
-/
import Anytype.Lemmas.Views
import Anytype.Lemmas.MapGeneral
namespace Anytype

/-- the selection of the typed list variant for kind `k` -/
abbrev selK (h : Heap) (k : Kind) (v : Val) : Option Val := L.sel h (L.viaGetValL k) k v

/-! ### what is selected -/

/-- an element is selected iff its kind is `k`; what is handed on is the element itself
(`item`, containers) or `item.getVal()` (scalars) -/
theorem C14_sel_iff (h : Heap) (b : Bool) (k : Kind) (v w : Val) :
    L.sel h b k v = some w ↔ v.kind = k ∧ w = L.pick h b v := by
  rw [L.sel_eq]
  by_cases hk : v.kind = k
  · simp [hk, eq_comm]
  · simp [hk]

/-- `TypeOf(i)` of a valid index is the kind of the i-th stored element … -/
theorem C14_typeOf (h : Heap) (a : Nat) (i : Nat) (hi : i < (h.items a).length) :
    L.typeOf h a i = ((h.items a)[i]).kind := by
  simp [L.typeOf, L.count, hi]

/-- … and `Get(i)` returns `getVal()` of it -/
theorem C14_get (h : Heap) (a : Nat) (i : Nat) (hi : i < (h.items a).length) :
    L.get h a i = .ok (h.getVal ((h.items a)[i])) := by
  have h1 : ¬ ((h.items a).length : Int) ≤ (i : Int) := by omega
  simp [L.get, L.count, hi, h1]

/-- selecting by kind is selecting the indexes whose `TypeOf` is `k` -/
theorem C14_select_typeOf (h : Heap) (a : Nat) (k : Kind) (b : Bool) :
    (h.items a).filterMap (L.sel h b k)
      = (((h.items a).zipIdx).filter (fun p => L.typeOf h a (p.2 : Int) == k)).map
          (fun p => L.pick h b p.1) := by
  -- on `zipIdx` of the items, `TypeOf` of the index is the kind of the element
  have hf : ((h.items a).zipIdx).filter (fun p => L.typeOf h a (p.2 : Int) == k)
      = ((h.items a).zipIdx).filter (fun p => p.1.kind == k) := by
    refine List.filter_congr fun p hp => ?_
    have hget : (h.items a)[p.2]? = some p.1 := by
      simpa using List.mem_zipIdx_iff_getElem?.mp hp
    obtain ⟨hi, hv⟩ := List.getElem?_eq_some_iff.mp hget
    rw [C14_typeOf h a p.2 hi, hv]
  rw [L.filterMap_sel, hf]
  conv => lhs; rw [← List.zipIdx_map_fst 0 (h.items a), List.filter_map, List.map_map]
  rfl

/-! ### 1. XSlice -/

theorem C14_slice (h : Heap) (a : Nat) (k : Kind) :
    L.sliceK h a k = (h.items a).filterMap (selK h k) := by
  simp [L.sliceK, L.sliceKLoop_eq]

/-- exactly the elements of kind `k`, in order, each once -/
theorem C14_slice_kind (h : Heap) (a : Nat) (k : Kind) :
    L.sliceK h a k
      = ((h.items a).filter (fun v => v.kind == k)).map (L.pick h (L.viaGetValL k)) := by
  rw [C14_slice]; exact L.filterMap_sel _ _ _ _

/-- exactly the elements whose `TypeOf` is `k`, in index order, each once -/
theorem C14_slice_typeOf (h : Heap) (a : Nat) (k : Kind) :
    L.sliceK h a k
      = (((h.items a).zipIdx).filter (fun p => L.typeOf h a (p.2 : Int) == k)).map
          (fun p => L.pick h (L.viaGetValL k) p.1) := by
  rw [C14_slice]; exact C14_select_typeOf _ _ _ _

theorem C14_slice_length (h : Heap) (a : Nat) (k : Kind) :
    (L.sliceK h a k).length = ((h.items a).filter (fun v => v.kind == k)).length := by
  rw [C14_slice_kind, List.length_map]

/-- the i-th selected element comes from the i-th element of kind `k` -/
theorem C14_slice_getElem (h : Heap) (a : Nat) (k : Kind) (i : Nat)
    (hi : i < (L.sliceK h a k).length) :
    (L.sliceK h a k)[i]
      = L.pick h (L.viaGetValL k)
          (((h.items a).filter (fun v => v.kind == k))[i]'(by rw [← C14_slice_length]; exact hi)) := by
  simp [C14_slice_kind]

/-- every element of the typed slice has kind `k` -/
theorem C14_slice_all_kind (h : Heap) (a : Nat) (k : Kind) :
    ∀ w ∈ L.sliceK h a k, w.kind = k := by
  intro w hw
  rw [C14_slice_kind, List.mem_map] at hw
  obtain ⟨v, hv, rfl⟩ := hw
  simpa using (List.mem_filter.mp hv).2

/-! ### 2. ForEachX, ForEach, ForEachValue -/

/-- the invocation log of `ForEachX` -/
theorem C14_foreach (h : Heap) (a : Nat) (k : Kind) :
    L.forEachK h a k = (h.items a).filterMap (selK h k) := by
  simp [L.forEachK, L.forEachKLoop_eq]

theorem C14_foreach_typeOf (h : Heap) (a : Nat) (k : Kind) :
    L.forEachK h a k
      = (((h.items a).zipIdx).filter (fun p => L.typeOf h a (p.2 : Int) == k)).map
          (fun p => L.pick h (L.viaGetValL k) p.1) := by
  rw [C14_foreach]; exact C14_select_typeOf _ _ _ _

/-- every element once, in order, with its index and `getVal()` of it -/
theorem C14_foreach_untyped (h : Heap) (a : Nat) :
    L.forEach h a = ((h.items a).zipIdx).map (fun p => ((p.2 : Int), h.getVal p.1)) :=
  L.forEach_eq h a

theorem C14_foreach_untyped_length (h : Heap) (a : Nat) :
    (L.forEach h a).length = (h.items a).length := by
  simp [C14_foreach_untyped]

/-- the i-th invocation is `f(i, Get(i))` -/
theorem C14_foreach_untyped_get (h : Heap) (a : Nat) (i : Nat) (hi : i < (L.forEach h a).length) :
    ((L.forEach h a)[i]).1 = (i : Int) ∧ L.get h a i = .ok ((L.forEach h a)[i]).2 := by
  have hi' : i < (h.items a).length := by rw [← C14_foreach_untyped_length]; exact hi
  rw [C14_get h a i hi']
  simp [C14_foreach_untyped]

theorem C14_foreachValue (h : Heap) (a : Nat) :
    L.forEachValue h a = (h.items a).map h.getVal := by
  rw [L.forEachValue, C14_foreach_untyped, List.map_map]
  conv => rhs; rw [← List.zipIdx_map_fst 0 (h.items a), List.map_map]
  rfl

/-! ### 3. FilterX, Filter -/

/-- the heap after `FilterX(p)` is the old heap plus one fresh list cell holding the selected
elements that satisfy `p`; the result is that cell -/
theorem C14_filter (h : Heap) (a : Nat) (k : Kind) (p : Val → Bool) :
    L.filterK h a k p
      = (h ++ [.list (((h.items a).filterMap (selK h k)).filter p) 0], ⟨h.length, 0⟩) := by
  simp [L.filterK, L.filterKLoop_eq]

theorem C14_filter_items (h : Heap) (a : Nat) (k : Kind) (p : Val → Bool) :
    (L.filterK h a k p).1.items (L.filterK h a k p).2.addr
      = ((h.items a).filterMap (selK h k)).filter p := by
  rw [C14_filter]; exact Heap.items_append_self ..

theorem C14_filter_untyped (h : Heap) (a : Nat) (p : Val → Bool) :
    L.filter h a p = (h ++ [.list (((h.items a).map h.getVal).filter p) 0], ⟨h.length, 0⟩) := by
  simp [L.filter, L.filterLoop_eq]

theorem C14_filter_untyped_items (h : Heap) (a : Nat) (p : Val → Bool) :
    (L.filter h a p).1.items (L.filter h a p).2.addr = ((h.items a).map h.getVal).filter p := by
  rw [C14_filter_untyped]; exact Heap.items_append_self ..

/-! ### 4. ReduceX, Reduce -/

theorem C14_reduce {α} (h : Heap) (a : Nat) (k : Kind) (init : α) (f : α → Val → α) :
    L.reduceK h a k init f = ((h.items a).filterMap (L.sel h true k)).foldl f init := by
  simp [L.reduceK, L.reduceKLoop_eq]

theorem C14_reduce_typeOf {α} (h : Heap) (a : Nat) (k : Kind) (init : α) (f : α → Val → α) :
    L.reduceK h a k init f
      = ((((h.items a).zipIdx).filter (fun p => L.typeOf h a (p.2 : Int) == k)).map
          (fun p => h.getVal p.1)).foldl f init := by
  rw [C14_reduce, C14_select_typeOf]; rfl

theorem C14_reduce_untyped {α} (h : Heap) (a : Nat) (init : α) (f : α → Val → α) :
    L.reduce h a init f = ((h.items a).map h.getVal).foldl f init := by
  simp [L.reduce, L.reduceLoop_eq]

/-! ### the `Map` calls are instances of one loop

`runL h g xs` / `runO h key g xs` (`Anytype/Lemmas/MapGeneral.lean`): allocate the empty result
cell at address `h.length`, run the abstract loop over `xs` (normalise `g x` with `parseVal`, store
the value in the result cell, stop at the first panic), hand the cell back or the panic.
-/

/-- `MapX(f)` visits exactly the selected elements (selection made on the heap before the call:
nothing the callback results allocate changes what is selected) -/
theorem C14_map_general_eq (h : Heap) (a : Nat) (k : Kind) (f : Val → GoVal) :
    L.mapK h a k f = runL h f ((h.items a).filterMap (selK h k)) := by
  rw [runL, ← L.mapKLoop_eq_mapSpec h h.length k f (h.items a) _ (Fr.append0 h rfl).ego]; rfl

/-- `Map(f)` visits exactly the invocations of `ForEach`: every element once, in order, with its
index and `getVal()` of it -/
theorem C14_map_untyped_general_eq (h : Heap) (a : Nat) (f : Int → Val → GoVal) :
    L.map h a f = runL h (fun q : Int × Val => f q.1 q.2) (L.forEach h a) := by
  rw [runL, L.forEach_eq,
    ← L.mapLoop_eq_mapSpec h h.length f (h.items a) _ 0 (Fr.append0 h rfl).ego]
  rfl

/-- `MapValues(f)` visits exactly the values `ForEachValue` hands out -/
theorem C14_mapValues_general_eq (h : Heap) (a : Nat) (f : Val → GoVal) :
    L.mapValues h a f = runL h f (L.forEachValue h a) := by
  rw [L.mapValues, L.forEachValue, C14_map_untyped_general_eq, runL, runL, mapSpec_map]; rfl

/-- object `Map(f)` visits exactly the invocations of the object `ForEach`: every field once,
with its key and `getVal()` of its value -/
theorem C14_obj_map_general_eq (h : Heap) (a : Nat) (f : Str → Val → GoVal) :
    O.map h a f = runO h Prod.fst (fun q : Str × Val => f q.1 q.2) (O.forEach h a) := by
  rw [runO, O.forEach,
    ← O.mapLoop_eq_mapSpec h h.length f (h.fields a) _ (Fr.append0 h rfl).ego]
  rfl

theorem C14_obj_mapK_general_eq (h : Heap) (a : Nat) (kd : Kind) (f : Val → GoVal) :
    O.mapK h a kd f
      = runO h Prod.fst (fun q : Str × Val => f q.2) (O.visitsK h kd (h.fields a)) := by
  rw [runO, ← O.mapKLoop_eq_mapSpec h h.length kd f (h.fields a) _ (Fr.append0 h rfl).ego]; rfl

/-! ### 5. MapX, Map, MapValues (scalar callback results: closed formulas)

For a callback returning Go slices / maps, `parseVal` allocates further fresh cells between the
additions to the result list; the general statements are in section 8.
-/

/-- a scalar result is stored by value; `parseVal` allocates nothing -/
theorem C14_parseVal_scalar (h : Heap) (g : GoVal) (hg : g.isScalar = true) :
    parseVal h g = (h, .ok (scalarVal g)) := parseVal_scalar h hg

/-- `MapX(f)`: the heap afterwards is the old heap (all old cells unchanged) plus one fresh list
cell at address `h.length` holding the converted results for the selected elements, in order -/
theorem C14_map (h : Heap) (a : Nat) (k : Kind) (f : Val → GoVal)
    (hf : ∀ v ∈ (h.items a).filterMap (selK h k), (f v).isScalar = true) :
    L.mapK h a k f
      = (h ++ [.list (((h.items a).filterMap (selK h k)).map (fun v => scalarVal (f v))) 0],
          .ok ⟨h.length, 0⟩) := by
  rw [C14_map_general_eq, runL_scalar h f _ hf]

/-- the fresh result cell and the untouched old cells, spelled out -/
theorem C14_map_cells (h : Heap) (a : Nat) (k : Kind) (f : Val → GoVal)
    (hf : ∀ v ∈ (h.items a).filterMap (selK h k), (f v).isScalar = true) :
    ∃ h1, L.mapK h a k f = (h1, .ok ⟨h.length, 0⟩) ∧
      h1.items h.length = ((h.items a).filterMap (selK h k)).map (fun v => scalarVal (f v)) ∧
      h1.length = h.length + 1 ∧ ∀ b, b < h.length → h1[b]? = h[b]? :=
  ⟨_, C14_map h a k f hf, Heap.items_append_self .., List.length_append,
    fun _ hb => List.getElem?_append_left hb⟩

theorem C14_map_untyped (h : Heap) (a : Nat) (f : Int → Val → GoVal)
    (hf : ∀ p ∈ (h.items a).zipIdx, (f (p.2 : Int) (h.getVal p.1)).isScalar = true) :
    L.map h a f
      = (h ++ [.list (((h.items a).zipIdx).map
            (fun p => scalarVal (f (p.2 : Int) (h.getVal p.1)))) 0], .ok ⟨h.length, 0⟩) := by
  rw [C14_map_untyped_general_eq, L.forEach_eq, runL_scalar _ _ _ (List.forall_mem_map.mpr hf), List.map_map]
  rfl

theorem C14_mapValues (h : Heap) (a : Nat) (f : Val → GoVal)
    (hf : ∀ v ∈ h.items a, (f (h.getVal v)).isScalar = true) :
    L.mapValues h a f
      = (h ++ [.list ((h.items a).map (fun v => scalarVal (f (h.getVal v)))) 0],
          .ok ⟨h.length, 0⟩) := by
  rw [C14_mapValues_general_eq, C14_foreachValue, runL_scalar _ _ _ (List.forall_mem_map.mpr hf),
    List.map_map]
  rfl

/-! ### 6. AllX, AllNumeric -/

theorem C14_all (h : Heap) (a : Nat) (k : Kind) :
    L.allK h a k = (h.items a).all (fun v => v.kind == k) := by
  simp only [L.allK, L.allKLoop_eq]

theorem C14_all_iff (h : Heap) (a : Nat) (k : Kind) :
    L.allK h a k = true ↔ ∀ v ∈ h.items a, v.kind = k := by
  simp only [C14_all, List.all_eq_true, beq_iff_eq]

theorem C14_allNumeric (h : Heap) (a : Nat) :
    L.allNumeric h a = (h.items a).all (fun v => v.kind == .int || v.kind == .float) := by
  simp only [L.allNumeric, L.allNumericLoop_eq]

theorem C14_allNumeric_iff (h : Heap) (a : Nat) :
    L.allNumeric h a = true ↔ ∀ v ∈ h.items a, v.kind = .int ∨ v.kind = .float := by
  simp only [C14_allNumeric, List.all_eq_true, Bool.or_eq_true, beq_iff_eq]

/-- vacuously true on the empty list -/
theorem C14_all_empty (h : Heap) (a : Nat) (k : Kind) (he : h.items a = []) :
    L.allK h a k = true ∧ L.allNumeric h a = true := by
  rw [C14_all, C14_allNumeric, he]; exact ⟨rfl, rfl⟩

/-! ### 7. objects -/

theorem C14_obj_foreach (h : Heap) (a : Nat) :
    O.forEach h a = (h.fields a).map (fun kv => (kv.1, h.getVal kv.2)) := rfl

/-- every field once, with its key and the value `Get(key)` returns (distinct keys) -/
theorem C14_obj_foreach_get (h : Heap) (a : Nat) (hnd : ((h.fields a).map (·.1)).Nodup) :
    ∀ p ∈ O.forEach h a, O.get h a p.1 = .ok p.2 := by
  intro p hp
  rw [C14_obj_foreach, List.mem_map] at hp
  obtain ⟨kv, hkv, rfl⟩ := hp
  have hl := lookup_of_mem (k := kv.1) (v := kv.2) hnd hkv
  simp [O.get, hl]

theorem C14_obj_foreachK (h : Heap) (a : Nat) (kd : Kind) :
    O.forEachK h a kd = ((h.fields a).map (·.2)).filterMap (L.sel h true kd) := by
  simp [O.forEachK, O.forEachKLoop_eq]

/-- another iteration order of the same map (same fields, same `ego` table) gives a
permutation of the log -/
theorem C14_obj_foreach_perm (h h' : Heap) (a : Nat) (hp : (h'.fields a).Perm (h.fields a))
    (he : ∀ b, h'.ego b = h.ego b) :
    (O.forEach h' a).Perm (O.forEach h a) := by
  rw [C14_obj_foreach, C14_obj_foreach]
  have : (fun kv : Str × Val => (kv.1, h'.getVal kv.2)) = fun kv => (kv.1, h.getVal kv.2) := by
    funext kv; rw [Heap.getVal_congr he]
  rw [this]
  exact hp.map _

theorem C14_obj_foreachK_perm (h h' : Heap) (a : Nat) (kd : Kind)
    (hp : (h'.fields a).Perm (h.fields a)) (he : ∀ b, h'.ego b = h.ego b) :
    (O.forEachK h' a kd).Perm (O.forEachK h a kd) := by
  rw [C14_obj_foreachK, C14_obj_foreachK]
  have : L.sel h' true kd = L.sel h true kd := by funext v; exact L.sel_congr he _ _ _
  rw [this]
  exact (hp.map _).filterMap _

/-- in particular: re-ordering the fields of the receiver cell itself -/
theorem C14_obj_foreachK_reorder (h : Heap) (a : Nat) (kd : Kind) (fs' : List (Str × Val))
    (hp : fs'.Perm (h.fields a)) :
    (O.forEachK (h.setFields a fs') a kd).Perm (O.forEachK h a kd) ∧
    (O.forEach (h.setFields a fs') a).Perm (O.forEach h a) := by
  have he := fun b => Heap.ego_setFields h a b fs'
  -- also when `a` is no object cell: then both field lists are empty
  have hf : ((h.setFields a fs').fields a).Perm (h.fields a) := by
    cases hl : h.isObj a
    · rw [Heap.setFields_of_not_isObj fs' hl]
    · rw [Heap.fields_setFields_same fs' hl]; exact hp
  exact ⟨C14_obj_foreachK_perm h _ a kd hf he, C14_obj_foreach_perm h _ a hf he⟩

/-- `Map(f)` on an object with scalar callback results: one fresh object cell holding, for every
field, the converted result under the same key -/
theorem C14_obj_map (h : Heap) (a : Nat) (f : Str → Val → GoVal)
    (hnd : ((h.fields a).map (·.1)).Nodup)
    (hf : ∀ kv ∈ h.fields a, (f kv.1 (h.getVal kv.2)).isScalar = true) :
    O.map h a f
      = (h ++ [.obj ((h.fields a).map (fun kv => (kv.1, scalarVal (f kv.1 (h.getVal kv.2))))) 0],
          .ok ⟨h.length, 0⟩) := by
  rw [C14_obj_map_general_eq, O.forEach, runO_scalar _ _ _ _ (by rw [List.map_map]; exact hnd)
    (List.forall_mem_map.mpr hf), List.map_map]
  rfl

/-- `MapX(f)` on an object -/
theorem C14_obj_mapK (h : Heap) (a : Nat) (kd : Kind) (f : Val → GoVal)
    (hnd : ((h.fields a).map (·.1)).Nodup)
    (hf : ∀ v ∈ ((h.fields a).map (·.2)).filterMap (selK h kd), (f v).isScalar = true) :
    O.mapK h a kd f
      = (h ++ [.obj ((h.fields a).filterMap (O.mapKEntry h kd f)) 0], .ok ⟨h.length, 0⟩) := by
  rw [C14_obj_mapK_general_eq, runO_scalar _ _ _ _ (O.visitsK_nodup h kd _ hnd)
    (fun q hq => hf q.2 (O.visitsK_snd h kd _ ▸ List.mem_map_of_mem hq)), O.visitsK_map_entry]

/-- stated through `lookup`: the result has a field `k` exactly when the receiver has a field
`k` of kind `kd`, and it holds the converted callback result for that field -/
theorem C14_obj_mapK_lookup (h : Heap) (a : Nat) (kd : Kind) (f : Val → GoVal)
    (hnd : ((h.fields a).map (·.1)).Nodup)
    (hf : ∀ v ∈ ((h.fields a).map (·.2)).filterMap (selK h kd), (f v).isScalar = true) :
    ∃ h1, O.mapK h a kd f = (h1, .ok ⟨h.length, 0⟩) ∧ (∀ b, b < h.length → h1[b]? = h[b]?) ∧
      ∀ k, lookup (h1.fields h.length) k
        = ((lookup (h.fields a) k).bind (selK h kd)).map (fun x => scalarVal (f x)) := by
  refine ⟨_, C14_obj_mapK h a kd f hnd hf, fun b hb => List.getElem?_append_left hb, fun k => ?_⟩
  rw [Heap.fields_append_new, ← O.visitsK_map_entry,
    lookup_map_val (fun _ x => scalarVal (f x)) (O.visitsK h kd (h.fields a)) k, O.visitsK,
    lookup_filterMap_nodup _ _ hnd]

theorem C14_obj_map_lookup (h : Heap) (a : Nat) (f : Str → Val → GoVal)
    (hnd : ((h.fields a).map (·.1)).Nodup)
    (hf : ∀ kv ∈ h.fields a, (f kv.1 (h.getVal kv.2)).isScalar = true) :
    ∃ h1, O.map h a f = (h1, .ok ⟨h.length, 0⟩) ∧ (∀ b, b < h.length → h1[b]? = h[b]?) ∧
      ∀ k, lookup (h1.fields h.length) k
        = (lookup (h.fields a) k).map (fun v => scalarVal (f k (h.getVal v))) := by
  refine ⟨_, C14_obj_map h a f hnd hf, fun b hb => List.getElem?_append_left hb, fun k => ?_⟩
  rw [Heap.fields_append_new]
  exact lookup_map_val (fun k v => scalarVal (f k (h.getVal v))) (h.fields a) k

/-! ### 8. Map variants with arbitrary callback results

`f` is arbitrary: its results may be native slices / maps (nested fresh cells) or unsupported
values (`parseVal` panics). Vocabulary (`Anytype/Lemmas/MapGeneral.lean`):

* `MapSteps store g h₀ [x₀,…,xₙ₋₁] [v₀,…,vₙ₋₁] hₙ`: there are heaps with
  `parseVal hᵢ (g xᵢ) = (hᵢ', .ok vᵢ)` and `hᵢ₊₁ = store hᵢ' xᵢ vᵢ` — every listed element is
  visited once, in order, and its normalised result is stored before the next one is visited;
* `storeL res` is `result.Add(v)`, `storeO res key` is `result.Set(key x, v)` on cell `res`;
* `runL` / `runO`: the whole call, see before section 5.
-/

/-- success: the result is the fresh cell, every old cell is unchanged, and the items of the
result cell are, in order, the normalised results for the selected elements -/
theorem C14_map_general (h : Heap) (a : Nat) (k : Kind) (f : Val → GoVal) (h' : Heap) (r : Ref)
    (hm : L.mapK h a k f = (h', .ok r)) :
    r = ⟨h.length, 0⟩ ∧ (∀ b, b < h.length → h'[b]? = h[b]?) ∧ (∀ b, h'.ego b = h.ego b) ∧
    ∃ vs, MapSteps (storeL h.length) f (h ++ [.list [] 0]) ((h.items a).filterMap (selK h k)) vs h' ∧
      h'.items r.addr = vs ∧ vs.length = ((h.items a).filterMap (selK h k)).length := by
  rw [C14_map_general_eq] at hm; exact runL_ok_facts hm

/-- … and conversely: the call succeeds exactly when every `parseVal` along the chain does -/
theorem C14_map_general_iff (h : Heap) (a : Nat) (k : Kind) (f : Val → GoVal) (h' : Heap)
    (r : Ref) :
    L.mapK h a k f = (h', .ok r) ↔ r = ⟨h.length, 0⟩ ∧
      ∃ vs, MapSteps (storeL h.length) f (h ++ [.list [] 0])
        ((h.items a).filterMap (selK h k)) vs h' := by
  rw [C14_map_general_eq]; exact mapCall_ok_iff ..

/-- panic: exactly when, after a successful run over a prefix of the selected elements, the
next result makes `parseVal` panic; the call panics with that kind -/
theorem C14_map_general_panic_iff (h : Heap) (a : Nat) (k : Kind) (f : Val → GoVal) (h' : Heap)
    (p : PanicKind) :
    L.mapK h a k f = (h', .panic p) ↔
      ∃ xs₁ x xs₂ vs h₁, (h.items a).filterMap (selK h k) = xs₁ ++ x :: xs₂ ∧
        MapSteps (storeL h.length) f (h ++ [.list [] 0]) xs₁ vs h₁ ∧
        parseVal h₁ (f x) = (h', .panic p) := by
  rw [C14_map_general_eq]; exact mapCall_panic_iff ..

/-- success or panic: all old cells are unchanged (and so is the `ego` table) -/
theorem C14_map_general_frame (h : Heap) (a : Nat) (k : Kind) (f : Val → GoVal) :
    h.length ≤ (L.mapK h a k f).1.length ∧ (∀ b, b < h.length → (L.mapK h a k f).1[b]? = h[b]?) ∧
    ∀ b, (L.mapK h a k f).1.ego b = h.ego b := by
  rw [C14_map_general_eq]
  exact ⟨(runL_fr _ _ _).len, (runL_fr _ _ _).old, (runL_fr _ _ _).ego⟩

theorem C14_map_untyped_general (h : Heap) (a : Nat) (f : Int → Val → GoVal) (h' : Heap) (r : Ref)
    (hm : L.map h a f = (h', .ok r)) :
    r = ⟨h.length, 0⟩ ∧ (∀ b, b < h.length → h'[b]? = h[b]?) ∧ (∀ b, h'.ego b = h.ego b) ∧
    ∃ vs, MapSteps (storeL h.length) (fun q : Int × Val => f q.1 q.2) (h ++ [.list [] 0])
        (L.forEach h a) vs h' ∧
      h'.items r.addr = vs ∧ vs.length = (h.items a).length := by
  rw [C14_map_untyped_general_eq] at hm
  have := runL_ok_facts hm
  rwa [C14_foreach_untyped_length] at this

theorem C14_map_untyped_general_iff (h : Heap) (a : Nat) (f : Int → Val → GoVal) (h' : Heap)
    (r : Ref) :
    L.map h a f = (h', .ok r) ↔ r = ⟨h.length, 0⟩ ∧
      ∃ vs, MapSteps (storeL h.length) (fun q : Int × Val => f q.1 q.2) (h ++ [.list [] 0])
        (L.forEach h a) vs h' := by
  rw [C14_map_untyped_general_eq]; exact mapCall_ok_iff ..

theorem C14_map_untyped_general_panic_iff (h : Heap) (a : Nat) (f : Int → Val → GoVal)
    (h' : Heap) (p : PanicKind) :
    L.map h a f = (h', .panic p) ↔
      ∃ xs₁ x xs₂ vs h₁, L.forEach h a = xs₁ ++ x :: xs₂ ∧
        MapSteps (storeL h.length) (fun q : Int × Val => f q.1 q.2) (h ++ [.list [] 0]) xs₁ vs h₁ ∧
        parseVal h₁ (f x.1 x.2) = (h', .panic p) := by
  rw [C14_map_untyped_general_eq]; exact mapCall_panic_iff ..

theorem C14_map_untyped_general_frame (h : Heap) (a : Nat) (f : Int → Val → GoVal) :
    h.length ≤ (L.map h a f).1.length ∧ (∀ b, b < h.length → (L.map h a f).1[b]? = h[b]?) ∧
    ∀ b, (L.map h a f).1.ego b = h.ego b := by
  rw [C14_map_untyped_general_eq]
  exact ⟨(runL_fr _ _ _).len, (runL_fr _ _ _).old, (runL_fr _ _ _).ego⟩

theorem C14_mapValues_general (h : Heap) (a : Nat) (f : Val → GoVal) (h' : Heap) (r : Ref)
    (hm : L.mapValues h a f = (h', .ok r)) :
    r = ⟨h.length, 0⟩ ∧ (∀ b, b < h.length → h'[b]? = h[b]?) ∧ (∀ b, h'.ego b = h.ego b) ∧
    ∃ vs, MapSteps (storeL h.length) f (h ++ [.list [] 0]) ((h.items a).map h.getVal) vs h' ∧
      h'.items r.addr = vs ∧ vs.length = (h.items a).length := by
  rw [C14_mapValues_general_eq, C14_foreachValue] at hm
  have := runL_ok_facts hm
  rwa [List.length_map] at this

theorem C14_mapValues_general_iff (h : Heap) (a : Nat) (f : Val → GoVal) (h' : Heap) (r : Ref) :
    L.mapValues h a f = (h', .ok r) ↔ r = ⟨h.length, 0⟩ ∧
      ∃ vs, MapSteps (storeL h.length) f (h ++ [.list [] 0]) ((h.items a).map h.getVal) vs h' := by
  rw [C14_mapValues_general_eq, C14_foreachValue]; exact mapCall_ok_iff ..

theorem C14_mapValues_general_panic_iff (h : Heap) (a : Nat) (f : Val → GoVal) (h' : Heap)
    (p : PanicKind) :
    L.mapValues h a f = (h', .panic p) ↔
      ∃ xs₁ x xs₂ vs h₁, (h.items a).map h.getVal = xs₁ ++ x :: xs₂ ∧
        MapSteps (storeL h.length) f (h ++ [.list [] 0]) xs₁ vs h₁ ∧
        parseVal h₁ (f x) = (h', .panic p) := by
  rw [C14_mapValues_general_eq, C14_foreachValue]; exact mapCall_panic_iff ..

theorem C14_mapValues_general_frame (h : Heap) (a : Nat) (f : Val → GoVal) :
    h.length ≤ (L.mapValues h a f).1.length ∧
    (∀ b, b < h.length → (L.mapValues h a f).1[b]? = h[b]?) ∧
    ∀ b, (L.mapValues h a f).1.ego b = h.ego b :=
  C14_map_untyped_general_frame h a _

/-- success (distinct keys): fresh object cell, old cells unchanged, and the i-th normalised
result is stored under the key of the i-th field; no other key is present -/
theorem C14_obj_map_general (h : Heap) (a : Nat) (f : Str → Val → GoVal)
    (hnd : ((h.fields a).map (·.1)).Nodup) (h' : Heap) (r : Ref)
    (hm : O.map h a f = (h', .ok r)) :
    r = ⟨h.length, 0⟩ ∧ (∀ b, b < h.length → h'[b]? = h[b]?) ∧ (∀ b, h'.ego b = h.ego b) ∧
    ∃ vs, MapSteps (storeO h.length Prod.fst) (fun q : Str × Val => f q.1 q.2) (h ++ [.obj [] 0])
        (O.forEach h a) vs h' ∧
      vs.length = (O.forEach h a).length ∧
      h'.fields r.addr = ((O.forEach h a).map Prod.fst).zip vs ∧
      (∀ (i : Nat) (hi : i < (O.forEach h a).length) (hv : i < vs.length),
        lookup (h'.fields r.addr) ((O.forEach h a)[i]).1 = some vs[i]) ∧
      (∀ k, k ∉ (O.forEach h a).map Prod.fst → lookup (h'.fields r.addr) k = none) := by
  rw [C14_obj_map_general_eq] at hm
  exact runO_ok_facts (by rw [O.forEach, List.map_map]; exact hnd) hm

theorem C14_obj_map_general_iff (h : Heap) (a : Nat) (f : Str → Val → GoVal) (h' : Heap)
    (r : Ref) :
    O.map h a f = (h', .ok r) ↔ r = ⟨h.length, 0⟩ ∧
      ∃ vs, MapSteps (storeO h.length Prod.fst) (fun q : Str × Val => f q.1 q.2)
        (h ++ [.obj [] 0]) (O.forEach h a) vs h' := by
  rw [C14_obj_map_general_eq]; exact mapCall_ok_iff ..

theorem C14_obj_map_general_panic_iff (h : Heap) (a : Nat) (f : Str → Val → GoVal) (h' : Heap)
    (p : PanicKind) :
    O.map h a f = (h', .panic p) ↔
      ∃ xs₁ x xs₂ vs h₁, O.forEach h a = xs₁ ++ x :: xs₂ ∧
        MapSteps (storeO h.length Prod.fst) (fun q : Str × Val => f q.1 q.2) (h ++ [.obj [] 0])
          xs₁ vs h₁ ∧
        parseVal h₁ (f x.1 x.2) = (h', .panic p) := by
  rw [C14_obj_map_general_eq]; exact mapCall_panic_iff ..

theorem C14_obj_map_general_frame (h : Heap) (a : Nat) (f : Str → Val → GoVal) :
    h.length ≤ (O.map h a f).1.length ∧ (∀ b, b < h.length → (O.map h a f).1[b]? = h[b]?) ∧
    ∀ b, (O.map h a f).1.ego b = h.ego b := by
  rw [C14_obj_map_general_eq]
  exact ⟨(runO_fr _ _ _ _).len, (runO_fr _ _ _ _).old, (runO_fr _ _ _ _).ego⟩

/-- the fields the object `MapX` visits: exactly the fields of kind `kd`, each with its key and
what the selection hands on, in field order -/
theorem C14_obj_visitsK (h : Heap) (a : Nat) (kd : Kind) :
    O.visitsK h kd (h.fields a)
      = (h.fields a).filterMap (fun kv => (selK h kd kv.2).map (fun x => (kv.1, x))) ∧
    (O.visitsK h kd (h.fields a)).map Prod.snd = ((h.fields a).map (·.2)).filterMap (selK h kd) :=
  ⟨rfl, O.visitsK_snd h kd _⟩

theorem C14_obj_mapK_general (h : Heap) (a : Nat) (kd : Kind) (f : Val → GoVal)
    (hnd : ((h.fields a).map (·.1)).Nodup) (h' : Heap) (r : Ref)
    (hm : O.mapK h a kd f = (h', .ok r)) :
    r = ⟨h.length, 0⟩ ∧ (∀ b, b < h.length → h'[b]? = h[b]?) ∧ (∀ b, h'.ego b = h.ego b) ∧
    ∃ vs, MapSteps (storeO h.length Prod.fst) (fun q : Str × Val => f q.2) (h ++ [.obj [] 0])
        (O.visitsK h kd (h.fields a)) vs h' ∧
      vs.length = (O.visitsK h kd (h.fields a)).length ∧
      h'.fields r.addr = ((O.visitsK h kd (h.fields a)).map Prod.fst).zip vs ∧
      (∀ (i : Nat) (hi : i < (O.visitsK h kd (h.fields a)).length) (hv : i < vs.length),
        lookup (h'.fields r.addr) ((O.visitsK h kd (h.fields a))[i]).1 = some vs[i]) ∧
      (∀ k, k ∉ (O.visitsK h kd (h.fields a)).map Prod.fst →
        lookup (h'.fields r.addr) k = none) := by
  rw [C14_obj_mapK_general_eq] at hm
  exact runO_ok_facts (O.visitsK_nodup h kd _ hnd) hm

theorem C14_obj_mapK_general_iff (h : Heap) (a : Nat) (kd : Kind) (f : Val → GoVal) (h' : Heap)
    (r : Ref) :
    O.mapK h a kd f = (h', .ok r) ↔ r = ⟨h.length, 0⟩ ∧
      ∃ vs, MapSteps (storeO h.length Prod.fst) (fun q : Str × Val => f q.2)
        (h ++ [.obj [] 0]) (O.visitsK h kd (h.fields a)) vs h' := by
  rw [C14_obj_mapK_general_eq]; exact mapCall_ok_iff ..

theorem C14_obj_mapK_general_panic_iff (h : Heap) (a : Nat) (kd : Kind) (f : Val → GoVal)
    (h' : Heap) (p : PanicKind) :
    O.mapK h a kd f = (h', .panic p) ↔
      ∃ xs₁ x xs₂ vs h₁, O.visitsK h kd (h.fields a) = xs₁ ++ x :: xs₂ ∧
        MapSteps (storeO h.length Prod.fst) (fun q : Str × Val => f q.2) (h ++ [.obj [] 0])
          xs₁ vs h₁ ∧
        parseVal h₁ (f x.2) = (h', .panic p) := by
  rw [C14_obj_mapK_general_eq]; exact mapCall_panic_iff ..

theorem C14_obj_mapK_general_frame (h : Heap) (a : Nat) (kd : Kind) (f : Val → GoVal) :
    h.length ≤ (O.mapK h a kd f).1.length ∧
    (∀ b, b < h.length → (O.mapK h a kd f).1[b]? = h[b]?) ∧
    ∀ b, (O.mapK h a kd f).1.ego b = h.ego b := by
  rw [C14_obj_mapK_general_eq]
  exact ⟨(runO_fr _ _ _ _).len, (runO_fr _ _ _ _).old, (runO_fr _ _ _ _).ego⟩

/-! ### non-vacuity: concrete instances -/

section Examples

/-- cell 0: a list with ints interleaved with other kinds (one of them a nested list, cell 1,
whose registered `ego` level is 2); cell 2: an object -/
def exHeap : Heap :=
  [ .list [.int 1, .str ['s'], .int 2, .nil, .list ⟨1, 0⟩, .int 3, .float F64.one] 0,
    .list [.bool true] 2,
    .obj [(['a'], .int 10), (['b'], .str ['x']), (['c'], .int 30), (['d'], .list ⟨1, 0⟩)] 0 ]

def exInc : Val → GoVal
  | .int i => .intw .int (i + 1)
  | _ => .slice .any []          -- not scalar, but never reached by `MapInts`

example : L.sliceK exHeap 0 .int = [.int 1, .int 2, .int 3] := by decide +kernel
example : L.sliceK exHeap 0 .list = [.list ⟨1, 0⟩] := by decide +kernel
example : L.forEachK exHeap 0 .string = [.str ['s']] := by decide +kernel
example : L.forEach exHeap 0
    = [(0, .int 1), (1, .str ['s']), (2, .int 2), (3, .nil), (4, .list ⟨1, 2⟩), (5, .int 3),
       (6, .float F64.one)] := by decide +kernel
example : L.reduceK exHeap 0 .int (0 : Int) (fun acc v => match v with | .int i => acc + i | _ => acc)
    = 6 := by decide +kernel
example : L.allK exHeap 0 .int = false ∧ L.allK exHeap 1 .bool = true ∧
    L.allNumeric exHeap 0 = false := by decide +kernel
example : (L.filterK exHeap 0 .int (fun v => v != .int 2)).1.items 3 = [.int 1, .int 3] := by
  decide +kernel

/-- hypotheses of `C14_typeOf` / `C14_get`, `C14_all_empty`, `C14_parseVal_scalar` -/
example : 2 < (exHeap.items 0).length := by decide +kernel
example : L.typeOf exHeap 0 2 = .int ∧ L.typeOf exHeap 0 4 = .list := by decide +kernel
example : Heap.items [.list [] 0] 0 = [] := by decide +kernel
example : (GoVal.intw .u8 300).isScalar = true ∧ scalarVal (.intw .i64 (2 ^ 63)) = .int (-2 ^ 63) := by
  decide +kernel

/-- the hypothesis of `C14_map` holds for a callback that is scalar only on ints -/
example : ∀ v ∈ (exHeap.items 0).filterMap (selK exHeap .int), (exInc v).isScalar = true := by
  decide +kernel

example : L.mapK exHeap 0 .int exInc
    = (exHeap ++ [.list [.int 2, .int 3, .int 4] 0], .ok ⟨3, 0⟩) := by
  rw [C14_map exHeap 0 .int exInc (by decide +kernel)]; rfl

/-- hypothesis of `C14_map_untyped` / `C14_mapValues`: handing the value back -/
example : ∀ p ∈ (exHeap.items 0).zipIdx, ((fun (_ : Int) (v : Val) => v.toGo) (p.2 : Int)
    (exHeap.getVal p.1)).isScalar = true := fun _ _ => Val.toGo_isScalar _

/-- hypotheses of `C14_obj_map` / `C14_obj_mapK`: distinct keys, scalar results -/
example : ((exHeap.fields 2).map (·.1)).Nodup := by decide +kernel
example : ∀ v ∈ ((exHeap.fields 2).map (·.2)).filterMap (selK exHeap .int),
    (exInc v).isScalar = true := by decide +kernel
example : O.mapK exHeap 2 .int exInc
    = (exHeap ++ [.obj [(['a'], .int 11), (['c'], .int 31)] 0], .ok ⟨3, 0⟩) := by
  rw [C14_obj_mapK exHeap 2 .int exInc (by decide +kernel) (by decide +kernel)]; rfl
example : O.forEachK exHeap 2 .int = [.int 10, .int 30] := by decide +kernel

/-- a callback whose results allocate: every int becomes a two-element native slice; and one
that is unsupported from the second int on -/
def exDup : Val → GoVal
  | .int i => .slice .any [.intw .int i, .slice .int [.intw .int (i + 1)]]
  | _ => .unsupported

def exBad : Val → GoVal
  | .int 1 => .intw .int 1
  | _ => .slice .any [.nil, .unsupported]

/-- results are compared by evaluation in the examples below -/
local instance {α} [DecidableEq α] : DecidableEq (Out α)
  | .ok a, .ok b => decidable_of_iff (a = b) ⟨congrArg _, Out.ok.inj⟩
  | .panic a, .panic b => decidable_of_iff (a = b) ⟨congrArg _, Out.panic.inj⟩
  | .ok _, .panic _ | .panic _, .ok _ => isFalse nofun

/-- the hypothesis of `C14_map_general` is satisfiable with nested results: cells 4–9 are the
nested cells, cell 3 the result, cells 0–2 unchanged -/
example : L.mapK exHeap 0 .int exDup
    = (exHeap ++ [.list [.list ⟨4, 0⟩, .list ⟨6, 0⟩, .list ⟨8, 0⟩] 0,
        .list [.int 1, .list ⟨5, 0⟩] 0, .list [.int 2] 0,
        .list [.int 2, .list ⟨7, 0⟩] 0, .list [.int 3] 0,
        .list [.int 3, .list ⟨9, 0⟩] 0, .list [.int 4] 0], .ok ⟨3, 0⟩) := by decide +kernel

/-- the hypothesis of `C14_map_general_panic_iff`: the first int is stored, the second result
panics inside a nested slice -/
example : (L.mapK exHeap 0 .int exBad).2 = .panic .unsupported ∧
    (L.mapK exHeap 0 .int exBad).1.items 3 = [.int 1] := by decide +kernel

/-- hypotheses of `C14_obj_map_general` / `C14_obj_mapK_general` with allocating results -/
example : (O.mapK exHeap 2 .int exDup).2 = .ok ⟨3, 0⟩ ∧
    (O.mapK exHeap 2 .int exDup).1.fields 3 = [(['a'], .list ⟨4, 0⟩), (['c'], .list ⟨6, 0⟩)] := by
  decide +kernel
example : (O.map exHeap 2 (fun _ v => exDup v)).2 = .panic .unsupported := by decide +kernel
example : (L.map exHeap 1 (fun i _ => .slice .int [.intw .int i])).2 = .ok ⟨3, 0⟩ ∧
    (L.mapValues exHeap 1 (fun _ => .map .any [(['k'], .nil)])).2 = .ok ⟨3, 0⟩ := by decide +kernel

/-- hypothesis of the permutation theorems: a genuinely different order -/
example : ([(['c'], Val.int 30), (['a'], .int 10), (['d'], .list ⟨1, 0⟩), (['b'], .str ['x'])]).Perm
    (exHeap.fields 2) := by decide +kernel

end Examples

end Anytype

#print axioms Anytype.C14_sel_iff
#print axioms Anytype.C14_typeOf
#print axioms Anytype.C14_get
#print axioms Anytype.C14_select_typeOf
#print axioms Anytype.C14_slice
#print axioms Anytype.C14_slice_kind
#print axioms Anytype.C14_slice_typeOf
#print axioms Anytype.C14_slice_length
#print axioms Anytype.C14_slice_getElem
#print axioms Anytype.C14_slice_all_kind
#print axioms Anytype.C14_foreach
#print axioms Anytype.C14_foreach_typeOf
#print axioms Anytype.C14_foreach_untyped
#print axioms Anytype.C14_foreach_untyped_length
#print axioms Anytype.C14_foreach_untyped_get
#print axioms Anytype.C14_foreachValue
#print axioms Anytype.C14_filter
#print axioms Anytype.C14_filter_items
#print axioms Anytype.C14_filter_untyped
#print axioms Anytype.C14_filter_untyped_items
#print axioms Anytype.C14_reduce
#print axioms Anytype.C14_reduce_typeOf
#print axioms Anytype.C14_reduce_untyped
#print axioms Anytype.C14_parseVal_scalar
#print axioms Anytype.C14_map
#print axioms Anytype.C14_map_cells
#print axioms Anytype.C14_map_untyped
#print axioms Anytype.C14_mapValues
#print axioms Anytype.C14_all
#print axioms Anytype.C14_all_iff
#print axioms Anytype.C14_allNumeric
#print axioms Anytype.C14_allNumeric_iff
#print axioms Anytype.C14_all_empty
#print axioms Anytype.C14_obj_foreach
#print axioms Anytype.C14_obj_foreach_get
#print axioms Anytype.C14_obj_foreachK
#print axioms Anytype.C14_obj_foreach_perm
#print axioms Anytype.C14_obj_foreachK_perm
#print axioms Anytype.C14_obj_foreachK_reorder
#print axioms Anytype.C14_obj_map
#print axioms Anytype.C14_obj_mapK
#print axioms Anytype.C14_obj_mapK_lookup
#print axioms Anytype.C14_obj_map_lookup
#print axioms Anytype.C14_map_general_eq
#print axioms Anytype.C14_map_general
#print axioms Anytype.C14_map_general_iff
#print axioms Anytype.C14_map_general_panic_iff
#print axioms Anytype.C14_map_general_frame
#print axioms Anytype.C14_map_untyped_general_eq
#print axioms Anytype.C14_map_untyped_general
#print axioms Anytype.C14_map_untyped_general_iff
#print axioms Anytype.C14_map_untyped_general_panic_iff
#print axioms Anytype.C14_map_untyped_general_frame
#print axioms Anytype.C14_mapValues_general_eq
#print axioms Anytype.C14_mapValues_general
#print axioms Anytype.C14_mapValues_general_iff
#print axioms Anytype.C14_mapValues_general_panic_iff
#print axioms Anytype.C14_mapValues_general_frame
#print axioms Anytype.C14_obj_map_general_eq
#print axioms Anytype.C14_obj_map_general
#print axioms Anytype.C14_obj_map_general_iff
#print axioms Anytype.C14_obj_map_general_panic_iff
#print axioms Anytype.C14_obj_map_general_frame
#print axioms Anytype.C14_obj_visitsK
#print axioms Anytype.C14_obj_mapK_general_eq
#print axioms Anytype.C14_obj_mapK_general
#print axioms Anytype.C14_obj_mapK_general_iff
#print axioms Anytype.C14_obj_mapK_general_panic_iff
#print axioms Anytype.C14_obj_mapK_general_frame
