/-
C18. On lists whose elements are all numeric (ints and finite floats in any mixture), Sum, Prod,
Min, Max and Avg equal the sum, product, minimum, maximum and arithmetic mean of the elements
taken as float64; IntSum, IntProd, IntMin and IntMax equal the same folds over exactly the int
elements of any list, ignoring elements of other kinds. With no qualifying element the sums are
0, the products 1 and the minima and maxima 0, and none of these calls modifies the list.

The theorems are generic over the float arithmetic `[FloatArith F]` (they say which elements are
folded, in which order, with which operation); the order hypotheses of Min / Max are discharged
for `F64.ltGo` on finite values at the end.

`floats l` are the numeric elements taken as float64 (`float64(i)` for an int `i`), `ints l`
the int elements, both in list order (`Anytype/Lemmas/Aggregates.lean`).

"None of these calls modifies the list": by typing. The aggregates are functions of the item
list `numsOf h a` (a pure view of `h.items a`) to a number; no heap is returned, so no cell can
change. `C18_readonly` records that the view depends on nothing but the receiver's items.
-/
import Anytype.Lemmas.Aggregates
import Anytype.Lemmas.Views
import Anytype.Lemmas.OfIntFinite
namespace Anytype

section Generic
variable {F : Type} [FloatArith F]
open FloatArith

/-! ### 8. Sum, Prod, Avg -/

theorem C18_sum (l : List (Num F)) : Agg.sum l = (floats l).foldl add zero :=
  Agg.sumLoop_eq l zero

theorem C18_prod (l : List (Num F)) : Agg.prod l = (floats l).foldl mul one :=
  Agg.prodLoop_eq l one

theorem C18_avg (l : List (Num F)) : Agg.avg l = div (Agg.sum l) (ofInt l.length) := rfl

/-- on an all-numeric list every element takes part: `floats l` is the whole list taken as
float64, so `Avg` divides the sum by the number of summands -/
theorem C18_floats_allNumeric (l : List (Num F)) (hnum : ∀ x ∈ l, x.isNum = true) :
    (floats l).map some = l.map Num.toF ∧ (floats l).length = l.length := by
  induction l with
  | nil => exact ⟨rfl, rfl⟩
  | cons x l ih =>
    obtain ⟨h1, h2⟩ := ih (fun y hy => hnum y (List.mem_cons_of_mem _ hy))
    cases x with
    | other => exact absurd (hnum .other List.mem_cons_self) Bool.false_ne_true
    | int i => simp [Num.toF, h1, h2]
    | float f => simp [Num.toF, h1, h2]

theorem C18_avg_allNumeric (l : List (Num F)) (hnum : ∀ x ∈ l, x.isNum = true) :
    Agg.avg l = div ((floats l).foldl add zero) (ofInt (floats l).length) := by
  rw [C18_avg, C18_sum, (C18_floats_allNumeric l hnum).2]

/-! ### 9. IntSum, IntProd -/

omit [FloatArith F] in
/-- the loop as written: wrap-around after every step -/
theorem C18_intSum_steps (l : List (Num F)) :
    Agg.intSum l = (ints l).foldl (fun r v => wrap64 (r + v)) 0 :=
  Agg.intSumLoop_eq l 0

omit [FloatArith F] in
theorem C18_intProd_steps (l : List (Num F)) :
    Agg.intProd l = (ints l).foldl (fun r v => wrap64 (r * v)) 1 :=
  Agg.intProdLoop_eq l 1

theorem C18_wrap64_add (a b : Int) : wrap64 (wrap64 a + b) = wrap64 (a + b) := wrap64_add_left a b
theorem C18_wrap64_mul (a b : Int) : wrap64 (wrap64 a * b) = wrap64 (a * b) := wrap64_mul_left a b

omit [FloatArith F] in
/-- `IntSum` is the true sum of the int elements reduced to 64-bit two's complement -/
theorem C18_intSum (l : List (Num F)) : Agg.intSum l = wrap64 ((ints l).foldl (· + ·) 0) := by
  rw [C18_intSum_steps]
  exact foldl_wrap (· + ·) wrap64_add_left (ints l) 0

omit [FloatArith F] in
/-- `IntProd` is the true product of the int elements reduced to 64-bit two's complement -/
theorem C18_intProd (l : List (Num F)) : Agg.intProd l = wrap64 ((ints l).foldl (· * ·) 1) := by
  rw [C18_intProd_steps]
  exact foldl_wrap (· * ·) wrap64_mul_left (ints l) 1

omit [FloatArith F] in
/-- when the true sum fits a Go `int`, `IntSum` is the true sum -/
theorem C18_intSum_exact (l : List (Num F)) (hr : InRange ((ints l).foldl (· + ·) 0)) :
    Agg.intSum l = (ints l).foldl (· + ·) 0 := by
  rw [C18_intSum, wrap64_of_inRange hr]

omit [FloatArith F] in
theorem C18_intProd_exact (l : List (Num F)) (hr : InRange ((ints l).foldl (· * ·) 1)) :
    Agg.intProd l = (ints l).foldl (· * ·) 1 := by
  rw [C18_intProd, wrap64_of_inRange hr]

/-! ### 10. IntMin, IntMax -/

omit [FloatArith F] in
theorem C18_intMin (l : List (Num F)) (hne : ints l ≠ []) (hr : ∀ i ∈ ints l, InRange i) :
    Agg.intMin l ∈ ints l ∧ ∀ i ∈ ints l, Agg.intMin l ≤ i := by
  unfold Agg.intMin
  rw [Agg.intMinLoop_eq]
  simp only [List.isEmpty_eq_false_iff.2 hne, Bool.not_false, Bool.or_true, if_true]
  have := minFold_top (fun a b : Int => decide (a < b)) (fun _ => True) (by simp)
    (by simp only [decide_eq_true_eq]; omega) (ints l) hne (2 ^ 63 - 1) (fun _ _ => trivial)
    (fun i hi => by have := hr i hi; unfold InRange at this; simp only [decide_eq_true_eq]; omega)
  simpa only [decide_eq_true_eq, decide_eq_false_iff_not, Int.not_lt] using this

omit [FloatArith F] in
theorem C18_intMax (l : List (Num F)) (hne : ints l ≠ []) (hr : ∀ i ∈ ints l, InRange i) :
    Agg.intMax l ∈ ints l ∧ ∀ i ∈ ints l, i ≤ Agg.intMax l := by
  unfold Agg.intMax
  rw [Agg.intMaxLoop_eq]
  simp only [List.isEmpty_eq_false_iff.2 hne, Bool.not_false, Bool.or_true, if_true]
  have := minFold_top (fun a b : Int => decide (a > b)) (fun _ => True) (by simp)
    (by simp only [decide_eq_true_eq]; omega) (ints l) hne (-2 ^ 63) (fun _ _ => trivial)
    (fun i hi => by have := hr i hi; unfold InRange at this; simp only [decide_eq_true_eq]; omega)
  simpa only [decide_eq_true_eq, decide_eq_false_iff_not, Int.not_lt, gt_iff_lt] using this

/-! ### 11. Min, Max

Hypotheses about `lt`, only on the values that occur (`floats l`): irreflexive, transitive, and
every value is `≤ MaxFloat64` in the sense `lt x maxFinite ∨ x = maxFinite` (this is what
"total on the values and `¬ lt maxFinite x`" gives; nothing more of totality is needed, which
matters because `ltGo` does not separate `+0` and `-0`). For Max: `lt negMaxFinite x ∨ x = negMaxFinite`.
-/

theorem C18_min (l : List (Num F)) (hne : l ≠ []) (hnum : ∀ x ∈ l, x.isNum = true)
    (irrefl : ∀ x ∈ floats l, lt x x = false)
    (trans : ∀ x ∈ floats l, ∀ y ∈ floats l, ∀ z ∈ floats l,
      lt x y = true → lt y z = true → lt x z = true)
    (hle : ∀ x ∈ floats l, lt x maxFinite = true ∨ x = maxFinite) :
    ∃ m, Agg.min l = some m ∧ m ∈ floats l ∧ ∀ x ∈ floats l, lt x m = false := by
  unfold Agg.min
  rw [Agg.minLoop_some l _ _ hnum]
  simp only [List.isEmpty_eq_false_iff.2 hne, Bool.not_false, Bool.or_true, if_true]
  exact ⟨_, rfl, minFold_top lt (· ∈ floats l) irrefl
    (fun x y z hx hy hz => trans x hx y hy z hz) _ (floats_ne_nil l hne hnum) _ (fun _ h => h) hle⟩

theorem C18_max (l : List (Num F)) (hne : l ≠ []) (hnum : ∀ x ∈ l, x.isNum = true)
    (irrefl : ∀ x ∈ floats l, lt x x = false)
    (trans : ∀ x ∈ floats l, ∀ y ∈ floats l, ∀ z ∈ floats l,
      lt x y = true → lt y z = true → lt x z = true)
    (hge : ∀ x ∈ floats l, lt negMaxFinite x = true ∨ x = negMaxFinite) :
    ∃ m, Agg.max l = some m ∧ m ∈ floats l ∧ ∀ x ∈ floats l, lt m x = false := by
  unfold Agg.max
  rw [Agg.maxLoop_some l _ _ hnum]
  simp only [List.isEmpty_eq_false_iff.2 hne, Bool.not_false, Bool.or_true, if_true]
  exact ⟨_, rfl, minFold_top (fun a b => lt b a) (· ∈ floats l) irrefl
    (fun x y z hx hy hz hxy hyz => trans z hz y hy x hx hyz hxy) _ (floats_ne_nil l hne hnum) _
    (fun _ h => h) hge⟩

/-- a non-numeric element makes `Min` / `Max` panic (`item.(float64)` fails) -/
theorem C18_min_max_panic (l : List (Num F)) (h : ∃ x ∈ l, x.isNum = false) :
    Agg.min l = none ∧ Agg.max l = none := by
  unfold Agg.min Agg.max
  rw [Agg.minLoop_none l _ _ h, Agg.maxLoop_none l _ _ h]
  exact ⟨rfl, rfl⟩

/-! ### 12. no qualifying element -/

theorem C18_empty_float (l : List (Num F)) (h : floats l = []) :
    Agg.sum l = zero ∧ Agg.prod l = one := by
  rw [C18_sum, C18_prod, h]; exact ⟨rfl, rfl⟩

omit [FloatArith F] in
theorem C18_empty_int (l : List (Num F)) (h : ints l = []) :
    Agg.intSum l = 0 ∧ Agg.intProd l = 1 ∧ Agg.intMin l = 0 ∧ Agg.intMax l = 0 := by
  refine ⟨?_, ?_, ?_, ?_⟩
  · rw [C18_intSum_steps, h]; rfl
  · rw [C18_intProd_steps, h]; rfl
  · unfold Agg.intMin; rw [Agg.intMinLoop_eq, h]; rfl
  · unfold Agg.intMax; rw [Agg.intMaxLoop_eq, h]; rfl

/-- `Min` / `Max` of the empty list are 0 (any other list without numeric element panics,
`C18_min_max_panic`) -/
theorem C18_empty_min_max :
    Agg.min ([] : List (Num F)) = some zero ∧ Agg.max ([] : List (Num F)) = some zero :=
  ⟨rfl, rfl⟩

theorem C18_empty (l : List (Num F)) (h : l = []) :
    Agg.sum l = zero ∧ Agg.prod l = one ∧ Agg.min l = some zero ∧ Agg.max l = some zero ∧
    Agg.intSum l = 0 ∧ Agg.intProd l = 1 ∧ Agg.intMin l = 0 ∧ Agg.intMax l = 0 := by
  subst h
  exact ⟨rfl, rfl, rfl, rfl, rfl, rfl, rfl, rfl⟩

end Generic

/-! ### the view of a heap list -/

/-- the aggregates see nothing but the receiver's items (and return no heap) -/
theorem C18_readonly (h h' : Heap) (a : Nat) (hi : h'.items a = h.items a) :
    numsOf h' a = numsOf h a := by
  unfold numsOf; rw [hi]

/-- the int elements of the view are exactly the elements of kind int, in order -/
theorem C18_ints_numsOf (h : Heap) (a : Nat) :
    ints (numsOf h a) = (h.items a).filterMap L.asInt := by
  unfold numsOf
  induction h.items a with
  | nil => rfl
  | cons v vs ih =>
    cases v <;> simp only [List.map_cons, Val.toNum, ints_cons_int, ints_cons_other, ints_cons_float,
      List.filterMap_cons, L.asInt, ih]

/-- the numeric elements of the view are the elements of kind int or float taken as float64 -/
theorem C18_floats_numsOf (h : Heap) (a : Nat) :
    floats (numsOf h a)
      = (h.items a).filterMap (fun v => match v with
          | .int i => some (F64.ofInt i) | .float f => some f | _ => none) := by
  unfold numsOf
  induction h.items a with
  | nil => rfl
  | cons v vs ih => cases v <;> simp [Val.toNum, ih] <;> rfl

/-- "all numeric" for the view is `AllNumeric()` -/
theorem C18_allNumeric_numsOf (h : Heap) (a : Nat) :
    L.allNumeric h a = true ↔ ∀ x ∈ numsOf h a, x.isNum = true := by
  unfold numsOf L.allNumeric
  rw [L.allNumericLoop_eq, List.all_eq_true]
  constructor
  · intro H x hx
    obtain ⟨v, hv, rfl⟩ := List.mem_map.mp hx
    have := H v hv
    cases v <;> first | rfl | (simp [Val.kind] at this)
  · intro H v hv
    have := H (Val.toNum v) (List.mem_map_of_mem hv)
    cases v <;> first | rfl | (simp [Val.toNum, Num.isNum] at this)

/-! ### the order hypotheses for binary64 (`F64.ltGo`) -/

theorem C18_F64_lt_irrefl (x : F64) : F64.ltGo x x = false := by
  rw [F64.ltGo_eq_key']; simp

theorem C18_F64_lt_trans (x y z : F64) (hxy : F64.ltGo x y = true) (hyz : F64.ltGo y z = true) :
    F64.ltGo x z = true := by
  rw [F64.ltGo_eq_key'] at hxy hyz ⊢
  simp only [Bool.and_eq_true, Bool.not_eq_true', decide_eq_true_eq] at hxy hyz ⊢
  exact ⟨⟨hxy.1.1, hyz.1.2⟩, by omega⟩

/-- `ltGo` is a strict total order modulo `eqGo` on NaN-free values: exactly one of
`x < y`, `x == y`, `y < x` -/
theorem C18_F64_lt_trichotomy (x y : F64) (hx : x.isNaN = false) (hy : y.isNaN = false) :
    (F64.ltGo x y = true ∧ F64.eqGo x y = false ∧ F64.ltGo y x = false) ∨
    (F64.ltGo x y = false ∧ F64.eqGo x y = true ∧ F64.ltGo y x = false) ∨
    (F64.ltGo x y = false ∧ F64.eqGo x y = false ∧ F64.ltGo y x = true) := by
  simp only [F64.ltGo_eq_key', F64.eqGo_eq_key, hx, hy, Bool.not_false, Bool.true_and,
    decide_eq_true_eq, decide_eq_false_iff_not]
  omega

/-- `eqGo` is a congruence for `ltGo` on NaN-free values -/
theorem C18_F64_lt_congr (x x' y y' : F64) (hx : F64.eqGo x x' = true) (hy : F64.eqGo y y' = true) :
    F64.ltGo x y = F64.ltGo x' y' := by
  rw [F64.eqGo_eq_key] at hx hy
  simp only [Bool.and_eq_true, Bool.not_eq_true', decide_eq_true_eq] at hx hy
  simp only [F64.ltGo_eq_key', hx.1.1, hx.1.2, hy.1.1, hy.1.2, hx.2, hy.2]

/-- every finite value is `≤ MaxFloat64` and `≥ -MaxFloat64` -/
theorem C18_F64_finite_bounds (x : F64) (hfin : x.isFinite = true) :
    (F64.ltGo x F64.maxFinite = true ∨ x = F64.maxFinite) ∧
    (F64.ltGo F64.negMaxFinite x = true ∨ x = F64.negMaxFinite) ∧
    F64.ltGo F64.maxFinite x = false ∧ F64.ltGo x F64.negMaxFinite = false := by
  have hnan := (F64.not_nan_inf x hfin).1
  have hb := F64.key_le_of_isFinite hfin
  have hmax : F64.maxFinite.isNaN = false := by decide
  have hmin : F64.negMaxFinite.isNaN = false := by decide
  simp only [F64.ltGo_eq_key', hnan, hmax, hmin, Bool.not_false, Bool.true_and, Bool.and_true,
    decide_eq_true_eq, decide_eq_false_iff_not, F64.key_maxFinite, F64.key_negMaxFinite]
  refine ⟨?_, ?_, by omega, by omega⟩
  · by_cases h : F64.key x = 0x7fefffffffffffff
    · exact Or.inr (F64.key_inj (by decide) (by rw [F64.key_maxFinite, h])).symm
    · left; omega
  · by_cases h : F64.key x = -0x7fefffffffffffff
    · exact Or.inr (F64.key_inj (by decide) (by rw [F64.key_negMaxFinite, h])).symm
    · left; omega

/-- `Min` and `Max` on a non-empty all-numeric list of finite binary64 values (for an int element
`i` the value is `float64(i)`): the result is an element and no element is below / above it.
In particular on an all-negative list `Max` is the largest element, not 0. -/
theorem C18_F64_min_max (l : List (Num F64)) (hne : l ≠ []) (hnum : ∀ x ∈ l, x.isNum = true)
    (hfin : ∀ x ∈ floats l, x.isFinite = true) :
    (∃ m, Agg.min l = some m ∧ m ∈ floats l ∧ ∀ x ∈ floats l, F64.ltGo x m = false) ∧
    (∃ m, Agg.max l = some m ∧ m ∈ floats l ∧ ∀ x ∈ floats l, F64.ltGo m x = false) :=
  ⟨C18_min l hne hnum (fun x _ => C18_F64_lt_irrefl x)
      (fun x _ y _ z _ => C18_F64_lt_trans x y z)
      (fun x hx => (C18_F64_finite_bounds x (hfin x hx)).1),
   C18_max l hne hnum (fun x _ => C18_F64_lt_irrefl x)
      (fun x _ y _ z _ => C18_F64_lt_trans x y z)
      (fun x hx => (C18_F64_finite_bounds x (hfin x hx)).2.1)⟩

/-- Go `float64(i)` of a 64-bit `int` is finite (analysis of `F64.roundPos` on `|i| ≤ 2^63`,
`Anytype/Lemmas/OfIntFinite.lean`) -/
theorem C18_F64_ofInt_finite (i : Int) (h : InRange i) : (F64.ofInt i).isFinite = true :=
  F64.ofInt_finite i h

/-- `C18_F64_min_max` with the finiteness hypothesis asked of the float elements only: the int
elements are 64-bit ints, and nothing is assumed about `float64(i)` -/
theorem C18_F64_min_max_inrange (l : List (Num F64)) (hne : l ≠ [])
    (hnum : ∀ x ∈ l, x.isNum = true)
    (hfin : ∀ f, Num.float f ∈ l → f.isFinite = true)
    (hint : ∀ i, Num.int i ∈ l → InRange i) :
    (∃ m, Agg.min l = some m ∧ m ∈ floats l ∧ ∀ x ∈ floats l, F64.ltGo x m = false) ∧
    (∃ m, Agg.max l = some m ∧ m ∈ floats l ∧ ∀ x ∈ floats l, F64.ltGo m x = false) := by
  refine C18_F64_min_max l hne hnum fun x hx => ?_
  obtain ⟨v, hv, hvx⟩ := List.mem_filterMap.mp hx
  cases v with
  | int i => cases hvx; exact C18_F64_ofInt_finite i (hint i hv)
  | float f => cases hvx; exact hfin _ hv
  | other => cases hvx

/-! ### non-vacuity -/

section Examples

/-- a toy arithmetic on `Int` (exact), to evaluate the generic folds -/
@[instance_reducible] def exArith : FloatArith Int where
  add := (· + ·)
  mul := (· * ·)
  div := (· / ·)
  lt := fun a b => decide (a < b)
  ofInt := id
  zero := 0
  one := 1
  maxFinite := 1000
  negMaxFinite := -1000

def exList : List (Num Int) := [.int 1, .other, .int 2, .float 7, .other, .int 3]
def exNums : List (Num Int) := [.int (-4), .float (-7), .int (-2), .float (-3)]

example : ints exList = [1, 2, 3] := by decide
example : @floats Int exArith exList = [1, 2, 7, 3] := by decide
example : @Agg.sum Int exArith exList = 13 ∧ @Agg.prod Int exArith exList = 42 := by decide
example : Agg.intSum exList = 6 ∧ Agg.intProd exList = 6 ∧ Agg.intMin exList = 1 ∧
    Agg.intMax exList = 3 := by decide
/-- wrap-around really happens: MaxInt + 1 -/
example : Agg.intSum ([.int (2 ^ 63 - 1), .other, .int 1] : List (Num Int)) = -2 ^ 63 := by decide
/-- hypotheses of `C18_intMin` / `C18_intMax` -/
example : ints exList ≠ [] ∧ ∀ i ∈ ints exList, InRange i := by decide
/-- hypotheses of `C18_min` / `C18_max` for the toy order on an all-negative list, and the
result: `Max` is the largest element `-2`, not 0 -/
example : exNums ≠ [] ∧ (∀ x ∈ exNums, x.isNum = true) ∧
    (∀ x ∈ @floats Int exArith exNums, exArith.lt x x = false) ∧
    (∀ x ∈ @floats Int exArith exNums, exArith.lt x exArith.maxFinite = true ∨ x = exArith.maxFinite) ∧
    (∀ x ∈ @floats Int exArith exNums,
      exArith.lt exArith.negMaxFinite x = true ∨ x = exArith.negMaxFinite) := by decide
example : @Agg.max Int exArith exNums = some (-2) ∧ @Agg.min Int exArith exNums = some (-7) := by
  decide
example : @Agg.min Int exArith exList = none := by decide

/-- binary64: -1.5, float64(-3), -0.25 — all negative, finite -/
def exF64 : List (Num F64) :=
  [.float ⟨0xbff8000000000000⟩, .int (-3), .float ⟨0xbfd0000000000000⟩]

example : exF64 ≠ [] ∧ (∀ x ∈ exF64, x.isNum = true) ∧
    (∀ x ∈ floats exF64, x.isFinite = true) := by decide
/-- hypotheses of `C18_F64_min_max_inrange` (nothing about `float64(-3)`), `C18_F64_ofInt_finite` -/
example : exF64 ≠ [] ∧ (∀ x ∈ exF64, x.isNum = true) ∧
    (∀ f, Num.float f ∈ exF64 → f.isFinite = true) ∧ (∀ i, Num.int i ∈ exF64 → InRange i) := by
  refine ⟨by decide, by decide, ?_, ?_⟩
  · intro f hf
    simp only [exF64, List.mem_cons, Num.float.injEq, List.not_mem_nil, or_false, reduceCtorEq,
      false_or] at hf
    rcases hf with rfl | rfl <;> decide
  · intro i hi
    simp only [exF64, List.mem_cons, Num.int.injEq, List.not_mem_nil, or_false, reduceCtorEq,
      false_or] at hi
    subst hi; decide
example : InRange (-(2 : Int) ^ 63) ∧ InRange ((2 : Int) ^ 63 - 1) := by decide
example : Agg.max exF64 = some ⟨0xbfd0000000000000⟩ ∧ Agg.min exF64 = some ⟨0xc008000000000000⟩ := by
  decide

/-- hypotheses of `C18_F64_lt_trans`, `C18_F64_lt_trichotomy`, `C18_F64_lt_congr` (`-0 == +0`),
`C18_F64_finite_bounds` -/
example : F64.ltGo ⟨0xc008000000000000⟩ F64.negZero = true ∧ F64.ltGo F64.negZero F64.one = true ∧
    F64.eqGo F64.negZero F64.posZero = true ∧ F64.negZero.isNaN = false ∧
    F64.one.isFinite = true := by decide

/-- the bound hypothesis of `C18_min` is needed: the only element `+Inf` is not `≤ MaxFloat64`
and `Min` answers `MaxFloat64`, which is not an element (library behaviour, modelled as is) -/
example : Agg.min ([.float F64.posInf] : List (Num F64)) = some F64.maxFinite := by decide

/-- hypotheses of `C18_intSum_exact`, `C18_empty_float` / `C18_empty_int`, `C18_min_max_panic` -/
example : InRange ((ints exList).foldl (· + ·) 0) := by decide
example : @floats Int exArith [.other, .other] = [] ∧ ints ([.other, .float 3] : List (Num Int)) = [] := by
  decide
example : ∃ x ∈ exList, x.isNum = false := ⟨.other, by simp [exList], rfl⟩

/-- the heap view -/
def exHeap18 : Heap := [.list [.int 1, .str ['s'], .int 2, .nil, .int 3] 0]
example : Agg.intSum (numsOf exHeap18 0) = 6 ∧ Agg.intMax (numsOf exHeap18 0) = 3 ∧
    L.allNumeric exHeap18 0 = false ∧ Agg.min (numsOf exHeap18 0) = none := by decide

end Examples

end Anytype

#print axioms Anytype.C18_sum
#print axioms Anytype.C18_prod
#print axioms Anytype.C18_avg
#print axioms Anytype.C18_floats_allNumeric
#print axioms Anytype.C18_avg_allNumeric
#print axioms Anytype.C18_intSum_steps
#print axioms Anytype.C18_intProd_steps
#print axioms Anytype.C18_wrap64_add
#print axioms Anytype.C18_wrap64_mul
#print axioms Anytype.C18_intSum
#print axioms Anytype.C18_intProd
#print axioms Anytype.C18_intSum_exact
#print axioms Anytype.C18_intProd_exact
#print axioms Anytype.C18_intMin
#print axioms Anytype.C18_intMax
#print axioms Anytype.C18_min
#print axioms Anytype.C18_max
#print axioms Anytype.C18_min_max_panic
#print axioms Anytype.C18_empty_float
#print axioms Anytype.C18_empty_int
#print axioms Anytype.C18_empty_min_max
#print axioms Anytype.C18_empty
#print axioms Anytype.C18_readonly
#print axioms Anytype.C18_ints_numsOf
#print axioms Anytype.C18_floats_numsOf
#print axioms Anytype.C18_allNumeric_numsOf
#print axioms Anytype.C18_F64_lt_irrefl
#print axioms Anytype.C18_F64_lt_trans
#print axioms Anytype.C18_F64_lt_trichotomy
#print axioms Anytype.C18_F64_lt_congr
#print axioms Anytype.C18_F64_finite_bounds
#print axioms Anytype.C18_F64_min_max
#print axioms Anytype.C18_F64_ofInt_finite
#print axioms Anytype.C18_F64_min_max_inrange
