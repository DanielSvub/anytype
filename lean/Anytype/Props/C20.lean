/-
Property C20.

"When ParseList, ParseObject or ParseFile reject a text with a syntax error whose message cites a
line, the cited number is the 1-based line (one plus the number of newline characters before it,
counted from the start of the whole input, across nested containers and any text preceding the root
bracket) of the character at which the error was detected.  That character is the unexpected
character itself, or the delimiter (',' ']' '}') that terminates an invalid literal."

`nlCount c` is the number of `some '\n'` items in `c`; `countNL b` the number of 0x0A bytes in `b`.
-/
import Anytype.Lemmas.ParserBytes
namespace Anytype

/-- `ErrAt k e` (used below): `e` is a character at which a syntax error of kind `k` is detected -/
theorem C20_errAt (k : PErrKind) (e : Char) :
    ErrAt k e ↔
      (e ≠ '\n' ∧
      (k = .invalidValue ∨ k = .expectQuote ∨ k = .expectColon ∨ k = .expectCommaBrace) ∧
      (k = .invalidValue → e = ',' ∨ e = ']' ∨ e = '}') ∧
      (k = .expectQuote → isSpace e = false ∧ e ≠ '}' ∧ e ≠ '"') ∧
      (k = .expectColon → isSpace e = false ∧ e ≠ ':') ∧
      (k = .expectCommaBrace → isSpace e = false ∧ e ≠ ',' ∧ e ≠ '}' ∧ e ≠ '"')) := Iff.rfl

/-! ### items level -/

/-- A line-citing error of the list machine (any state, any fuel): it was detected at a well-formed
character `e` at position `pos`, everything before is well-formed, the cited line is the initial
line counter plus the newlines before `pos` (equivalently up to and including `pos`, as `e` is not
a newline), and `e` is a delimiter ending an invalid literal or the unexpected character. -/
theorem C20_items_list {f items st acc val iv line k L}
    (h : pList f items st acc val iv line = .err ⟨k, some L⟩) :
    ∃ (pos : Nat) (e : Char), items[pos]? = some (some e) ∧
      (∀ it ∈ items.take pos, it ≠ none) ∧
      L = line + nlCount (items.take pos) ∧ L = line + nlCount (items.take (pos + 1)) ∧
      e ≠ '\n' ∧
      (k = .invalidValue ∨ k = .expectQuote ∨ k = .expectColon ∨ k = .expectCommaBrace) ∧
      (k = .invalidValue → e = ',' ∨ e = ']' ∨ e = '}') ∧
      (k = .expectQuote → isSpace e = false ∧ e ≠ '}' ∧ e ≠ '"') ∧
      (k = .expectColon → isSpace e = false ∧ e ≠ ':') ∧
      (k = .expectCommaBrace → isSpace e = false ∧ e ≠ ',' ∧ e ≠ '}' ∧ e ≠ '"') := by
  rw [pList_eq_exec] at h
  obtain ⟨pos, e, h1, h2, h3, h4⟩ := exec_err_line _ h
  exact ⟨pos, e, h1, h2, h3, by rw [nlCount_take_succ h1 h4.1]; exact h3, h4⟩

theorem C20_items_object {f items st acc key val iv line k L}
    (h : pObject f items st acc key val iv line = .err ⟨k, some L⟩) :
    ∃ (pos : Nat) (e : Char), items[pos]? = some (some e) ∧
      (∀ it ∈ items.take pos, it ≠ none) ∧
      L = line + nlCount (items.take pos) ∧ L = line + nlCount (items.take (pos + 1)) ∧
      e ≠ '\n' ∧
      (k = .invalidValue ∨ k = .expectQuote ∨ k = .expectColon ∨ k = .expectCommaBrace) ∧
      (k = .invalidValue → e = ',' ∨ e = ']' ∨ e = '}') ∧
      (k = .expectQuote → isSpace e = false ∧ e ≠ '}' ∧ e ≠ '"') ∧
      (k = .expectColon → isSpace e = false ∧ e ≠ ':') ∧
      (k = .expectCommaBrace → isSpace e = false ∧ e ≠ ',' ∧ e ≠ '}' ∧ e ≠ '"') := by
  rw [pObject_eq_exec] at h
  obtain ⟨pos, e, h1, h2, h3, h4⟩ := exec_err_line _ h
  exact ⟨pos, e, h1, h2, h3, by rw [nlCount_take_succ h1 h4.1]; exact h3, h4⟩

-- `1,⏎ x]` after the root bracket, starting on line 1: `x` is invalid, detected at `]` on line 2
example : pList 10 [some '1', some ',', some '\n', some ' ', some 'x', some ']'] .val [] [] false 1
    = .err ⟨.invalidValue, some 2⟩ := by decide +kernel

-- `"a":[1,⏎{x` after the root bracket: error inside a doubly nested container, line 2
example : pObject 20 [some '"', some 'a', some '"', some ':', some '[', some '1', some ',',
    some '\n', some '{', some 'x'] .keyStart [] [] [] false 1 = .err ⟨.expectQuote, some 2⟩ := by decide +kernel

-- `"a"⏎⏎;` : expecting a colon, line 3
example : pObject 20 [some '"', some 'a', some '"', some '\n', some '\n', some ';']
    .keyStart [] [] [] false 1 = .err ⟨.expectColon, some 3⟩ := by decide +kernel

-- `"a":{}⏎x` : expecting ',' or '}', line 2
example : pObject 20 [some '"', some 'a', some '"', some ':', some '{', some '}', some '\n', some 'x']
    .keyStart [] [] [] false 1 = .err ⟨.expectCommaBrace, some 2⟩ := by decide +kernel

/-- an accepting run returns the initial line counter plus the newlines it consumed -/
theorem C20_okline_list {f items st acc val iv line v rest line'}
    (h : pList f items st acc val iv line = .ok v rest line') :
    ∃ c, items = c ++ rest ∧ line' = line + nlCount c := by
  rw [pList_eq_exec] at h
  obtain ⟨c, hc, hrun⟩ := exec_ok_run _ h
  exact ⟨c, hc, hrun.line_eq⟩

theorem C20_okline_object {f items st acc key val iv line v rest line'}
    (h : pObject f items st acc key val iv line = .ok v rest line') :
    ∃ c, items = c ++ rest ∧ line' = line + nlCount c := by
  rw [pObject_eq_exec] at h
  obtain ⟨c, hc, hrun⟩ := exec_ok_run _ h
  exact ⟨c, hc, hrun.line_eq⟩

example : pList 10 [some '\n', some '1', some '\n', some ']', some '\n'] .val [] [] false 5
    = .ok (.list [.int 1]) [some '\n'] 7 := by decide +kernel

/-- errors that cite no line are not syntax errors -/
theorem C20_noline_list {f items st acc val iv line k}
    (h : pList f items st acc val iv line = .err ⟨k, none⟩) :
    k = .notUtf8 ∨ k = .unexpectedEnd ∨ k = .fuel := by
  rw [pList_eq_exec] at h; exact exec_err_noline _ h

theorem C20_noline_object {f items st acc key val iv line k}
    (h : pObject f items st acc key val iv line = .err ⟨k, none⟩) :
    k = .notUtf8 ∨ k = .unexpectedEnd ∨ k = .fuel := by
  rw [pObject_eq_exec] at h; exact exec_err_noline _ h

example : pList 10 [some '1', none] .val [] [] false 1 = .err ⟨.notUtf8, none⟩ := by decide +kernel

/-! ### top level -/

/-- `ParseList`: the cited line is one plus the newlines before the root bracket plus the newline
characters between the root bracket and the character at which the error was detected. -/
theorem C20_line_list {bs k L} (h : parseListBytes bs = .error ⟨k, some L⟩) :
    ∃ pre post pos e, splitAtByte 0x5B bs = some (pre, post) ∧
      (decodeAll post)[pos]? = some (some e) ∧ (∀ it ∈ (decodeAll post).take pos, it ≠ none) ∧
      L = 1 + countNL pre + nlCount ((decodeAll post).take pos) ∧ ErrAt k e :=
  entryList.line h

theorem C20_line_object {bs k L} (h : parseObjectBytes bs = .error ⟨k, some L⟩) :
    ∃ pre post pos e, splitAtByte 0x7B bs = some (pre, post) ∧
      (decodeAll post)[pos]? = some (some e) ∧ (∀ it ∈ (decodeAll post).take pos, it ≠ none) ∧
      L = 1 + countNL pre + nlCount ((decodeAll post).take pos) ∧ ErrAt k e :=
  entryObject.line h

/-- In bytes: the input splits as `before ++ after`, where `before` contains the root bracket and is
well-formed after it, `after` starts with the character `e` at which the error was detected, and
the cited line is one plus the number of 0x0A bytes in `before`. -/
theorem C20_line_bytes_list {bs k L} (h : parseListBytes bs = .error ⟨k, some L⟩) :
    ∃ pre cb after e, bs = (pre ++ 0x5B :: cb) ++ after ∧ (0x5B : UInt8) ∉ pre ∧
      none ∉ decodeAll cb ∧ (decodeAll after).head? = some (some e) ∧
      L = 1 + countNL (pre ++ 0x5B :: cb) ∧ ErrAt k e :=
  entryList.line_bytes h

theorem C20_line_bytes_object {bs k L} (h : parseObjectBytes bs = .error ⟨k, some L⟩) :
    ∃ pre cb after e, bs = (pre ++ 0x7B :: cb) ++ after ∧ (0x7B : UInt8) ∉ pre ∧
      none ∉ decodeAll cb ∧ (decodeAll after).head? = some (some e) ∧
      L = 1 + countNL (pre ++ 0x7B :: cb) ∧ ErrAt k e :=
  entryObject.line_bytes h

/-- `ParseFile`: a line-citing error comes from `ParseObject` on the file's bytes -/
theorem C20_line_file {fs : String → Option (List UInt8)} {path : String} {k L}
    (h : parseFile fs path = .error ⟨k, some L⟩) :
    ∃ bs pre cb after e, fs path = some bs ∧ bs = (pre ++ 0x7B :: cb) ++ after ∧
      (0x7B : UInt8) ∉ pre ∧ none ∉ decodeAll cb ∧ (decodeAll after).head? = some (some e) ∧
      L = 1 + countNL (pre ++ 0x7B :: cb) ∧ ErrAt k e := by
  unfold parseFile at h
  split at h
  · cases h
  · rename_i bs hf
    obtain ⟨pre, cb, after, e, h1, h2, h3, h4, h5, h6⟩ := C20_line_bytes_object h
    exact ⟨bs, pre, cb, after, e, hf, h1, h2, h3, h4, h5, h6⟩

/-- errors of the entry points that cite no line -/
theorem C20_noline_parseList {bs k} (h : parseListBytes bs = .error ⟨k, none⟩) :
    k = .missingBracket ∨ k = .notUtf8 ∨ k = .unexpectedEnd :=
  entryList.noline h

theorem C20_noline_parseObject {bs k} (h : parseObjectBytes bs = .error ⟨k, none⟩) :
    k = .missingBracket ∨ k = .notUtf8 ∨ k = .unexpectedEnd :=
  entryObject.noline h

-- `⏎[1,⏎ é x]` : `é x` is an invalid value, detected at `]`; two newlines before it, line 3
example : parseListBytes [0x0A, 0x5B, 0x31, 0x2C, 0x0A, 0x20, 0xC3, 0xA9, 0x20, 0x78, 0x5D] =
    .error ⟨.invalidValue, some 3⟩ := by decide +kernel

-- `x⏎{⏎"a"⏎1` : expecting ':', got `1` on line 4
example : parseObjectBytes [0x78, 0x0A, 0x7B, 0x0A, 0x22, 0x61, 0x22, 0x0A, 0x31] =
    .error ⟨.expectColon, some 4⟩ := by decide +kernel

example : parseFile (fun p => if p = "f" then some [0x7B, 0x0A, 0x78] else none) "f" =
    .error ⟨.expectQuote, some 2⟩ := by decide +kernel

example : parseListBytes [0x31] = .error ⟨.missingBracket, none⟩ := by decide +kernel

end Anytype

open Anytype in
#print axioms C20_errAt
open Anytype in
#print axioms C20_items_list
open Anytype in
#print axioms C20_items_object
open Anytype in
#print axioms C20_okline_list
open Anytype in
#print axioms C20_okline_object
open Anytype in
#print axioms C20_noline_list
open Anytype in
#print axioms C20_noline_object
open Anytype in
#print axioms C20_line_list
open Anytype in
#print axioms C20_line_object
open Anytype in
#print axioms C20_line_bytes_list
open Anytype in
#print axioms C20_line_bytes_object
open Anytype in
#print axioms C20_line_file
open Anytype in
#print axioms C20_noline_parseList
open Anytype in
#print axioms C20_noline_parseObject
