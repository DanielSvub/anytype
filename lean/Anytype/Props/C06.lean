/-
C06: an Object behaves like a map from arbitrary strings to values (scalars by value,
Lists / Objects by reference).

`a` is the address of an object cell, `h.fields a` its field list (the Go map; distinct keys,
list order = one iteration order); `absMap` reads a field list as a finite map.
-/
import Anytype.Lemmas.ObjHeap
namespace Anytype
open OH

/-! ### concrete data for the non-vacuity examples -/

/-- cell 0: the object `{"": 7, "a": true}`; cell 1: an empty list; cell 2: `{"a": 1, "z": <list 1>}` -/
def c06H : Heap :=
  [.obj [([], .int 7), (['a'], .bool true)] 0, .list [] 0, .obj [(['a'], .int 1), (['z'], .list ⟨1, 0⟩)] 0]
/-- one `Set` call: the empty key, the key `"a"` twice (last wins), an existing list by reference -/
def c06Pairs : List (Str × GoVal) :=
  [([], .str ['x']), (['a'], .intw .u8 1), (['a'], .f64 F64.one), (['l'], .list ⟨1, 0⟩)]

theorem c06H_allNodup : AllNodup c06H
  | 0 | 1 | 2 => by decide
  | _ + 3 => List.nodup_nil
theorem c06Pairs_scalar : ∀ p ∈ c06Pairs, p.2.isScalar = true := by decide
theorem c06_applyPairs : applyPairs (c06H.fields 0) c06Pairs
    = [([], .str ['x']), (['a'], .float F64.one), (['l'], .list ⟨1, 0⟩)] := by rfl

example : c06H.isObj 0 = true ∧ (keysOf (c06H.fields 0)).Nodup ∧ AllNodup c06H :=
  ⟨by decide, c06H_allNodup 0, c06H_allNodup⟩
example : ∀ p ∈ c06Pairs, p.2.isScalar = true := c06Pairs_scalar
example : applyPairs (c06H.fields 0) c06Pairs
    = [([], .str ['x']), (['a'], .float F64.one), (['l'], .list ⟨1, 0⟩)] := c06_applyPairs

/-! ### 6. the association list is a finite map -/

theorem C06_assoc_set {α : Type} (fs : List (Str × α)) (k : Str) (v : α) :
    absMap (setKV fs k v) = updMap (absMap fs) k v := absMap_setKV fs k v

theorem C06_assoc_del {α : Type} (fs : List (Str × α)) (hn : (keysOf fs).Nodup) (k : Str) :
    absMap (delKV fs k) = delMap (absMap fs) k :=
  funext fun k' => lookup_delKV hn k k'

example : (keysOf [(([] : Str), (1 : Nat)), (['a'], 2)]).Nodup := by decide
/-- distinct keys are necessary for `delete` -/
example : lookup (delKV [(([] : Str), (1 : Nat)), ([], 2)] []) [] = some 2 := by rfl

theorem C06_assoc_nodup_set {α : Type} (fs : List (Str × α)) (hn : (keysOf fs).Nodup) (k : Str) (v : α) :
    (keysOf (setKV fs k v)).Nodup := nodup_setKV hn k v
theorem C06_assoc_nodup_del {α : Type} (fs : List (Str × α)) (hn : (keysOf fs).Nodup) (k : Str) :
    (keysOf (delKV fs k)).Nodup := nodup_delKV hn k
theorem C06_assoc_keys_set {α : Type} (fs : List (Str × α)) (k : Str) (v : α) :
    keysOf (setKV fs k v) = if k ∈ keysOf fs then keysOf fs else keysOf fs ++ [k] := keysOf_setKV fs k v
theorem C06_assoc_keys_del {α : Type} (fs : List (Str × α)) (k : Str) :
    keysOf (delKV fs k) = (keysOf fs).erase k := keysOf_delKV fs k
theorem C06_assoc_length_set {α : Type} (fs : List (Str × α)) (k : Str) (v : α) :
    (setKV fs k v).length = if k ∈ keysOf fs then fs.length else fs.length + 1 := by
  rw [← length_keysOf, keysOf_setKV]
  split <;> simp [length_keysOf]
theorem C06_assoc_length_del {α : Type} (fs : List (Str × α)) (k : Str) :
    (delKV fs k).length = if k ∈ keysOf fs then fs.length - 1 else fs.length := by
  rw [← length_keysOf, keysOf_delKV, ← length_keysOf]
  split
  · next h => exact List.length_erase_of_mem h
  · next h => rw [List.erase_of_not_mem h]
/-- a present key maps to a pair of the list and vice versa -/
theorem C06_assoc_mem {α : Type} (fs : List (Str × α)) (hn : (keysOf fs).Nodup) (k : Str) (v : α) :
    absMap fs k = some v ↔ (k, v) ∈ fs := ⟨mem_of_lookup, lookup_of_mem hn⟩
theorem C06_assoc_dom {α : Type} (fs : List (Str × α)) (k : Str) :
    (absMap fs k).isSome = true ↔ k ∈ keysOf fs := lookup_isSome_iff

/-- the empty string is a key like any other; setting an existing key overwrites in place -/
example : setKV [(([] : Str), (1 : Nat)), (['a'], 2)] [] 9 = [([], 9), (['a'], 2)] := by rfl
example : lookup (setKV (setKV ([] : List (Str × Nat)) [] 1) [] 2) [] = some 2 := by rfl

/-- scalars are stored by value (integers of every width wrapped to `int`, float32 widened),
existing Lists / Objects by reference; nothing is allocated -/
theorem C06_parse_scalar (h : Heap) (g : GoVal) (hs : g.isScalar = true) :
    parseVal h g = (h, .ok (scalarVal g)) := parseVal_scalar h g hs

example : (GoVal.list ⟨1, 0⟩).isScalar = true ∧ (GoVal.intw .u8 1).isScalar = true := ⟨rfl, rfl⟩

/-! ### 7. Set -/

/-- `Set` with string keys and scalar values succeeds, returns the receiver, and replaces the
receiver's fields by the pairs applied in argument order. -/
theorem C06_set (h : Heap) (a : Nat) (ps : List (Str × GoVal)) (ho : h.isObj a = true)
    (hs : ∀ p ∈ ps, p.2.isScalar = true) :
    O.set h a (toPairs ps) false
        = (h.setFields a (applyPairs (h.fields a) ps), .ok (h.egoRef a)) ∧
    (h.setFields a (applyPairs (h.fields a) ps)).fields a = applyPairs (h.fields a) ps :=
  ⟨set_scalar h a ps hs, Heap.fields_setFields_same _ ho⟩

example : O.set c06H 0 (toPairs c06Pairs) false
    = ([.obj [([], .str ['x']), (['a'], .float F64.one), (['l'], .list ⟨1, 0⟩)] 0, .list [] 0,
        .obj [(['a'], .int 1), (['z'], .list ⟨1, 0⟩)] 0], .ok ⟨0, 0⟩) := by
  rw [set_scalar c06H 0 c06Pairs c06Pairs_scalar, c06_applyPairs]; rfl

/-- as a map: the updates are applied one after the other, in argument order -/
theorem C06_set_absMap (fs : List (Str × Val)) (ps : List (Str × GoVal)) :
    absMap (applyPairs fs ps) = ps.foldl (fun m p => updMap m p.1 (scalarVal p.2)) (absMap fs) :=
  absMap_applyPairs fs ps

/-- … so for each key the last pair naming it wins, and keys not named keep their value -/
theorem C06_set_last (fs : List (Str × Val)) (ps : List (Str × GoVal)) (k : Str) :
    absMap (applyPairs fs ps) k
      = match ps.reverse.find? (fun p => p.1 == k) with
        | some p => some (scalarVal p.2)
        | none => absMap fs k := by
  unfold absMap applyPairs
  rw [lookup_foldl_setKV (fun p : Str × GoVal => p.1) (fun p => scalarVal p.2) ps fs k]
  cases List.find? (fun p : Str × GoVal => p.1 == k) ps.reverse <;> rfl

example : absMap (applyPairs (c06H.fields 0) c06Pairs) ['a'] = some (.float F64.one) ∧
    absMap (applyPairs (c06H.fields 0) c06Pairs) [] = some (.str ['x']) := by
  rw [c06_applyPairs]; exact ⟨rfl, rfl⟩

theorem C06_set_nodup (fs : List (Str × Val)) (hn : (keysOf fs).Nodup) (ps : List (Str × GoVal)) :
    (keysOf (applyPairs fs ps)).Nodup :=
  nodup_foldl_setKV (fun p : Str × GoVal => p.1) (fun p => scalarVal p.2) ps hn

/-- an odd argument count panics before anything is changed -/
theorem C06_set_panic_odd (h : Heap) (a : Nat) (pairs : O.Pairs) :
    O.set h a pairs true = (h, .panic .oddPairs) := rfl

/-- a key that is not a string panics after exactly the pairs before it were applied -/
theorem C06_set_panic_key (h : Heap) (a : Nat) (pre : List (Str × GoVal)) (g : GoVal) (rest : O.Pairs)
    (hs : ∀ p ∈ pre, p.2.isScalar = true) :
    O.set h a (toPairs pre ++ (none, g) :: rest) false
      = (h.setFields a (applyPairs (h.fields a) pre), .panic .keyNotString) := by
  unfold O.set
  simp only [Bool.false_eq_true, if_false, setLoop_toPairs_append, setEach_scalar h a pre hs, O.setLoop]

example : O.set c06H 0 (toPairs [([], .str ['x'])] ++ [(none, .nil), (some ['q'], .nil)]) false
    = ([.obj [([], .str ['x']), (['a'], .bool true)] 0, .list [] 0,
        .obj [(['a'], .int 1), (['z'], .list ⟨1, 0⟩)] 0], .panic .keyNotString) := by rfl

/-- `NewObject(k1, v1, …)`: a fresh cell holding the pairs applied to the empty map -/
theorem C06_new (h : Heap) (ps : List (Str × GoVal)) (hs : ∀ p ∈ ps, p.2.isScalar = true) :
    O.new h (toPairs ps) false
      = ((h ++ [Cell.obj [] 0]).setFields h.length (applyPairs [] ps), .ok ⟨h.length, 0⟩) ∧
    ((h ++ [Cell.obj [] 0]).setFields h.length (applyPairs [] ps)).fields h.length = applyPairs [] ps :=
  ⟨new_scalar h ps hs, Heap.fields_setFields_same _ (Heap.isObj_append_new h [] 0)⟩

/-- `NewObjectFrom(map)` builds the same object as `NewObject` with the map's pairs -/
theorem C06_newFrom (h : Heap) (fl : Flavour) (ps : List (Str × GoVal))
    (hs : ∀ p ∈ ps, p.2.isScalar = true) :
    O.newFrom h (.map fl ps)
      = ((h ++ [Cell.obj [] 0]).setFields h.length (applyPairs [] ps), .ok ⟨h.length, 0⟩) := by
  rw [newFrom_map]; exact new_scalar h ps hs

/-! ### 8. Unset, Clear -/

theorem C06_unset (h : Heap) (a : Nat) (ks : List Str) (ho : h.isObj a = true)
    (hn : (keysOf (h.fields a)).Nodup) :
    (O.unset h a ks).2 = .ok (h.egoRef a) ∧
    (∀ k, absMap ((O.unset h a ks).1.fields a) k = if k ∈ ks then none else absMap (h.fields a) k) ∧
    (keysOf ((O.unset h a ks).1.fields a)).Nodup := by
  unfold O.unset
  simp only [Heap.egoRef_setFields, Heap.fields_setFields_same _ ho, true_and]
  exact ⟨fun k => lookup_foldl_delKV ks hn k, nodup_foldl_delKV ks hn⟩

example : (O.unset c06H 0 [['q'], [], ['q']]).1.fields 0 = [(['a'], .bool true)] := by rfl

/-- unsetting keys that are not there changes nothing at all -/
theorem C06_unset_missing (h : Heap) (a : Nat) (ks : List Str)
    (hmiss : ∀ k ∈ ks, k ∉ keysOf (h.fields a)) : O.unset h a ks = (h, .ok (h.egoRef a)) := by
  unfold O.unset
  simp only [foldl_delKV_of_not_mem ks hmiss, Heap.setFields_fields_self]

example : ∀ k ∈ [['q'], ['r']], k ∉ keysOf (c06H.fields 0) := by decide

theorem C06_clear (h : Heap) (a : Nat) (ho : h.isObj a = true) :
    (O.clear h a).2 = .ok (h.egoRef a) ∧ (O.clear h a).1.fields a = [] ∧
    (∀ k, absMap ((O.clear h a).1.fields a) k = none) ∧ O.count (O.clear h a).1 a = 0 := by
  unfold O.clear O.count
  simp only [Heap.fields_setFields_same _ ho, true_and]
  exact ⟨fun _ => rfl, rfl⟩

/-! ### 9. observers -/

theorem C06_get (h : Heap) (a : Nat) (k : Str) :
    O.get h a k = match absMap (h.fields a) k with
      | some v => .ok (h.getVal v)
      | none => .panic .missingKey := by
  unfold O.get absMap; cases lookup (h.fields a) k <;> rfl

/-- `Get` panics exactly when the key is absent -/
theorem C06_get_panic_iff (h : Heap) (a : Nat) (k : Str) :
    (O.get h a k).isPanic = true ↔ k ∉ keysOf (h.fields a) := by
  rw [C06_get, ← lookup_eq_none_iff]
  unfold absMap; cases lookup (h.fields a) k <;> simp [Out.isPanic]

/-- the typed getters: ok iff present and of that kind -/
theorem C06_getK (h : Heap) (a : Nat) (kd : Kind) (k : Str) :
    O.getK h a kd k = match absMap (h.fields a) k with
      | none => .panic .missingKey
      | some v => if v.kind = kd then .ok (h.getVal v) else .panic .notKind := by
  unfold O.getK O.get absMap
  cases lookup (h.fields a) k with
  | none => rfl
  | some v => simp only [Heap.getVal_kind, beq_iff_eq]

example : O.getK c06H 0 .int [] = .ok (.int 7) ∧ O.getK c06H 0 .float [] = .panic .notKind ∧
    O.getK c06H 0 .int ['q'] = .panic .missingKey ∧ O.get c06H 0 ['q'] = .panic .missingKey :=
  ⟨rfl, rfl, rfl, rfl⟩

theorem C06_typeOf (h : Heap) (a : Nat) (k : Str) :
    O.typeOf h a k = match absMap (h.fields a) k with
      | none => .undefined
      | some v => v.kind := rfl

theorem C06_typeOf_undefined_iff (h : Heap) (a : Nat) (k : Str) :
    O.typeOf h a k = .undefined ↔ k ∉ keysOf (h.fields a) := by
  rw [C06_typeOf, ← lookup_eq_none_iff]
  unfold absMap
  cases lookup (h.fields a) k with
  | none => simp
  | some v => cases v <;> simp [Val.kind]

theorem C06_keyExists (h : Heap) (a : Nat) (k : Str) :
    O.keyExists h a k = true ↔ k ∈ keysOf (h.fields a) := lookup_isSome_iff

theorem C06_count (h : Heap) (a : Nat) :
    O.count h a = (h.fields a).length ∧ O.count h a = (keysOf (h.fields a)).length := by
  simp [O.count, length_keysOf]

theorem C06_empty (h : Heap) (a : Nat) :
    O.empty h a = true ↔ ∀ k, absMap (h.fields a) k = none := by
  -- no key is present ↔ the key list is empty ↔ the field list is
  unfold O.empty O.count absMap
  simp only [lookup_eq_none_iff, ← List.eq_nil_iff_forall_not_mem, beq_iff_eq, Int.natCast_eq_zero,
    List.length_eq_zero_iff, keysOf, List.map_eq_nil_iff]

/-! ### 10. Keys / Values / Dict / Contains / KeyOf describe the same field set -/

/-- `Keys()`: a fresh list cell with the keys, each once, `Count()` of them; no old cell changes -/
theorem C06_keys (h : Heap) (a : Nat) (hn : (keysOf (h.fields a)).Nodup) :
    (O.keys h a).2 = ⟨h.length, 0⟩ ∧
    (O.keys h a).1.length = h.length + 1 ∧ (∀ b, b < h.length → (O.keys h a).1[b]? = h[b]?) ∧
    (O.keys h a).1.items h.length = (keysOf (h.fields a)).map Val.str ∧
    ((O.keys h a).1.items h.length).Nodup ∧
    (((O.keys h a).1.items h.length).length : Int) = O.count h a := by
  unfold O.keys O.count
  simp only [Heap.items_append_new, true_and]
  have hk : (h.fields a).map (fun kv => Val.str kv.1) = (keysOf (h.fields a)).map Val.str :=
    List.map_map.symm
  refine ⟨List.length_append, fun b hb => Heap.getElem?_append_old h _ hb, hk, ?_,
    congrArg _ (List.length_map _)⟩
  rw [hk]
  exact List.pairwise_map.2 (hn.imp (fun hne e => hne (Val.str.inj e)))

/-- `Values()`: a fresh list cell holding `Get(k)` for each key of `Keys()`, in the same order -/
theorem C06_values (h : Heap) (a : Nat) (hn : (keysOf (h.fields a)).Nodup) :
    (O.values h a).2 = ⟨h.length, 0⟩ ∧
    (O.values h a).1.length = h.length + 1 ∧ (∀ b, b < h.length → (O.values h a).1[b]? = h[b]?) ∧
    (keysOf (h.fields a)).map (O.get h a) = ((O.values h a).1.items h.length).map Out.ok ∧
    (((O.values h a).1.items h.length).length : Int) = O.count h a := by
  unfold O.values O.count
  simp only [Heap.items_append_new, true_and]
  refine ⟨List.length_append, fun b hb => Heap.getElem?_append_old h _ hb, ?_,
    congrArg _ (List.length_map _)⟩
  simp only [keysOf, List.map_map]
  apply List.map_congr_left
  intro kv hkv
  simp only [Function.comp, O.get, lookup_of_mem hn (show (kv.1, kv.2) ∈ h.fields a from hkv)]

example : (O.keys c06H 0).1.items 3 = [.str [], .str ['a']] ∧
    (O.values c06H 2).1.items 3 = [.int 1, .list ⟨1, 0⟩] := ⟨by rfl, by rfl⟩

/-- `Dict()`: the same keys, each with what `Get` returns -/
theorem C06_dict (h : Heap) (a : Nat) :
    keysOf (O.dict h a) = keysOf (h.fields a) ∧
    (∀ k, absMap (O.dict h a) k = (absMap (h.fields a) k).map h.getVal) ∧
    ((O.dict h a).length : Int) = O.count h a := by
  unfold O.dict O.count
  exact ⟨keysOf_map _ _, fun k => lookup_map _ _ k, by simp⟩

/-- `Contains(v)`: some key's value is Go-`==` to `v` -/
theorem C06_contains (h : Heap) (a : Nat) (hn : (keysOf (h.fields a)).Nodup) (v : Val) :
    O.contains h a v = true ↔
      ∃ k w, absMap (h.fields a) k = some w ∧ L.goEq (h.getVal w) v = true := by
  unfold O.contains
  simp only [List.any_eq_true, Prod.exists, C06_assoc_mem _ hn]

/-- `KeyOf(v)` returns a key holding a value equal to `v` … -/
theorem C06_keyOf_ok (h : Heap) (a : Nat) (hn : (keysOf (h.fields a)).Nodup) (v : Val) (k : Str)
    (hk : O.keyOf h a v = .ok k) :
    ∃ w, absMap (h.fields a) k = some w ∧ L.goEq (h.getVal w) v = true := by
  unfold O.keyOf at hk
  split at hk
  · rename_i kv hf
    cases hk
    exact ⟨kv.2, lookup_of_mem hn (List.mem_of_find?_eq_some hf), List.find?_some (p := fun kv : Str × Val => L.goEq (h.getVal kv.2) v) hf⟩
  · cases hk

/-- … and panics exactly when no key does -/
theorem C06_keyOf_panic (h : Heap) (a : Nat) (hn : (keysOf (h.fields a)).Nodup) (v : Val) :
    O.keyOf h a v = .panic .noValue ↔
      ∀ k w, absMap (h.fields a) k = some w → L.goEq (h.getVal w) v = false := by
  have : O.keyOf h a v = .panic .noValue ↔
      (h.fields a).find? (fun kv => L.goEq (h.getVal kv.2) v) = none := by
    unfold O.keyOf; cases (h.fields a).find? (fun kv => L.goEq (h.getVal kv.2) v) <;> simp
  rw [this, List.find?_eq_none]
  simp only [C06_assoc_mem _ hn, Prod.forall, Bool.not_eq_true]

/-- `KeyOf` either returns a key or panics with `noValue`; it returns a key iff `Contains` -/
theorem C06_keyOf_contains (h : Heap) (a : Nat) (v : Val) :
    (∃ k, O.keyOf h a v = .ok k) ↔ O.contains h a v = true := by
  -- both sides say that `find?` finds something
  unfold O.keyOf O.contains
  rw [List.any_eq_true, ← List.find?_isSome]
  cases (h.fields a).find? (fun kv => L.goEq (h.getVal kv.2) v) <;> simp

example : O.keyOf c06H 0 (.int 7) = .ok [] ∧ O.keyOf c06H 0 (.int 8) = .panic .noValue ∧
    O.contains c06H 2 (.list ⟨1, 0⟩) = true := ⟨rfl, rfl, rfl⟩

/-! ### 11. Pluck -/

/-- every requested key present: a fresh object holding exactly the requested keys, each with
what `Get` returns; no old cell changes -/
theorem C06_pluck (h : Heap) (a : Nat) (ks : List Str) (ho : h.isObj a = true)
    (hall : ∀ k ∈ ks, k ∈ keysOf (h.fields a)) :
    ∃ h', O.pluck h a ks = (h', .ok ⟨h.length, 0⟩) ∧
      h'.length = h.length + 1 ∧ (∀ b, b < h.length → h'[b]? = h[b]?) ∧
      h'.isObj h.length = true ∧ (keysOf (h'.fields h.length)).Nodup ∧
      ∀ k, absMap (h'.fields h.length) k
        = if k ∈ ks then (absMap (h.fields a) k).map h.getVal else none := by
  have hlt := Heap.isObj_lt ho
  have hr := Heap.isObj_append_new h [] 0
  have hfa : (h ++ [Cell.obj [] 0]).fields a = h.fields a := Heap.fields_append_old h _ hlt
  have hl := pluckLoop_ok (h ++ [Cell.obj [] 0]) a h.length ks (Nat.ne_of_gt hlt) hr
    (by rw [hfa]; exact hall)
  rw [Heap.fields_append_new] at hl
  refine ⟨_, by unfold O.pluck; simp only [hl]; rfl, ?_, ?_, ?_, ?_, ?_⟩
  · rw [Heap.length_setFields, List.length_append, List.length_singleton]
  · exact (Ext.of_append_except (ExtExcept.setFields h.length (h ++ [Cell.obj [] 0]) _)).2
  · rw [Heap.isObj_setFields]; exact hr
  · rw [Heap.fields_setFields_same _ hr]; exact nodup_foldl_setKV id _ ks List.nodup_nil
  · intro k
    rw [Heap.fields_setFields_same _ hr]
    unfold absMap
    rw [lookup_foldl_setKV_key]
    split
    · next hk =>
      obtain ⟨v, hv⟩ := exists_lookup_of_mem_keys (hall k hk)
      simp only [pluckVal, O.get, hfa, hv, Heap.getVal_append_obj, Option.map_some]
    · rfl

example : O.pluck c06H 2 [['z'], ['z'], ['a']]
    = (c06H ++ [.obj [(['z'], .list ⟨1, 0⟩), (['a'], .int 1)] 0], .ok ⟨3, 0⟩) := by rfl

/-- some requested key absent: `Pluck` panics (`Get` of a missing key); no old cell changes -/
theorem C06_pluck_panic (h : Heap) (a : Nat) (ks : List Str) (ho : h.isObj a = true)
    (hmiss : ∃ k ∈ ks, k ∉ keysOf (h.fields a)) :
    ∃ h', O.pluck h a ks = (h', .panic .missingKey) ∧
      h.length ≤ h'.length ∧ ∀ b, b < h.length → h'[b]? = h[b]? := by
  have hlt := Heap.isObj_lt ho
  obtain ⟨acc, hacc⟩ := pluckLoop_missing (h ++ [Cell.obj [] 0]) a h.length ks (Nat.ne_of_gt hlt)
    (by rw [Heap.fields_append_old h _ hlt]; exact hmiss)
  refine ⟨(h ++ [Cell.obj [] 0]).setFields h.length acc, by unfold O.pluck; simp only [hacc], ?_⟩
  exact Ext.of_append_except (ExtExcept.setFields h.length (h ++ [Cell.obj [] 0]) _)

example : c06H.isObj 2 = true ∧ ∃ k ∈ [['a'], ['q']], k ∉ keysOf (c06H.fields 2) :=
  ⟨by decide, ['q'], by decide, by decide⟩

/-! ### 12. Merge (the part after cloning the receiver) -/

/-- the fold `Merge` performs: the argument's value wins on a shared key, the other keys of
both maps are kept -/
theorem C06_merge_fold (g : Val → Val) (fsB : List (Str × Val)) (hn : (keysOf fsB).Nodup)
    (base : List (Str × Val)) (hb : (keysOf base).Nodup) :
    (∀ k, absMap (fsB.foldl (fun acc kv => setKV acc kv.1 (g kv.2)) base) k
        = match absMap fsB k with
          | some w => some (g w)
          | none => absMap base k) ∧
    (keysOf (fsB.foldl (fun acc kv => setKV acc kv.1 (g kv.2)) base)).Nodup ∧
    ∀ k, k ∈ keysOf (fsB.foldl (fun acc kv => setKV acc kv.1 (g kv.2)) base)
        ↔ k ∈ keysOf fsB ∨ k ∈ keysOf base := by
  refine ⟨fun k => ?_, nodup_foldl_setKV (fun kv : Str × Val => kv.1) (fun kv => g kv.2) fsB hb,
    mem_keysOf_foldl_setKV (fun kv : Str × Val => kv.1) (fun kv => g kv.2) fsB base⟩
  unfold absMap
  rw [lookup_foldl_setKV_nodup g fsB hn base k]
  cases lookup fsB k <;> rfl

example : (keysOf (c06H.fields 2)).Nodup ∧ (keysOf (c06H.fields 0)).Nodup :=
  ⟨c06H_allNodup 2, c06H_allNodup 0⟩
example : (c06H.fields 2).foldl (fun acc kv => setKV acc kv.1 (c06H.getVal kv.2)) (c06H.fields 0)
    = [([], .int 7), (['a'], .int 1), (['z'], .list ⟨1, 0⟩)] := by rfl

/-- `Merge`: once the receiver has been cloned into the fresh cell `r` (heap `h1`), the result is
that cell updated with the argument's fields; only that cell changes. -/
theorem C06_merge (h : Heap) (a another : Nat) (h1 : Heap) (r : Ref)
    (hc : O.clone h (.obj ⟨a, 0⟩) = some (h1, .obj r)) (ho : h1.isObj r.addr = true)
    (hn : (keysOf (h1.fields another)).Nodup) :
    ∃ h', O.merge h a another = some (h', r) ∧
      h'.length = h1.length ∧ (∀ b, b ≠ r.addr → h'[b]? = h1[b]?) ∧
      ∀ k, absMap (h'.fields r.addr) k
        = match absMap (h1.fields another) k with
          | some w => some (h1.getVal w)
          | none => absMap (h1.fields r.addr) k := by
  refine ⟨_, by unfold O.merge; simp only [hc]; rfl, (frame_setFields _ _ _).1,
    (frame_setFields _ _ _).2, fun k => ?_⟩
  rw [Heap.fields_setFields_same _ ho]
  unfold absMap
  rw [lookup_foldl_setKV_nodup h1.getVal _ hn _ k]
  cases lookup (h1.fields another) k <;> rfl

theorem c06_clone : O.clone c06H (.obj ⟨0, 0⟩)
    = some (c06H ++ [.obj [([], .int 7), (['a'], .bool true)] 0], .obj ⟨3, 0⟩) := by
  simp [O.clone, reifyF, reify, reifyFields, build, buildFields, c06H]

example : O.clone c06H (.obj ⟨0, 0⟩)
      = some (c06H ++ [.obj [([], .int 7), (['a'], .bool true)] 0], .obj ⟨3, 0⟩) ∧
    O.merge c06H 0 2
      = some (c06H ++ [.obj [([], .int 7), (['a'], .int 1), (['z'], .list ⟨1, 0⟩)] 0], ⟨3, 0⟩) :=
  ⟨c06_clone, by unfold O.merge; rw [c06_clone]; rfl⟩

/-! ### 13. frame: only the receiver changes; containers are held by reference -/

/-- `Set` with arbitrary arguments (nested slices / maps, unsupported values, non-string keys,
odd count — panicking or not): every old cell other than the receiver is untouched -/
theorem C06_frame_set (h : Heap) (a : Nat) (pairs : O.Pairs) (odd : Bool) :
    h.length ≤ (O.set h a pairs odd).1.length ∧
    ∀ b, b < h.length → b ≠ a → (O.set h a pairs odd).1[b]? = h[b]? := by
  cases odd with
  | true => exact ⟨Nat.le_refl _, fun _ _ _ => rfl⟩
  | false =>
    rw [set_fst]
    exact setLoop_keeps (ExtExcept.keeps a h) a (.inl rfl) pairs h (ExtExcept.refl a h)

/-- with scalar arguments nothing is allocated -/
theorem C06_frame_set_scalar (h : Heap) (a : Nat) (ps : List (Str × GoVal))
    (hs : ∀ p ∈ ps, p.2.isScalar = true) :
    (O.set h a (toPairs ps) false).1.length = h.length ∧
    ∀ b, b ≠ a → (O.set h a (toPairs ps) false).1[b]? = h[b]? := by
  rw [set_fst, setLoop_scalar h a ps hs]
  exact frame_setFields _ _ _

theorem C06_frame_unset (h : Heap) (a : Nat) (ks : List Str) :
    (O.unset h a ks).1.length = h.length ∧ ∀ b, b ≠ a → (O.unset h a ks).1[b]? = h[b]? :=
  frame_setFields _ _ _

theorem C06_frame_clear (h : Heap) (a : Nat) :
    (O.clear h a).1.length = h.length ∧ ∀ b, b ≠ a → (O.clear h a).1[b]? = h[b]? :=
  frame_setFields _ _ _

/-- replacing the fields of one cell changes no cell's kind and no cell's embedding level
(so the receiver of `Set` / `Unset` / `Clear` stays an object with the same level) -/
theorem C06_frame_kind (h : Heap) (a : Nat) (fs : List (Str × Val)) (b : Nat) :
    (h.setFields a fs).isObj b = h.isObj b ∧ (h.setFields a fs).ego b = h.ego b :=
  ⟨Heap.isObj_setFields h a b fs, Heap.ego_setFields h a b fs⟩

/-- `Get` of a stored container returns a reference to the stored cell (no copy) -/
theorem C06_get_by_ref (h : Heap) (a : Nat) (k : Str) (r : Ref) :
    (absMap (h.fields a) k = some (.list r) → O.get h a k = .ok (.list ⟨r.addr, h.ego r.addr⟩)) ∧
    (absMap (h.fields a) k = some (.obj r) → O.get h a k = .ok (.obj ⟨r.addr, h.ego r.addr⟩)) := by
  constructor <;> intro hl <;> rw [C06_get, hl] <;> rfl

/-- `Set(k, container)` then `Get(k)`: the very same cell -/
theorem C06_set_get_by_ref (h : Heap) (a : Nat) (k : Str) (r : Ref) (ho : h.isObj a = true) :
    O.get (O.set h a (toPairs [(k, .list r)]) false).1 a k = .ok (.list ⟨r.addr, h.ego r.addr⟩) ∧
    O.get (O.set h a (toPairs [(k, .obj r)]) false).1 a k = .ok (.obj ⟨r.addr, h.ego r.addr⟩) :=
  ⟨get_set h a k (.list r) ho rfl, get_set h a k (.obj r) ho rfl⟩

example : O.get c06H 2 ['z'] = .ok (.list ⟨1, 0⟩) := rfl

/-! ### 14. programs -/

/-- the Go-map invariant (distinct keys in every object cell) holds after any program,
including programs with nested map / slice arguments and panicking steps -/
theorem C06_program (h : Heap) (hn : AllNodup h) (prog : List OOp) : AllNodup (runO h prog) :=
  foldl_keeps stepO_allNodup prog hn

/-- in particular from the empty heap, where every object is born by `NewObject` -/
theorem C06_program_init (prog : List OOp) (a : Nat) : (keysOf ((runO [] prog).fields a)).Nodup :=
  C06_program [] AllNodup.nil prog a

/-- any finite program of mutators acts on each object exactly like the corresponding program
of map updates (operations addressed to other objects do not affect it) -/
theorem C06_program_sim (h : Heap) (a : Nat) (ho : h.isObj a = true) (hn : AllNodup h)
    (prog : List OOp) (hs : ∀ op ∈ prog, op.scalar = true) :
    (runO h prog).isObj a = true ∧
    absMap ((runO h prog).fields a) = prog.foldl (absStep a) (absMap (h.fields a)) := by
  induction prog generalizing h with
  | nil => exact ⟨ho, rfl⟩
  | cons op prog ih =>
    rw [List.forall_mem_cons] at hs
    obtain ⟨h1, h2⟩ := stepO_sim h a ho hn op hs.1
    rw [List.foldl_cons, ← h2]
    exact ih (stepO h op) h1 (stepO_allNodup h op hn) hs.2

/-- a program on two objects: the empty key, a repeated key, unset of a missing key, clear -/
def c06Prog : List OOp :=
  [.new [([], .intw .int 1), ([], .intw .int 2)], .new [(['k'], .obj ⟨0, 0⟩)],
   .set 0 [(['a'], .nil), ([], .str [])], .unset 0 [['z', 'z'], ['a']], .set 1 [(['k'], .bool true)],
   .clear 1, .set 1 [(['n'], .slice .any [.nil, .unsupported])]]

example : runO [] c06Prog = [.obj [([], .str [])] 0, .obj [] 0, .list [.nil] 0] := by rfl
example : ∀ op ∈ c06Prog.take 6, op.scalar = true := by decide

#print axioms C06_assoc_set
#print axioms C06_assoc_del
#print axioms C06_assoc_nodup_set
#print axioms C06_assoc_nodup_del
#print axioms C06_assoc_keys_set
#print axioms C06_assoc_keys_del
#print axioms C06_assoc_length_set
#print axioms C06_assoc_length_del
#print axioms C06_assoc_mem
#print axioms C06_assoc_dom
#print axioms C06_parse_scalar
#print axioms C06_set
#print axioms C06_set_absMap
#print axioms C06_set_last
#print axioms C06_set_nodup
#print axioms C06_set_panic_odd
#print axioms C06_set_panic_key
#print axioms C06_new
#print axioms C06_newFrom
#print axioms C06_unset
#print axioms C06_unset_missing
#print axioms C06_clear
#print axioms C06_get
#print axioms C06_get_panic_iff
#print axioms C06_getK
#print axioms C06_typeOf
#print axioms C06_typeOf_undefined_iff
#print axioms C06_keyExists
#print axioms C06_count
#print axioms C06_empty
#print axioms C06_keys
#print axioms C06_values
#print axioms C06_dict
#print axioms C06_contains
#print axioms C06_keyOf_ok
#print axioms C06_keyOf_panic
#print axioms C06_keyOf_contains
#print axioms C06_pluck
#print axioms C06_pluck_panic
#print axioms C06_merge_fold
#print axioms C06_merge
#print axioms C06_frame_set
#print axioms C06_frame_set_scalar
#print axioms C06_frame_unset
#print axioms C06_frame_clear
#print axioms C06_frame_kind
#print axioms C06_get_by_ref
#print axioms C06_set_get_by_ref
#print axioms C06_program
#print axioms C06_program_init
#print axioms C06_program_sim

end Anytype
