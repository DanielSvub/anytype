/-
Property C04.

"For every byte string, ParseList, ParseObject and ParseFile terminate without panicking and return
either a non-nil container with a nil error or a nil container with a non-nil error, and the same
input always gives the same outcome.  Every proper prefix of a text produced by String() is rejected
with an error (a cut-off document is never silently accepted), and so is every document that
contains ill-formed UTF-8 between its root brackets.  ParseFile(path) returns exactly what
ParseObject returns for the file's bytes, or an error if the file cannot be read."

Termination / no panic is totality of the model functions together with the unreachability of the
model's fuel sentinel (`C04_total_*`); determinism holds because they are functions.
-/
import Anytype.Lemmas.ParserBytes
import Anytype.Props.C01
import Anytype.Lemmas.FmtContractHolds
namespace Anytype

/-! ### 1. totality: the fuel sentinel is unreachable; fuel monotonicity -/

theorem C04_total_list (post : List UInt8) (line : Nat) :
    ∀ l, runList post line ≠ .err ⟨.fuel, l⟩ :=
  entryList.run_notFuel post line

theorem C04_total_object (post : List UInt8) (line : Nat) :
    ∀ l, runObject post line ≠ .err ⟨.fuel, l⟩ :=
  entryObject.run_notFuel post line

/-- any fuel from `items.length + 1` on, any machine state: never the fuel sentinel -/
theorem C04_total_pList (f : Nat) (items : List Item) (hf : items.length + 1 ≤ f) (st acc val iv line) :
    ∀ l, pList f items st acc val iv line ≠ .err ⟨.fuel, l⟩ := by
  rw [pList_eq_exec]; exact exec_total f _ _ _ hf

theorem C04_total_pObject (f : Nat) (items : List Item) (hf : items.length + 1 ≤ f)
    (st acc key val iv line) :
    ∀ l, pObject f items st acc key val iv line ≠ .err ⟨.fuel, l⟩ := by
  rw [pObject_eq_exec]; exact exec_total f _ _ _ hf

example : ([some '1', some ']'] : List Item).length + 1 ≤ 3 := by decide

/-- fuel monotonicity: a result other than the fuel sentinel is the result for every larger fuel -/
theorem C04_fuel_mono_pList {f items st acc val iv line r}
    (h : pList f items st acc val iv line = r) (hr : ∀ l, r ≠ .err ⟨.fuel, l⟩)
    (f' : Nat) (hf : f ≤ f') : pList f' items st acc val iv line = r := by
  rw [pList_eq_exec] at h ⊢; exact exec_mono f h hr f' hf

theorem C04_fuel_mono_pObject {f items st acc key val iv line r}
    (h : pObject f items st acc key val iv line = r) (hr : ∀ l, r ≠ .err ⟨.fuel, l⟩)
    (f' : Nat) (hf : f ≤ f') : pObject f' items st acc key val iv line = r := by
  rw [pObject_eq_exec] at h ⊢; exact exec_mono f h hr f' hf

example : pList 3 [some '1', some ']'] .val [] [] false 1 = .ok (.list [.int 1]) [] 1 ∧
    ∀ l, PRes.ok (.list [.int 1]) [] 1 ≠ .err ⟨.fuel, l⟩ := ⟨by decide +kernel, fun _ h => by cases h⟩

theorem C04_total_parseList (bs : List UInt8) : ∀ l, parseListBytes bs ≠ .error ⟨.fuel, l⟩ :=
  entryList.notFuel bs

theorem C04_total_parseObject (bs : List UInt8) : ∀ l, parseObjectBytes bs ≠ .error ⟨.fuel, l⟩ :=
  entryObject.notFuel bs

theorem C04_total_parseFile (fs : String → Option (List UInt8)) (path : String) :
    ∀ l, parseFile fs path ≠ .error ⟨.fuel, l⟩ := by
  intro l h
  unfold parseFile at h
  split at h
  · cases h
  · exact C04_total_parseObject _ l h

/-! ### 2. exactly one of (container, error) -/

/-- the Go result pair `(container, error)`; `none` stands for `nil` -/
def goPair : Except PErr JVal → Option JVal × Option PErr
  | .ok v => (some v, none)
  | .error e => (none, some e)

theorem C04_goPair_exclusive (r : Except PErr JVal) :
    ((goPair r).1.isSome ∧ (goPair r).2 = none) ∨ ((goPair r).1 = none ∧ (goPair r).2.isSome) := by
  cases r with
  | ok v => exact .inl ⟨rfl, rfl⟩
  | error e => exact .inr ⟨rfl, rfl⟩

/-- a container with a nil error, or a nil container with an error — never both, never neither -/
theorem C04_exclusive (bs : List UInt8) (fs : String → Option (List UInt8)) (path : String) :
    (let r := goPair (parseListBytes bs); (r.1.isSome ∧ r.2 = none) ∨ (r.1 = none ∧ r.2.isSome)) ∧
    (let r := goPair (parseObjectBytes bs); (r.1.isSome ∧ r.2 = none) ∨ (r.1 = none ∧ r.2.isSome)) ∧
    (let r := goPair (parseFile fs path); (r.1.isSome ∧ r.2 = none) ∨ (r.1 = none ∧ r.2.isSome)) :=
  ⟨C04_goPair_exclusive _, C04_goPair_exclusive _, C04_goPair_exclusive _⟩

/-- the same input always gives the same outcome (the entry points are functions) -/
theorem C04_deterministic (bs bs' : List UInt8) (h : bs = bs') :
    parseListBytes bs = parseListBytes bs' ∧ parseObjectBytes bs = parseObjectBytes bs' := by
  subst h; exact ⟨rfl, rfl⟩

/-! ### 3. the consumed region (items level) -/

/-- An accepting run of the list machine, from any state and with any fuel, consumes a non-empty
region `c` of well-formed characters, counts its newlines, can be replayed in front of any other
tail (locality), and rejects every proper prefix of `c`, alone or followed by an ill-formed item
(what a cut in the middle of a multi-byte character decodes to). -/
theorem C04_items_list {f items st acc val iv line v rest line'}
    (h : pList f items st acc val iv line = .ok v rest line') :
    ∃ c, items = c ++ rest ∧ c ≠ [] ∧ (∀ it ∈ c, it ≠ none) ∧ line' = line + nlCount c ∧
      (∀ (t : List Item) (f' : Nat), c.length < f' →
        pList f' (c ++ t) st acc val iv line = .ok v t line') ∧
      (∀ (p q : List Item), c = p ++ q → q ≠ [] →
        ∀ (f' : Nat) (tail : List Item), (tail = [] ∨ tail.head? = some none) →
          ∀ v' r' l', pList f' (p ++ tail) st acc val iv line ≠ .ok v' r' l') := by
  simp only [pList_eq_exec] at h ⊢
  exact exec_master h

theorem C04_items_object {f items st acc key val iv line v rest line'}
    (h : pObject f items st acc key val iv line = .ok v rest line') :
    ∃ c, items = c ++ rest ∧ c ≠ [] ∧ (∀ it ∈ c, it ≠ none) ∧ line' = line + nlCount c ∧
      (∀ (t : List Item) (f' : Nat), c.length < f' →
        pObject f' (c ++ t) st acc key val iv line = .ok v t line') ∧
      (∀ (p q : List Item), c = p ++ q → q ≠ [] →
        ∀ (f' : Nat) (tail : List Item), (tail = [] ∨ tail.head? = some none) →
          ∀ v' r' l', pObject f' (p ++ tail) st acc key val iv line ≠ .ok v' r' l') := by
  simp only [pObject_eq_exec] at h ⊢
  exact exec_master h

-- `1,"a"]z` after the root bracket: accepted, `z` is left over
example : pList 10 [some '1', some ',', some '"', some 'a', some '"', some ']', some 'z']
    .val [] [] false 1 = .ok (.list [.int 1, .str ['a']]) [some 'z'] 1 := by decide +kernel

-- `"k":[2]}x` after the root bracket
example : pObject 12 [some '"', some 'k', some '"', some ':', some '[', some '2', some ']', some '}',
    some 'x'] .keyStart [] [] [] false 1 = .ok (.obj [(['k'], .list [.int 2])]) [some 'x'] 1 := by decide +kernel

/-! ### 4. cut-off documents (byte level) -/

/-- a text without the root bracket is rejected -/
theorem C04_nobracket_list (p : List UInt8) (h : (0x5B : UInt8) ∉ p) :
    parseListBytes p = .error ⟨.missingBracket, none⟩ :=
  entryList.no_bracket h

theorem C04_nobracket_object (p : List UInt8) (h : (0x7B : UInt8) ∉ p) :
    parseObjectBytes p = .error ⟨.missingBracket, none⟩ :=
  entryObject.no_bracket h

/-- `cb` are bytes after the root bracket whose decoded items are exactly what the machine consumed
(`decodeAll post = decodeAll cb ++ rest`): every input cut strictly inside `cb` — at a character
boundary or in the middle of a multi-byte character — is rejected. -/
theorem C04_region_list {bs pre post cb restb : List UInt8} {v rest l}
    (hs : splitAtByte 0x5B bs = some (pre, post))
    (hr : runList post (countNL pre + 1) = .ok v rest l)
    (_hpost : post = cb ++ restb) (hdec : decodeAll post = decodeAll cb ++ rest) :
    ∀ post', post' <+: cb → post' ≠ cb → ∃ e, parseListBytes (pre ++ 0x5B :: post') = .error e :=
  entryList.region hs hr hdec

theorem C04_region_object {bs pre post cb restb : List UInt8} {v rest l}
    (hs : splitAtByte 0x7B bs = some (pre, post))
    (hr : runObject post (countNL pre + 1) = .ok v rest l)
    (_hpost : post = cb ++ restb) (hdec : decodeAll post = decodeAll cb ++ rest) :
    ∀ post', post' <+: cb → post' ≠ cb → ∃ e, parseObjectBytes (pre ++ 0x7B :: post') = .error e :=
  entryObject.region hs hr hdec

/-- An accepted input has a consumed byte region `cb` right after the root bracket (it ends at a
character boundary, decodes to well-formed characters only, and what follows it decodes to the
machine's leftover `rest`); every input cut strictly inside `cb` — at a character boundary or in
the middle of a multi-byte character — is rejected. -/
theorem C04_prefix_list {bs pre post : List UInt8} {v rest l}
    (hs : splitAtByte 0x5B bs = some (pre, post))
    (hr : runList post (countNL pre + 1) = .ok v rest l) :
    ∃ cb restb, bs = pre ++ 0x5B :: (cb ++ restb) ∧ cb ≠ [] ∧ none ∉ decodeAll cb ∧
      decodeAll restb = rest ∧ decodeAll post = decodeAll cb ++ rest ∧
      ∀ post', post' <+: cb → post' ≠ cb →
        ∃ e, parseListBytes (pre ++ 0x5B :: post') = .error e :=
  entryList.consumed hs hr

theorem C04_prefix_object {bs pre post : List UInt8} {v rest l}
    (hs : splitAtByte 0x7B bs = some (pre, post))
    (hr : runObject post (countNL pre + 1) = .ok v rest l) :
    ∃ cb restb, bs = pre ++ 0x7B :: (cb ++ restb) ∧ cb ≠ [] ∧ none ∉ decodeAll cb ∧
      decodeAll restb = rest ∧ decodeAll post = decodeAll cb ++ rest ∧
      ∀ post', post' <+: cb → post' ≠ cb →
        ∃ e, parseObjectBytes (pre ++ 0x7B :: post') = .error e :=
  entryObject.consumed hs hr

/-- If the machine consumes everything after the root bracket (as it does on a text produced by
`String()`), every proper prefix of the input is rejected with an error. -/
theorem C04_cut_list {bs pre post : List UInt8} {v l}
    (hs : splitAtByte 0x5B bs = some (pre, post))
    (hr : runList post (countNL pre + 1) = .ok v [] l) :
    ∀ p, p <+: bs → p ≠ bs → ∃ e, parseListBytes p = .error e :=
  entryList.cut hs hr

theorem C04_cut_object {bs pre post : List UInt8} {v l}
    (hs : splitAtByte 0x7B bs = some (pre, post))
    (hr : runObject post (countNL pre + 1) = .ok v [] l) :
    ∀ p, p <+: bs → p ≠ bs → ∃ e, parseObjectBytes p = .error e :=
  entryObject.cut hs hr

/-- the same for files -/
theorem C04_cut_file {fs : String → Option (List UInt8)} {path path' : String}
    {bs p pre post : List UInt8} {v l}
    (_hf : fs path = some bs) (hf' : fs path' = some p)
    (hs : splitAtByte 0x7B bs = some (pre, post))
    (hr : runObject post (countNL pre + 1) = .ok v [] l) (hp : p <+: bs) (hne : p ≠ bs) :
    ∃ e, parseFile fs path' = .error e := by
  simp only [parseFile, hf']
  exact C04_cut_object hs hr p hp hne

-- non-vacuity: ` [1,"é"]` (the é is two bytes); the machine consumes everything
example : splitAtByte 0x5B [0x20, 0x5B, 0x31, 0x2C, 0x22, 0xC3, 0xA9, 0x22, 0x5D] =
      some ([0x20], [0x31, 0x2C, 0x22, 0xC3, 0xA9, 0x22, 0x5D]) ∧
    runList [0x31, 0x2C, 0x22, 0xC3, 0xA9, 0x22, 0x5D] (countNL [0x20] + 1) =
      .ok (.list [.int 1, .str [Char.ofNat 0xE9]]) [] 1 := by decide +kernel

-- `[1]x` : accepted with a non-empty leftover
example : splitAtByte 0x5B [0x5B, 0x31, 0x5D, 0x78] = some ([], [0x31, 0x5D, 0x78]) ∧
    runList [0x31, 0x5D, 0x78] (countNL [] + 1) = .ok (.list [.int 1]) [some 'x'] 1 := by decide +kernel

-- `{"a":1}`
example : splitAtByte 0x7B [0x7B, 0x22, 0x61, 0x22, 0x3A, 0x31, 0x7D] =
      some ([], [0x22, 0x61, 0x22, 0x3A, 0x31, 0x7D]) ∧
    runObject [0x22, 0x61, 0x22, 0x3A, 0x31, 0x7D] (countNL [] + 1) =
      .ok (.obj [(['a'], .int 1)]) [] 1 := by decide +kernel

/-! ### 5. no ill-formed UTF-8 between the root brackets of an accepted text -/

theorem C04_utf8_list {bs v} (h : parseListBytes bs = .ok v) :
    ∃ pre post rest l c, splitAtByte 0x5B bs = some (pre, post) ∧
      runList post (countNL pre + 1) = .ok v rest l ∧ decodeAll post = c ++ rest ∧ c ≠ [] ∧
      none ∉ c ∧ ∀ i, (decodeAll post)[i]? = some none → c.length ≤ i :=
  entryList.utf8 h

theorem C04_utf8_object {bs v} (h : parseObjectBytes bs = .ok v) :
    ∃ pre post rest l c, splitAtByte 0x7B bs = some (pre, post) ∧
      runObject post (countNL pre + 1) = .ok v rest l ∧ decodeAll post = c ++ rest ∧ c ≠ [] ∧
      none ∉ c ∧ ∀ i, (decodeAll post)[i]? = some none → c.length ≤ i :=
  entryObject.utf8 h

-- `[1]` followed by an ill-formed byte: accepted, the ill-formed byte lies outside the brackets
example : parseListBytes [0x5B, 0x31, 0x5D, 0xFF] = .ok (.list [.int 1]) := by decide +kernel

-- `{}`
example : parseObjectBytes [0x7B, 0x7D] = .ok (.obj []) := by decide +kernel

/-- an input with an ill-formed item at index `i` after the root bracket is rejected, unless the
root container was closed before index `i` -/
theorem C04_utf8_reject_list {bs pre post : List UInt8} {i : Nat}
    (hs : splitAtByte 0x5B bs = some (pre, post)) (hi : (decodeAll post)[i]? = some none) :
    (∃ e, parseListBytes bs = .error e) ∨
    (∃ v rest l c, runList post (countNL pre + 1) = .ok v rest l ∧ decodeAll post = c ++ rest ∧
      c.length ≤ i) :=
  entryList.utf8_reject hs hi

theorem C04_utf8_reject_object {bs pre post : List UInt8} {i : Nat}
    (hs : splitAtByte 0x7B bs = some (pre, post)) (hi : (decodeAll post)[i]? = some none) :
    (∃ e, parseObjectBytes bs = .error e) ∨
    (∃ v rest l c, runObject post (countNL pre + 1) = .ok v rest l ∧ decodeAll post = c ++ rest ∧
      c.length ≤ i) :=
  entryObject.utf8_reject hs hi

-- `[1` then an ill-formed byte: index 1 after the bracket is ill-formed
example : splitAtByte 0x5B [0x5B, 0x31, 0xFF, 0x5D] = some ([], [0x31, 0xFF, 0x5D]) ∧
    (decodeAll [0x31, 0xFF, 0x5D])[1]? = some none := by decide +kernel

/-! ### 6. ParseFile -/

theorem C04_file (fs : String → Option (List UInt8)) (path : String) :
    parseFile fs path =
      match fs path with
      | none => .error ⟨.io, none⟩
      | some b => parseObjectBytes b := rfl

end Anytype

open Anytype in
#print axioms C04_total_list
open Anytype in
#print axioms C04_total_object
open Anytype in
#print axioms C04_total_pList
open Anytype in
#print axioms C04_total_pObject
open Anytype in
#print axioms C04_fuel_mono_pList
open Anytype in
#print axioms C04_fuel_mono_pObject
open Anytype in
#print axioms C04_total_parseList
open Anytype in
#print axioms C04_total_parseObject
open Anytype in
#print axioms C04_total_parseFile
open Anytype in
#print axioms C04_goPair_exclusive
open Anytype in
#print axioms C04_exclusive
open Anytype in
#print axioms C04_deterministic
open Anytype in
#print axioms C04_items_list
open Anytype in
#print axioms C04_items_object
open Anytype in
#print axioms C04_nobracket_list
open Anytype in
#print axioms C04_nobracket_object
open Anytype in
#print axioms C04_region_list
open Anytype in
#print axioms C04_region_object
open Anytype in
#print axioms C04_prefix_list
open Anytype in
#print axioms C04_prefix_object
open Anytype in
#print axioms C04_cut_list
open Anytype in
#print axioms C04_cut_object
open Anytype in
#print axioms C04_cut_file
open Anytype in
#print axioms C04_utf8_list
open Anytype in
#print axioms C04_utf8_object
open Anytype in
#print axioms C04_utf8_reject_list
open Anytype in
#print axioms C04_utf8_reject_object
open Anytype in
#print axioms C04_file


/-! ### every proper prefix of a serialised text is rejected (C04 ∘ C01) -/

open Anytype in
/-- "Every proper prefix of a text produced by List.String() is rejected with an error":
for every well-formed list value, in every field order of its nested objects. -/
theorem C04_cut_serial_list (xs : List JVal) (hw : (JVal.list xs).WF) :
    ∀ p, p <+: encode (ser (.list xs)) → p ≠ encode (ser (.list xs)) →
      ∃ e, parseListBytes p = .error e := by
  obtain ⟨post, hs, hr⟩ := C01_consumes_all_list xs hw
  exact C04_cut_list hs (hr _)

open Anytype in
theorem C04_cut_serial_object (kvs : List (Str × JVal)) (hw : (JVal.obj kvs).WF) :
    ∀ p, p <+: encode (ser (.obj kvs)) → p ≠ encode (ser (.obj kvs)) →
      ∃ e, parseObjectBytes p = .error e := by
  obtain ⟨post, hs, hr⟩ := C01_consumes_all_object kvs hw
  exact C04_cut_object hs (hr _)

open Anytype in
example : (JVal.list sampleList).WF := sampleList_WF

open Anytype in
#print axioms C04_cut_serial_list
open Anytype in
#print axioms C04_cut_serial_object
