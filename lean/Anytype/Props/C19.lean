/-
C19 — a user type that embeds a List / Object and registers itself with `Init` gets its own outer
value back from every fluent method and from `Ego`; a stored container is handed back by every
reader as its registered outer value.

Model: a cell carries `ego` (the level registered with `Init` = `Heap.setEgo`), a reference is
`⟨addr, lvl⟩`, `h.egoRef a = ⟨a, h.ego a⟩` is the registered outer value of cell `a` (what `Ego()`
returns), `h.getVal` turns a stored reference into the registered outer value of its cell.
The driver returns `h.egoRef a` for every `ForEach*` variant / `ForEachAsync` (they do not change the
heap: their results are logs) and `h'.egoRef a` for `SetTF` / `UnsetTF` (`h'` = heap after the call).
-/
import Anytype.Lemmas.Ego
import Anytype.Lemmas.Normalize
namespace Anytype
open Heap

/-- decidable equality of results, for the evaluated examples of this file only -/
local instance C19.outDecEq {α : Type} [DecidableEq α] : DecidableEq (Out α)
  | .ok a, .ok b => if h : a = b then isTrue (by rw [h]) else isFalse (fun e => by cases e; exact h rfl)
  | .panic a, .panic b => if h : a = b then isTrue (by rw [h]) else isFalse (fun e => by cases e; exact h rfl)
  | .ok _, .panic _ => isFalse (fun e => by cases e)
  | .panic _, .ok _ => isFalse (fun e => by cases e)

/-- cell 0: a list registered at level 2 holding `[5, <list 1 stored at level 0>, <object 2 stored
at its registered level 1>]`; cell 1: a list registered at level 3; cell 2: an object registered at
level 1 holding `{"l": <list 1>}` -/
def exE : Heap :=
  [.list [.int 5, .list ⟨1, 0⟩, .obj ⟨2, 1⟩] 2, .list [.int 2, .int 1] 3, .obj [(['l'], .list ⟨1, 0⟩)] 1]

/-! ## 1. `Init` and `Ego` -/

/-- `Init(outer)` registers the level on that cell and changes nothing else; `Ego()` returns it -/
theorem C19_ego_init (h : Heap) (a k : Nat) (ha : a < h.length) :
    (h.setEgo a k).ego a = k ∧ (h.setEgo a k).egoRef a = ⟨a, k⟩ ∧
    (∀ b, b ≠ a → (h.setEgo a k)[b]? = h[b]?) ∧
    (∀ b, (h.setEgo a k).items b = h.items b ∧ (h.setEgo a k).fields b = h.fields b) ∧
    (h.setEgo a k).length = h.length :=
  ⟨ego_setEgo_self h a k ha, by simp only [egoRef, ego_setEgo_self h a k ha],
   fun _ hb => getElem?_setEgo_ne h k hb, fun b => ⟨items_setEgo h a k b, fields_setEgo h a k b⟩,
   length_setEgo h a k⟩

example : (exE.setEgo 1 7).egoRef 1 = ⟨1, 7⟩ ∧ (exE.setEgo 1 7).items 1 = [.int 2, .int 1] := by decide +kernel

/-! ## 2. the fluent methods return the receiver's registered outer value -/

/-- List: whenever `Add / Insert / Replace / Delete / Pop / Clear / Sort / Reverse` returns, it
returns the outer value registered for the receiver before the call -/
theorem C19_fluent_list (h : Heap) (a : Nat) (ha : a < h.length) (gs : List GoVal) (g : GoVal) (i : Int)
    (idx : List Int) (r : Ref) :
    ((L.add h a gs).2 = .ok r → r = h.egoRef a) ∧
    ((L.insert h a i g).2 = .ok r → r = h.egoRef a) ∧
    ((L.replace h a i g).2 = .ok r → r = h.egoRef a) ∧
    ((L.delete h a idx).2 = .ok r → r = h.egoRef a) ∧
    ((L.pop h a).2 = .ok r → r = h.egoRef a) ∧
    ((L.clear h a).2 = .ok r → r = h.egoRef a) ∧
    ((L.sort h a).2 = .ok r → r = h.egoRef a) ∧
    ((L.reverse h a).2 = .ok r → r = h.egoRef a) := by
  have hadd : ∀ gs, (L.add h a gs).2 = .ok r → r = h.egoRef a := by
    intro gs hr
    have e := addEach_ext h a gs
    unfold L.add at hr
    split at hr
    · next hq => rw [hq] at e; exact fluent_ok e.mono ha hr
    · cases hr
  have hdel : ∀ idx, (L.delete h a idx).2 = .ok r → r = h.egoRef a := by
    intro idx hr
    have e := L.deleteLoop_ext h a (idx.mergeSort (fun x y => decide (x ≤ y))).reverse
    unfold L.delete at hr
    simp only at hr
    split at hr
    · next hq => rw [hq] at e; exact fluent_ok e.mono ha hr
    · cases hr
  -- `Insert` and `Replace`, once the index is accepted, convert the value and store it
  have hst : ∀ f, (L.storeWith h a g f).2 = .ok r → r = h.egoRef a := by
    intro f hr
    have e := parseVal_ext0 h g
    rcases hp : parseVal h g with ⟨h1, v | k⟩ <;> rw [hp] at e
    · rw [L.storeWith_of_ok hp] at hr; exact fluent_ok e.mono ha hr
    · rw [L.storeWith_of_panic hp] at hr; cases hr
  refine ⟨hadd gs, fun hr => ?_, fun hr => ?_, hdel idx, hdel _, fun hr => ?_, fun hr => ?_,
    fun hr => ?_⟩
  · rw [L.insert_eq] at hr
    split at hr
    · exact hst _ hr
    · cases hr
  · rw [L.replace_eq] at hr
    split at hr
    · exact hst _ hr
    · cases hr
  · exact fluent_ok (Mono.refl h) ha hr
  · unfold L.sort at hr
    simp only at hr
    split at hr <;> cases hr <;> rfl
  · exact fluent_ok (Mono.refl h) ha hr

example : (L.add exE 0 [.slice .any [.nil]]).2 = .ok ⟨0, 2⟩ ∧ (L.sort exE 1).2 = .ok ⟨1, 3⟩ ∧
    (L.pop exE 1).2 = .ok ⟨1, 3⟩ ∧ exE.egoRef 0 = ⟨0, 2⟩ := by decide +kernel

/-- Object: `Set / Unset / Clear` -/
theorem C19_fluent_obj (h : Heap) (a : Nat) (ha : a < h.length) (ps : O.Pairs) (odd : Bool)
    (keys : List Str) (r : Ref) :
    ((O.set h a ps odd).2 = .ok r → r = h.egoRef a) ∧
    ((O.unset h a keys).2 = .ok r → r = h.egoRef a) ∧
    ((O.clear h a).2 = .ok r → r = h.egoRef a) := by
  refine ⟨fun hr => ?_, fun hr => ?_, fun hr => ?_⟩
  · have e := Rf.setLoop_ext h a ps
    unfold O.set at hr
    split at hr
    · cases hr
    · split at hr
      · next hq => rw [hq] at e; exact fluent_ok e.mono ha hr
      · cases hr
  · exact fluent_ok (Rf.ounset_ext h a keys).mono ha hr
  · exact fluent_ok (Mono.refl h) ha hr

example : (O.set exE 2 [(some ['z'], .map .any [])] false).2 = .ok ⟨2, 1⟩ ∧
    (O.unset exE 2 [['l']]).2 = .ok ⟨2, 1⟩ := by decide +kernel

/-- no mutator changes the registered level (or the kind) of any existing cell — in particular the
value a later `Ego()` or fluent call returns is still the one registered with `Init` -/
theorem C19_ego_preserved (h : Heap) (a b : Nat) (hb : b < h.length) (gs : List GoVal) (g : GoVal) (i : Int)
    (idx : List Int) (ps : O.Pairs) (odd : Bool) (keys : List Str) :
    (L.add h a gs).1.ego b = h.ego b ∧ (L.insert h a i g).1.ego b = h.ego b ∧
    (L.replace h a i g).1.ego b = h.ego b ∧ (L.delete h a idx).1.ego b = h.ego b ∧
    (L.pop h a).1.ego b = h.ego b ∧ (L.clear h a).1.ego b = h.ego b ∧
    (L.sort h a).1.ego b = h.ego b ∧ (L.reverse h a).1.ego b = h.ego b ∧
    (O.set h a ps odd).1.ego b = h.ego b ∧ (O.unset h a keys).1.ego b = h.ego b ∧
    (O.clear h a).1.ego b = h.ego b ∧ (parseVal h g).1.ego b = h.ego b :=
  ⟨(L.add_ext h a gs).ego hb, (L.insert_ext h a i g).ego hb, (L.replace_ext h a i g).ego hb,
   (L.delete_ext h a idx).ego hb, (L.pop_ext h a).ego hb, (L.clear_ext h a).ego hb,
   (L.sort_ext h a).ego hb, (L.reverse_ext h a).ego hb, (Rf.oset_ext h a ps odd).ego hb,
   (Rf.ounset_ext h a keys).ego hb, (Rf.oclear_ext h a).ego hb, (parseVal_ext0 h g).ego hb⟩

/-- `SetTF` / `UnsetTF` (any path, any value, also when they panic half-way) keep the registered
level of every existing cell, so the `egoRef` of the receiver the driver returns afterwards is the
outer value registered before the call -/
theorem C19_fluent_tf (n : Nat) (h : Heap) (a : Nat) (ha : a < h.length) (tf : Str) (g : GoVal) :
    (TF.setL n h a tf g).1.egoRef a = h.egoRef a ∧ (TF.setO n h a tf g).1.egoRef a = h.egoRef a ∧
    (TF.unsetL n h a tf).1.egoRef a = h.egoRef a ∧ (TF.unsetO n h a tf).1.egoRef a = h.egoRef a ∧
    (∀ b, b < h.length → (TF.setL n h a tf g).1.ego b = h.ego b ∧ (TF.setO n h a tf g).1.ego b = h.ego b ∧
      (TF.unsetL n h a tf).1.ego b = h.ego b ∧ (TF.unsetO n h a tf).1.ego b = h.ego b) :=
  ⟨egoRef_mono ((TF.set_mono n).1 h a tf g) ha, egoRef_mono ((TF.set_mono n).2 h a tf g) ha,
   egoRef_mono ((TF.unset_mono n).1 h a tf) ha, egoRef_mono ((TF.unset_mono n).2 h a tf) ha,
   fun _ hb => ⟨ego_mono ((TF.set_mono n).1 h a tf g) hb, ego_mono ((TF.set_mono n).2 h a tf g) hb,
     ego_mono ((TF.unset_mono n).1 h a tf) hb, ego_mono ((TF.unset_mono n).2 h a tf) hb⟩⟩

example : (TF.setL 10 exE 0 "#1#5".toList (.intw .int 9)).1.egoRef 0 = ⟨0, 2⟩ ∧
    (TF.setL 10 exE 0 "#1#5".toList (.intw .int 9)).2.isPanic = false := by decide +kernel

/-! ## 3. a stored derived value is handed back as the identical outer value -/

/-- what `getVal` makes of a stored reference: the registered outer value of its cell, whatever
level the stored reference itself has -/
theorem C19_getVal (h : Heap) (b l : Nat) :
    h.getVal (.list ⟨b, l⟩) = .list (h.egoRef b) ∧ h.getVal (.obj ⟨b, l⟩) = .obj (h.egoRef b) := ⟨rfl, rfl⟩

/-- List readers: `Get`, the typed getters, `Slice`, `ForEach` / `ForEachValue`, `Filter` (what is put
into the result list) all deliver `getVal` of the stored items -/
theorem C19_storage_list (h : Heap) (a : Nat) :
    (∀ (i : Int) (x : Val), 0 ≤ i → (h.items a)[i.toNat]? = some x →
      L.get h a i = .ok (h.getVal x) ∧ L.getK h a x.kind i = .ok (h.getVal x)) ∧
    L.slice h a = (h.items a).map h.getVal ∧
    (L.forEach h a).map (·.2) = (h.items a).map h.getVal ∧
    L.forEachValue h a = (h.items a).map h.getVal ∧
    (∀ p, (L.filter h a p).1.items h.length = ((h.items a).map h.getVal).filter p) := by
  refine ⟨fun i x h0 hx => ⟨L.get_stored h a i x h0 hx, ?_⟩, rfl, L.forEachValue_eq h a,
    L.forEachValue_eq h a, fun p => ?_⟩
  · rw [L.getK_stored h a _ i x h0 hx, if_pos rfl]
  · simp [L.filter, L.filterLoop_eq]

/-- in particular a derived List stored (at any level `l`) at index `i` comes back as the registered
outer value, from `Get` and from `GetList` -/
theorem C19_storage (h : Heap) (a : Nat) (i : Int) (b l : Nat) (h0 : 0 ≤ i) :
    ((h.items a)[i.toNat]? = some (.list ⟨b, l⟩) →
      L.get h a i = .ok (.list ⟨b, h.ego b⟩) ∧ L.getK h a .list i = .ok (.list ⟨b, h.ego b⟩)) ∧
    ((h.items a)[i.toNat]? = some (.obj ⟨b, l⟩) →
      L.get h a i = .ok (.obj ⟨b, h.ego b⟩) ∧ L.getK h a .object i = .ok (.obj ⟨b, h.ego b⟩)) :=
  ⟨fun hx => (C19_storage_list h a).1 i _ h0 hx, fun hx => (C19_storage_list h a).1 i _ h0 hx⟩

example : (exE.items 0)[(1 : Int).toNat]? = some (.list ⟨1, 0⟩) := by decide +kernel
example : L.get exE 0 1 = .ok (.list ⟨1, 3⟩) ∧ L.getK exE 0 .object 2 = .ok (.obj ⟨2, 1⟩) ∧
    L.slice exE 0 = [.int 5, .list ⟨1, 3⟩, .obj ⟨2, 1⟩] := by decide +kernel

/-- Object readers: `Get`, the typed getters, `Dict`, `ForEach`, `ForEachValue`, and all six typed
`ForEachX` (they assert on `getVal()`) -/
theorem C19_storage_obj (h : Heap) (a : Nat) :
    (∀ (key : Str) (x : Val), lookup (h.fields a) key = some x →
      O.get h a key = .ok (h.getVal x) ∧ O.getK h a x.kind key = .ok (h.getVal x)) ∧
    O.dict h a = (h.fields a).map (fun kv => (kv.1, h.getVal kv.2)) ∧
    O.forEach h a = (h.fields a).map (fun kv => (kv.1, h.getVal kv.2)) ∧
    O.forEachValue h a = (h.fields a).map (fun kv => h.getVal kv.2) ∧
    (∀ k x, L.sel h true k x = if x.kind = k then some (h.getVal x) else none) := by
  refine ⟨fun key x hx => ?_, rfl, rfl, by simp [O.forEachValue, O.forEach], fun k x => ?_⟩
  · exact ⟨O.get_stored h a key x hx, by rw [O.getK_stored h a _ key x hx, if_pos rfl]⟩
  · simp [L.sel]

example : O.get exE 2 ['l'] = .ok (.list ⟨1, 3⟩) ∧ O.dict exE 2 = [(['l'], .list ⟨1, 3⟩)] := by decide +kernel

/-- the typed list variants `ObjectSlice/ListSlice`, `ForEachObject/ForEachList`,
`FilterObjects/FilterLists` assert on the stored item itself: they deliver the stored references of
that kind; when a stored reference carries the registered level of its cell (the derived value
itself was stored — the normal case) that is again the registered outer value -/
theorem C19_storage_typed (h : Heap) (a : Nat) (k : Kind) (hk : k = .object ∨ k = .list) :
    L.sliceK h a k = (h.items a).filter (fun x => x.kind == k) ∧
    L.forEachK h a k = (h.items a).filter (fun x => x.kind == k) ∧
    (∀ p, (L.filterK h a k p).1.items h.length = ((h.items a).filter (fun x => x.kind == k)).filter p) ∧
    (∀ b l, l = h.ego b → h.getVal (.list ⟨b, l⟩) = .list ⟨b, l⟩ ∧ h.getVal (.obj ⟨b, l⟩) = .obj ⟨b, l⟩) := by
  have hv : L.viaGetValL k = false := by rcases hk with rfl | rfl <;> rfl
  have hs : (h.items a).filterMap (L.sel h false k) = (h.items a).filter (fun x => x.kind == k) := by
    induction h.items a with
    | nil => rfl
    | cons x xs ih =>
      rw [List.filterMap_cons, List.filter_cons, L.sel]
      cases x.kind == k
      · exact ih
      · exact congrArg (x :: ·) ih
  refine ⟨?_, ?_, fun p => ?_, fun b l hl => by subst hl; exact ⟨rfl, rfl⟩⟩
  · rw [L.sliceK, L.sliceKLoop_eq, hv, hs, List.nil_append]
  · rw [L.forEachK, L.forEachKLoop_eq, hv, hs, List.nil_append]
  · rw [L.filterK, items_append_new, L.filterKLoop_eq, hv, hs, List.nil_append]

example : L.sliceK exE 0 .object = [.obj ⟨2, 1⟩] ∧ exE.ego 2 = 1 ∧ L.sliceK exE 0 .list = [.list ⟨1, 0⟩] := by
  decide +kernel

end Anytype

#print axioms Anytype.C19_ego_init
#print axioms Anytype.C19_fluent_list
#print axioms Anytype.C19_fluent_obj
#print axioms Anytype.C19_ego_preserved
#print axioms Anytype.C19_fluent_tf
#print axioms Anytype.C19_getVal
#print axioms Anytype.C19_storage_list
#print axioms Anytype.C19_storage
#print axioms Anytype.C19_storage_obj
#print axioms Anytype.C19_storage_typed
