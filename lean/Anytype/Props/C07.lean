/-
C07: `Equals` is typed structural equality (objects as finite maps); on NaN-free data it is an
equivalence relation; it is a pure total Boolean function.

`equalsJ` is the model of the Go loops, `specEq` the specification (Spec/Equiv.lean).
-/
import Anytype.Lemmas.Equals
namespace Anytype

/-! ### small trees used in the non-vacuity examples -/

/-- `{"a":1,"":[1],"b":{"x":null}}` (the empty string is a key like any other) -/
def c07A : JVal := .obj [(['a'], .int 1), ([], .list [.int 1]), (['b'], .obj [(['x'], .null)])]
/-- the same object in another iteration order -/
def c07B : JVal := .obj [(['b'], .obj [(['x'], .null)]), (['a'], .int 1), ([], .list [.int 1])]
/-- `{"a":1}` and `{"a":1,"b":2}` -/
def c07S : JVal := .obj [(['a'], .int 1)]
def c07L : JVal := .obj [(['a'], .int 1), (['b'], .int 2)]

/-! ### 1. the Go loops compute the specification -/

/-- `Equals` returns true exactly when the specification says so. -/
theorem C07_spec (a b : JVal) (ha : keysNodup a = true) (hb : keysNodup b = true) :
    equalsJ a b = specEq a b := by
  induction a using JVal.ind generalizing b with
  | list xs ih =>
    cases b with
    | list ys =>
      replace ha := keysNodupList_iff.1 ha; replace hb := keysNodupList_iff.1 hb
      exact equalsList_eq_aux xs (fun x hx b hb' => ih x hx b (ha x hx) hb') ys hb
    | _ => rfl
  | obj kvs ih =>
    cases b with
    | obj kvs' =>
      replace ha := keysNodup_obj.1 ha; replace hb := keysNodup_obj.1 hb
      simp only [equalsJ_obj, specEq,
        equalsFields_eq_aux kvs (fun kv hkv b hb' => ih kv hkv b (ha.2 kv hkv) hb') kvs' hb.2]
      cases hS : specEqFields kvs kvs' with
      | false => simp
      | true =>
        -- the keys of `kvs` are among those of `kvs'`; both lists are duplicate-free, so the
        -- lengths agree exactly when the inclusion is an equality
        have hsub := keys_subset_of_lookup (specEqFields_iff.1 hS)
        rw [Bool.and_true, Bool.and_true, Bool.eq_iff_iff, beq_iff_eq, List.all_eq_true,
          ← length_keysOf kvs, ← length_keysOf kvs']
        simp only [List.contains_iff_mem]
        exact ⟨fun hlen => subset_of_nodup_length_eq ha.1 hlen hsub,
          fun h21 => Nat.le_antisymm (ha.1.length_le_of_subset hsub) (hb.1.length_le_of_subset h21)⟩
    | _ => rfl
  -- scalars: both definitions have the same clause
  | _ => cases b <;> rfl

theorem c07A_nodup : keysNodup c07A = true := by decide
theorem c07B_nodup : keysNodup c07B = true := by decide

example : keysNodup c07A = true ∧ keysNodup c07B = true := ⟨c07A_nodup, c07B_nodup⟩

/-- lists: same length and equal elements position by position -/
theorem C07_shape_list (xs ys : List JVal) (ha : keysNodup (.list xs) = true)
    (hb : keysNodup (.list ys) = true) :
    equalsJ (.list xs) (.list ys) = true ↔
      xs.length = ys.length ∧
      ∀ i (h : i < xs.length) (h' : i < ys.length), equalsJ xs[i] ys[i] = true := by
  rw [C07_spec _ _ ha hb]
  simp only [specEq, specEqList_iff]
  replace ha := keysNodupList_iff.1 ha; replace hb := keysNodupList_iff.1 hb
  refine and_congr_right fun _ => forall_congr' fun i => forall_congr' fun h1 => forall_congr' fun h2 => ?_
  rw [C07_spec _ _ (ha _ (List.getElem_mem h1)) (hb _ (List.getElem_mem h2))]

example : keysNodup (.list [c07A, .int 1]) = true := by decide

/-- objects: the same key set (whatever the insertion order) and equal values per key -/
theorem C07_shape_obj (kvs kvs' : List (Str × JVal)) (ha : keysNodup (.obj kvs) = true)
    (hb : keysNodup (.obj kvs') = true) :
    equalsJ (.obj kvs) (.obj kvs') = true ↔
      (∀ k, k ∈ keysOf kvs ↔ k ∈ keysOf kvs') ∧
      ∀ k v w, lookup kvs k = some v → lookup kvs' k = some w → equalsJ v w = true := by
  rw [C07_spec _ _ ha hb]
  replace ha := keysNodup_obj.1 ha; replace hb := keysNodup_obj.1 hb
  rw [specEq_obj_iff_lookup ha.1]
  refine and_congr_right fun _ => forall_congr' fun k => forall_congr' fun v => forall_congr' fun w =>
    forall_congr' fun hv => forall_congr' fun hw => ?_
  rw [C07_spec _ _ (ha.2 _ (mem_of_lookup hv)) (hb.2 _ (mem_of_lookup hw))]

/-! ### 2. equivalence relation -/

/-- Go `==` on float64 is symmetric, and transitive on all values (NaN is related to nothing) -/
theorem C07_eqGo_symm (x y : F64) : F64.eqGo x y = F64.eqGo y x := by
  unfold F64.eqGo
  rw [Bool.or_comm, Bool.and_comm]
  rw [BEq.comm (a := x.bits)]
theorem C07_eqGo_trans (x y z : F64) (h1 : F64.eqGo x y = true) (h2 : F64.eqGo y z = true) :
    F64.eqGo x z = true := by
  obtain ⟨nx, _, e1⟩ := F64.eqGo_iff.1 h1
  obtain ⟨_, nz, e2⟩ := F64.eqGo_iff.1 h2
  refine F64.eqGo_iff.2 ⟨nx, nz, ?_⟩
  rcases e1 with e1 | rfl
  · rcases e2 with e2 | rfl
    · exact .inl ⟨e1.1, e2.2⟩
    · exact .inl e1
  · exact e2

example : F64.eqGo F64.posZero F64.negZero = true ∧ F64.eqGo F64.negZero F64.posZero = true := by decide

theorem C07_refl (a : JVal) (hn : nanFree a = true) (hk : keysNodup a = true) : specEq a a = true := by
  induction a using JVal.ind with
  | float x => exact F64.eqGo_refl ((Bool.not_eq_true' _).mp hn)
  | list xs ih =>
    replace hn := nanFreeList_iff.1 hn; replace hk := keysNodupList_iff.1 hk
    exact specEqList_iff.2 ⟨rfl, fun i hi _ =>
      ih _ (List.getElem_mem hi) (hn _ (List.getElem_mem hi)) (hk _ (List.getElem_mem hi))⟩
  | obj kvs ih =>
    replace hn := nanFreeFields_iff.1 hn; replace hk := keysNodup_obj.1 hk
    exact specEq_obj_iff.2 ⟨fun k hk => hk,
      fun kv hkv => ⟨kv.2, lookup_of_mem hk.1 hkv, ih kv hkv (hn kv hkv) (hk.2 kv hkv)⟩⟩
  | _ => simp only [specEq, beq_self_eq_true]

theorem c07A_nanFree : nanFree c07A = true := by decide

example : nanFree c07A = true ∧ keysNodup c07A = true := ⟨c07A_nanFree, c07A_nodup⟩
/-- NaN-freeness is necessary -/
example : specEq (.float F64.nan) (.float F64.nan) = false := by decide

/-- symmetry (distinct keys are needed on the right-hand side only) -/
theorem C07_symm (a b : JVal) (hb : keysNodup b = true) (h : specEq a b = true) : specEq b a = true := by
  induction a using JVal.ind generalizing b with
  | float x =>
    obtain ⟨y, rfl, e⟩ := specEq_float_left h
    exact (C07_eqGo_symm y x).trans e
  | list xs ih =>
    obtain ⟨ys, rfl, e⟩ := specEq_list_left h
    replace hb := keysNodupList_iff.1 hb
    obtain ⟨hl, e⟩ := specEqList_iff.1 e
    exact specEqList_iff.2 ⟨hl.symm, fun i hi hi' =>
      ih _ (List.getElem_mem hi') _ (hb _ (List.getElem_mem hi)) (e i hi' hi)⟩
  | obj kvs ih =>
    obtain ⟨kvs', rfl, h1, h2⟩ := specEq_obj_left h
    replace hb := keysNodup_obj.1 hb
    refine specEq_obj_iff.2 ⟨keys_subset_of_lookup h2, fun kw hkw => ?_⟩
    -- `kw.1` is a key of `kvs`, with some value `v`; what `kvs'` holds for it is `kw.2`
    obtain ⟨v, hv⟩ := exists_lookup_of_mem_keys (h1 _ (mem_keysOf_of_mem hkw))
    have hm := mem_of_lookup hv
    obtain ⟨w, hw, he⟩ := h2 _ hm
    cases hw.symm.trans (lookup_of_mem hb.1 hkw)
    exact ⟨v, hv, ih _ hm _ (hb.2 kw hkw) he⟩
  | _ => obtain rfl := eq_of_specEq_scalar rfl (fun _ => JVal.noConfusion) h; exact h

theorem c07A_specEq_c07B : specEq c07A c07B = true := by decide

example : keysNodup c07B = true ∧ specEq c07A c07B = true := ⟨c07B_nodup, c07A_specEq_c07B⟩

/-- transitivity, on all trees -/
theorem C07_trans (a b c : JVal) (h1 : specEq a b = true) (h2 : specEq b c = true) : specEq a c = true := by
  induction a using JVal.ind generalizing b c with
  | float x =>
    obtain ⟨y, rfl, e1⟩ := specEq_float_left h1
    obtain ⟨z, rfl, e2⟩ := specEq_float_left h2
    exact C07_eqGo_trans _ _ _ e1 e2
  | list xs ih =>
    obtain ⟨ys, rfl, e1⟩ := specEq_list_left h1
    obtain ⟨zs, rfl, e2⟩ := specEq_list_left h2
    obtain ⟨l1, e1⟩ := specEqList_iff.1 e1
    obtain ⟨l2, e2⟩ := specEqList_iff.1 e2
    exact specEqList_iff.2 ⟨l1.trans l2, fun i hi hk =>
      ih _ (List.getElem_mem hi) _ _ (e1 i hi (l1 ▸ hi)) (e2 i (l1 ▸ hi) hk)⟩
  | obj kvs ih =>
    obtain ⟨kb, rfl, s1, f1⟩ := specEq_obj_left h1
    obtain ⟨kc, rfl, s2, f2⟩ := specEq_obj_left h2
    refine specEq_obj_iff.2 ⟨fun k hk => s1 k (s2 k hk), fun kv hkv => ?_⟩
    obtain ⟨w, hw, e1⟩ := f1 kv hkv
    obtain ⟨u, hu, e2⟩ := f2 (kv.1, w) (mem_of_lookup hw)
    exact ⟨u, hu, ih kv hkv w u e1 e2⟩
  | _ => obtain rfl := eq_of_specEq_scalar rfl (fun _ => JVal.noConfusion) h1; exact h2

example : specEq c07A c07B = true ∧ specEq c07B c07A = true :=
  ⟨c07A_specEq_c07B, C07_symm _ _ c07B_nodup c07A_specEq_c07B⟩

/-- the same three for the model of `Equals` -/
theorem C07_equals_refl (a : JVal) (hn : nanFree a = true) (hk : keysNodup a = true) :
    equalsJ a a = true := by
  rw [C07_spec a a hk hk]; exact C07_refl a hn hk

theorem C07_equals_symm (a b : JVal) (ha : keysNodup a = true) (hb : keysNodup b = true)
    (h : equalsJ a b = true) : equalsJ b a = true := by
  rw [C07_spec a b ha hb] at h
  rw [C07_spec b a hb ha]; exact C07_symm a b hb h

theorem C07_equals_trans (a b c : JVal) (ha : keysNodup a = true) (hb : keysNodup b = true)
    (hc : keysNodup c = true) (h1 : equalsJ a b = true) (h2 : equalsJ b c = true) :
    equalsJ a c = true := by
  rw [C07_spec a b ha hb] at h1
  rw [C07_spec b c hb hc] at h2
  rw [C07_spec a c ha hc]; exact C07_trans a b c h1 h2

theorem c07A_equals_c07B : equalsJ c07A c07B = true :=
  (C07_spec _ _ c07A_nodup c07B_nodup).trans c07A_specEq_c07B

example : equalsJ c07A c07B = true ∧ equalsJ c07B c07A = true ∧ equalsJ c07A c07A = true :=
  ⟨c07A_equals_c07B, C07_equals_symm _ _ c07A_nodup c07B_nodup c07A_equals_c07B,
    C07_equals_refl _ c07A_nanFree c07A_nodup⟩

/-! ### 3. strictness of kinds -/

/-- int 1 is not float 1.0 -/
theorem C07_strict_int_float : equalsJ (.int 1) (.float F64.one) = false := rfl
/-- … also inside a container -/
theorem C07_strict_nested : equalsJ (.list [.int 1]) (.list [.float F64.one]) = false := by decide
/-- nil equals only nil -/
theorem C07_strict_null (x : JVal) : equalsJ .null x = true ↔ x = .null := by
  cases x <;> simp [equalsJ]
theorem C07_strict_null' (x : JVal) : equalsJ x .null = true ↔ x = .null := by
  cases x <;> simp [equalsJ]
/-- a list is never equal to an object -/
theorem C07_strict_list_obj (xs : List JVal) (kvs : List (Str × JVal)) :
    equalsJ (.list xs) (.obj kvs) = false ∧ equalsJ (.obj kvs) (.list xs) = false :=
  ⟨rfl, rfl⟩
/-- values of two different kinds are never equal -/
theorem C07_strict_kind (a b : JVal) (h : a.kind ≠ b.kind) : equalsJ a b = false := by
  -- the clauses for two values of one kind contradict `h`; the last clause returns `false`
  unfold equalsJ
  split <;> first | rfl | exact absurd rfl h

example : (JVal.int 1).kind ≠ (JVal.float F64.one).kind := by decide

/-! ### 4. field order is irrelevant -/

/-- `specEq` does not see the order of the fields of its left argument … -/
theorem C07_perm_left (kvs kvs₂ : List (Str × JVal)) (hp : kvs.Perm kvs₂) (b : JVal) :
    specEq (.obj kvs) b = specEq (.obj kvs₂) b := by
  cases b with
  | obj kvs' =>
    have hpk : (keysOf kvs).Perm (keysOf kvs₂) := hp.map _
    rw [Bool.eq_iff_iff, specEq_obj_iff, specEq_obj_iff]
    simp only [hp.mem_iff, hpk.mem_iff]
  | _ => rfl

/-- … nor of its right argument (a Go map: distinct keys) -/
theorem C07_perm_right (kvs kvs₂ : List (Str × JVal)) (hp : kvs.Perm kvs₂)
    (hn : (keysOf kvs).Nodup) (a : JVal) :
    specEq a (.obj kvs) = specEq a (.obj kvs₂) := by
  cases a with
  | obj ka =>
    have hpk : (keysOf kvs).Perm (keysOf kvs₂) := hp.map _
    rw [Bool.eq_iff_iff, specEq_obj_iff, specEq_obj_iff]
    simp only [lookup_perm hp hn, hpk.mem_iff]
  | _ => rfl

/-- the same fields in another insertion / iteration order give an equal object -/
theorem C07_perm (kvs kvs' : List (Str × JVal)) (hp : kvs'.Perm kvs)
    (hn : nanFree (.obj kvs) = true) (hk : keysNodup (.obj kvs) = true) :
    specEq (.obj kvs) (.obj kvs') = true := by
  rw [C07_perm_right _ _ hp ((hp.map _ : (keysOf kvs').Perm (keysOf kvs)).nodup_iff.2 (keysNodup_obj.1 hk).1)]
  exact C07_refl _ hn hk

example : nanFree c07A = true ∧ keysNodup c07A = true ∧
    [(['b'], JVal.obj [(['x'], .null)]), (['a'], .int 1), ([], .list [.int 1])].Perm
      [(['a'], .int 1), ([], .list [.int 1]), (['b'], .obj [(['x'], .null)])] :=
  ⟨c07A_nanFree, c07A_nodup, List.perm_append_comm (l₁ := [_]) (l₂ := [_, _])⟩

/-- and so `Equals` itself is invariant under the iteration order of both maps -/
theorem C07_equals_perm (k₁ k₁' k₂ k₂' : List (Str × JVal)) (hp₁ : k₁.Perm k₁') (hp₂ : k₂.Perm k₂')
    (h₁ : keysNodup (.obj k₁) = true) (h₁' : keysNodup (.obj k₁') = true)
    (h₂ : keysNodup (.obj k₂) = true) (h₂' : keysNodup (.obj k₂') = true) :
    equalsJ (.obj k₁) (.obj k₂) = equalsJ (.obj k₁') (.obj k₂') := by
  rw [C07_spec _ _ h₁ h₂, C07_spec _ _ h₁' h₂', C07_perm_left _ _ hp₁,
    C07_perm_right _ _ hp₂ (keysNodup_obj.1 h₂).1]

example : equalsJ c07A c07B = true := c07A_equals_c07B

/-! ### 5. totality, purity, no panic

`equalsJ : JVal → JVal → Bool` is a total function that neither takes nor returns a heap, so it
cannot modify an operand and cannot panic. The "shorter / longer / lacks a key" cases give `false`. -/

theorem C07_total_length (xs ys : List JVal) (h : xs.length ≠ ys.length) :
    equalsJ (.list xs) (.list ys) = false := by
  rw [equalsJ_list, beq_eq_false_iff_ne.2 h, Bool.false_and]

example : [JVal.int 1].length ≠ [JVal.int 1, JVal.int 2].length := by decide

theorem C07_total_count (kvs kvs' : List (Str × JVal)) (h : kvs.length ≠ kvs'.length) :
    equalsJ (.obj kvs) (.obj kvs') = false := by
  rw [equalsJ_obj, beq_eq_false_iff_ne.2 h, Bool.false_and]

theorem C07_total_missing_key (kvs kvs' : List (Str × JVal))
    (h : ∃ k ∈ keysOf kvs, lookup kvs' k = none) : equalsJ (.obj kvs) (.obj kvs') = false := by
  obtain ⟨k, hk, hl⟩ := h
  obtain ⟨v, hv⟩ := mem_keysOf.1 hk
  cases hF : equalsFields kvs kvs' with
  | false => rw [equalsJ_obj, hF, Bool.and_false]
  | true =>
    obtain ⟨w, hw, _⟩ := equalsFields_iff.1 hF (k, v) hv
    rw [hl] at hw; cases hw

example : ∃ k ∈ keysOf [(['a'], JVal.int 1), (['b'], .int 2)], lookup [(['a'], JVal.int 1)] k = none :=
  ⟨['b'], by decide, by decide⟩

/-- `{a:1}` vs `{a:1,b:2}`: false both ways, no panic -/
example : equalsJ c07S c07L = false ∧ equalsJ c07L c07S = false := by decide
example : equalsJ (.list [.int 1]) (.list [.int 1, .int 2]) = false ∧
    equalsJ (.list [.int 1, .int 2]) (.list [.int 1]) = false := by decide

#print axioms C07_spec
#print axioms C07_shape_list
#print axioms C07_shape_obj
#print axioms C07_eqGo_symm
#print axioms C07_eqGo_trans
#print axioms C07_refl
#print axioms C07_symm
#print axioms C07_trans
#print axioms C07_equals_refl
#print axioms C07_equals_symm
#print axioms C07_equals_trans
#print axioms C07_strict_int_float
#print axioms C07_strict_nested
#print axioms C07_strict_null
#print axioms C07_strict_null'
#print axioms C07_strict_list_obj
#print axioms C07_strict_kind
#print axioms C07_perm
#print axioms C07_perm_left
#print axioms C07_perm_right
#print axioms C07_equals_perm
#print axioms C07_total_length
#print axioms C07_total_count
#print axioms C07_total_missing_key

end Anytype
