/-
C16: for every container over finite floats (and valid-UTF-8 strings: `Str` is a list of scalar
values) and every indent 0..10, `FormatString(n)` is a non-empty valid JSON text denoting the same
data as `String()`, laid out canonically (`pretty`: one element per line, `n` spaces per nesting
level, empty containers on one line); every other indent panics.

`formatString : Int → JVal → Option Str` takes a value tree and returns a text: there is no heap
argument, so no call can modify a container (the driver serialises the receiver to its tree first,
a read-only operation: C14).

No assumption about floating point: `FmtContract` (the serialiser's shortest formatting is read back as
the identical float64) is the theorem `fmtContract_holds` (`Lemmas/FmtContractHolds.lean`: seventeen digits
always suffice; the 'e' and 'f' layouts preserve the value).
-/
import Anytype.Lemmas.Indent
import Anytype.Lemmas.FmtContractHolds
namespace Anytype

/-- Go's `json.Indent` applied to `String()` yields exactly the canonical layout defined on the tree -/
theorem C16_indent_pretty (n : Nat) (v : JVal) (hw : v.WF) :
    indentGo n (ser v) false false false 0 = pretty n 0 v := by
  have := indentGo_ser fmtContract_holds n v hw 0 []
  simpa [indentGo] using this

/-- the canonical layout is a valid RFC 8259 text and the strict decoder recovers the same tree
(for every indent width, not only 0..10) -/
theorem C16_lossless (n : Nat) (v : JVal) (hw : v.WF) :
    Strict.decode (pretty n 0 v) = .ok v [] :=
  Strict.decode_pretty fmtContract_holds n v hw

/-- it denotes exactly the same data as `String()` -/
theorem C16_same_data (n : Nat) (v : JVal) (hw : v.WF) :
    Strict.decode (pretty n 0 v) = Strict.decode (ser v) := by
  rw [C16_lossless n v hw, Strict.decode_ser fmtContract_holds v hw]

/-- the layout of a container is never empty -/
theorem C16_nonempty (n : Nat) (v : JVal) (hc : v.isContainer = true) : pretty n 0 v ≠ [] := by
  cases v with
  | list xs => cases xs <;> simp [pretty]
  | obj kvs => cases kvs <;> simp [pretty]
  | _ => simp [JVal.isContainer] at hc

/-- re-indenting canonically reproduces the text byte for byte: whatever tree the text decodes to,
laying that tree out again gives the same text -/
theorem C16_canonical (n : Nat) (v v' : JVal) (hw : v.WF) (r : Str)
    (hd : Strict.decode (pretty n 0 v) = .ok v' r) : pretty n 0 v' = pretty n 0 v := by
  rw [C16_lossless n v hw] at hd
  cases hd; rfl

/-- for an indent in 0..10 `FormatString` returns the canonical layout -/
theorem C16_formatString (n : Int) (h0 : 0 ≤ n) (h10 : n ≤ 10) (v : JVal) (hw : v.WF) :
    formatString n v = some (pretty n.toNat 0 v) := by
  have : (n < 0 || n > 10) = false := by simp; omega
  simp only [formatString, this, hasNonFinite_of_WF v hw, Bool.false_eq_true, if_false,
    C16_indent_pretty n.toNat v hw]

theorem C16_valid_canonical (n : Int) (h0 : 0 ≤ n) (h10 : n ≤ 10) (v : JVal) (hw : v.WF)
    (hc : v.isContainer = true) :
    ∃ t, formatString n v = some t ∧ t ≠ [] ∧ t = pretty n.toNat 0 v ∧
      Strict.decode t = .ok v [] ∧ Strict.decode t = Strict.decode (ser v) ∧
      Strict.isStrictJSON t = true :=
  ⟨_, C16_formatString n h0 h10 v hw, C16_nonempty _ v hc, rfl, C16_lossless _ v hw,
    C16_same_data _ v hw, by unfold Strict.isStrictJSON; rw [C16_lossless _ v hw]⟩

/-- exactly the indents outside 0..10 panic (`none`), whatever the container holds -/
theorem C16_range (n : Int) (v : JVal) : formatString n v = none ↔ n < 0 ∨ n > 10 := by
  unfold formatString
  simp only [Bool.or_eq_true, decide_eq_true_eq]
  split
  · simp [*]
  · split <;> simp [*]

/-! ### non-vacuity -/

example : (JVal.obj sampleFields).WF ∧ (JVal.obj sampleFields).isContainer = true := ⟨sampleFields_WF, rfl⟩
example : (JVal.list sampleList).WF ∧ (JVal.list sampleList).isContainer = true := ⟨sampleList_WF, rfl⟩

/-- a concrete layout: nested list/object with a string containing `"`, `\`, `,`, `]` -/
example : formatString 2 (.list [.int 1, .obj [(['a'], .list []), (['b'], .str ['"', ',', ']', '\\'])], .list [.null]]) =
    some "[\n  1,\n  {\n    \"a\": [],\n    \"b\": \"\\\",]\\\\\"\n  },\n  [\n    null\n  ]\n]".toList := by
  decide +kernel

example : formatString 0 (.list [.bool true, .obj []]) = some "[\ntrue,\n{}\n]".toList := by decide +kernel
example : formatString 11 (.list []) = none := by decide
example : formatString (-1) (.list []) = none := by decide
example : formatString 10 (.obj []) = some ['{', '}'] := by decide

end Anytype

#print axioms Anytype.C16_indent_pretty
#print axioms Anytype.C16_lossless
#print axioms Anytype.C16_same_data
#print axioms Anytype.C16_nonempty
#print axioms Anytype.C16_canonical
#print axioms Anytype.C16_formatString
#print axioms Anytype.C16_valid_canonical
#print axioms Anytype.C16_range
