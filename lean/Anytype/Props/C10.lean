/-
C10 — GetTF / TypeOfTF.

"For every container tree and every tree-form path made of '.key' segments (objects) and
'#index' segments (lists), with non-empty keys free of '.' and '#' and non-negative decimal
indices, GetTF returns exactly what applying Get segment by segment returns (the identical nested
container, or the equal scalar) and TypeOfTF returns that value's kind. If some step cannot be taken
(missing key, index out of range, a scalar or the other container kind in the way, wrong leading
sigil, empty or non-numeric segment) TypeOfTF returns TypeUndefined without panicking and GetTF
panics, and neither call modifies the tree."

Vocabulary (`Anytype/Lemmas/TreeForm.lean`, namespace `TFP`):
`Seg`, `render : List Seg → Str`, `segments : Str → Option (List Seg)` (the grammar),
`navigate h v p` (Get segment by segment), `ValidPath p` (keys non-empty and sigil-free, indices
`< 2^63`), `getTF h v s` / `typeTF h v s` (the calls on a root value `v`, fuel `len(s)+1`).
The theorems hold for EVERY heap (also cyclic or dangling ones) and every root value.
-/
import Anytype.Lemmas.TreeFormMalformed
namespace Anytype
open TFP

namespace C10
/-- cell 0: `{"a": <list 1>, "n": 7}`, cell 1: `[5, <object 2>]`, cell 2: `{"k": "v"}` -/
def exT : Heap :=
  [.obj [(['a'], .list ⟨1, 0⟩), (['n'], .int 7)] 0,
   .list [.int 5, .obj ⟨2, 0⟩] 0,
   .obj [(['k'], .str ['v'])] 0]
def root : Val := .obj ⟨0, 0⟩
/-- `.a#1.k` -/
def exP : List Seg := [.key ['a'], .idx 1, .key ['k']]
/-- `.a#1` -/
def exQ : List Seg := [.key ['a'], .idx 1]
/-- `.a#7.k`: index out of range -/
def exBad : List Seg := [.key ['a'], .idx 7, .key ['k']]
/-- finding K1: `NewObject(".a", 1)` and the text `..a` -/
def k1H : Heap := [.obj [(['.', 'a'], .int 1)] 0]
end C10
open C10

/-! ## 0. the grammar is exactly the image of `render` -/

theorem C10_grammar_render (p : List Seg) (hne : p ≠ [])
    (hk : ∀ s ∈ p, ∀ k, s = .key k → ValidKey k) : segments (render p) = some p :=
  segments_render p hne hk

example : exP ≠ [] ∧ (∀ s ∈ exP, ∀ k, s = .key k → ValidKey k) ∧
    render exP = ['.', 'a', '#', '1', '.', 'k'] :=
  ⟨by decide +kernel, fun s hs k e => by subst e; exact (by decide : ValidPath exP) _ hs, by decide +kernel⟩

theorem C10_grammar_iff (s : Str) (p : List Seg) :
    segments s = some p ↔ s = render p ∧ p ≠ [] ∧ ∀ x ∈ p, ∀ k, x = .key k → ValidKey k :=
  ⟨segments_some, fun ⟨e, hne, hk⟩ => by rw [e]; exact segments_render p hne hk⟩

/-- a '#'-segment of the grammar is a canonical decimal numeral: non-empty, only digits, no leading
zero except "0" itself; its index is the decimal value -/
theorem C10_grammar_canonical (b : Str) (n : Nat) :
    canonNat b = some n ↔
      (b ≠ [] ∧ (∀ c ∈ b, isDigit c = true) ∧ (b = ['0'] ∨ b.head? ≠ some '0')) ∧ n = decVal b 0 := by
  constructor
  · intro h
    have e := canonNat_some h
    subst e
    refine ⟨⟨toDigits_ne_nil n, ?_, ?_⟩, (decVal_toDigits n).symm⟩
    · intro c hc; exact (isDigit_iff c).2 (mem_toDigits_dig hc)
    · by_cases h0 : n = 0
      · subst h0; exact Or.inl (by decide)
      · obtain ⟨c, t, e, hc, _⟩ := toDigits_head n (by omega)
        rw [e]
        refine Or.inr ?_
        simp only [List.head?_cons, ne_eq, Option.some.injEq]
        exact hc
  · rintro ⟨⟨hne, hd, hz⟩, rfl⟩
    simp [canonNat, canon_roundtrip hne hd hz]

example : canonNat ['1', '0'] = some 10 ∧ canonNat ['0', '1'] = none ∧ canonNat ['0'] = some 0 ∧
    canonNat ['+', '1'] = none ∧ canonNat [] = none := by decide +kernel

/-! ## 1. fuel: the results do not depend on the fuel once `fuel > len(tf)` -/

theorem C10_fuel_get (h : Heap) (a : Nat) (tf : Str) (n : Nat) (hn : tf.length < n) :
    TF.getL n h a tf = TF.getL (tf.length + 1) h a tf ∧ TF.getO n h a tf = TF.getO (tf.length + 1) h a tf :=
  ⟨getV_fuel h n _ (.list ⟨a, 0⟩) tf hn (Nat.lt_succ_self _),
    getV_fuel h n _ (.obj ⟨a, 0⟩) tf hn (Nat.lt_succ_self _)⟩

theorem C10_fuel_type (h : Heap) (a : Nat) (tf : Str) (n : Nat) (hn : tf.length < n) :
    TF.typeL n h a tf = TF.typeL (tf.length + 1) h a tf ∧
    TF.typeO n h a tf = TF.typeO (tf.length + 1) h a tf :=
  ⟨typeV_fuel h n _ (.list ⟨a, 0⟩) tf hn (Nat.lt_succ_self _),
    typeV_fuel h n _ (.obj ⟨a, 0⟩) tf hn (Nat.lt_succ_self _)⟩

example : (['#', '0'] : Str).length < 5 := by decide +kernel

/-! ## 2. the arithmetic of one step -/

theorem C10_parse_canonical (n : Nat) (hn : n < 2 ^ 63) :
    parseIntBase0 (Nat.toDigits 10 n) = some (n : Int) := parseIdx_toDigits n hn

example : (12 : Nat) < 2 ^ 63 ∧ Nat.toDigits 10 12 = ['1', '2'] ∧ Nat.toDigits 10 0 = ['0'] := by decide +kernel

/-- `TF.split` on a rendered path minus its leading sigil: the first segment's text, and the
rendering of the remaining segments (`leaf` when there are none) -/
theorem C10_split_render (s : Seg) (q : List Seg) (hs : s.Valid) :
    TF.split (s.text ++ render q) =
      match q with
      | [] => .leaf s.text
      | .key _ :: _ => .dot s.text (render q)
      | .idx _ :: _ => .hash s.text (render q) := by
  match q with
  | [] => simp only [render, List.append_nil]; exact split_sigilFree _ (Seg.text_sigilFree hs)
  | .key k :: q' => exact split_dot _ _ (Seg.text_ne_nil hs) (Seg.text_sigilFree hs)
  | .idx n :: q' => exact split_hash _ _ (Seg.text_ne_nil hs) (Seg.text_sigilFree hs)

theorem C10_strip_render (c : Char) (s : Seg) (q : List Seg) (hs : s.Valid) :
    TF.strip c (render (s :: q)) = if s.sigil = c then some (s.text ++ render q) else none := by
  rw [render_cons, strip_cons]
  intro e
  exact Seg.text_ne_nil hs (List.append_eq_nil_iff.1 e).1

example : (Seg.key ['a']).Valid ∧ (Seg.idx 3).Valid := by decide +kernel

/-! ## 3. resolved paths -/

/-- GetTF returns exactly what Get applied segment by segment returns (for a container: the
reference `h.getVal` gives, i.e. the identical nested container) and TypeOfTF its kind -/
theorem C10_resolved (h : Heap) (v r : Val) (p : List Seg) (hne : p ≠ []) (hv : ValidPath p)
    (hn : navigate h v p = some r) :
    getTF h v (render p) = .ok r ∧ typeTF h v (render p) = r.kind := by
  suffices hg : getTF h v (render p) = .ok r from ⟨hg, by rw [typeTF_eq, hg]; rfl⟩
  induction p generalizing v with
  | nil => exact absurd rfl hne
  | cons s q ih =>
    obtain ⟨w, hw, hq⟩ := navigate_cons_some hn
    rw [getTF_cons_some h v w s q hv.head hw]
    cases q with
    | nil => exact congrArg Out.ok (Option.some.inj hq)
    | cons s' q' =>
      simp only [navigate_kind hq, if_true]
      exact ih w (by simp) hv.tail hq

theorem C10.exP_resolves : exP ≠ [] ∧ ValidPath exP ∧ navigate exT root exP = some (.str ['v']) := by
  decide +kernel
example : exP ≠ [] ∧ ValidPath exP ∧ navigate exT root exP = some (.str ['v']) := C10.exP_resolves
example : getTF exT root (render exP) = .ok (.str ['v']) ∧ typeTF exT root (render exP) = .string :=
  C10_resolved exT root _ exP C10.exP_resolves.1 C10.exP_resolves.2.1 C10.exP_resolves.2.2
/-- a container result is the reference itself -/
example : navigate exT root exQ = some (.obj ⟨2, 0⟩) := by decide +kernel

/-- the same over the grammar -/
theorem C10_resolved_text (h : Heap) (v r : Val) (s : Str) (p : List Seg) (hs : segments s = some p)
    (hi : ∀ n, Seg.idx n ∈ p → n < 2 ^ 63) (hn : navigate h v p = some r) :
    getTF h v s = .ok r ∧ typeTF h v s = r.kind := by
  obtain ⟨rfl, hne, hv⟩ := segments_validPath hs hi
  exact C10_resolved h v r p hne hv hn

example : segments ['.', 'a', '#', '1', '.', 'k'] = some exP := by decide +kernel

/-! ## 4. unresolved paths -/

theorem C10_unresolved (h : Heap) (v : Val) (p : List Seg) (hne : p ≠ []) (hv : ValidPath p)
    (hn : navigate h v p = none) :
    typeTF h v (render p) = .undefined ∧ (getTF h v (render p)).isPanic = true := by
  suffices hp : (getTF h v (render p)).isPanic = true from ⟨(typeV_undefined_iff h _ v _).2 hp, hp⟩
  induction p generalizing v with
  | nil => exact absurd rfl hne
  | cons s q ih =>
    cases hw : navStep h v s with
    | none =>
      obtain ⟨pk, hp⟩ := getStep_of_navStep_none hw
      rw [getTF_cons h v s q hv.head, hp]
      cases q <;> rfl
    | some w =>
      rw [navigate_cons_of_step q hw] at hn
      rw [getTF_cons_some h v w s q hv.head hw]
      cases q with
      | nil => cases hn
      | cons s' q' =>
        by_cases hk : w.kind = s'.kind
        · simp only [hk, if_true]
          exact ih w (by simp) hv.tail hn
        · simp only [hk, if_false]; rfl

example : exBad ≠ [] ∧ ValidPath exBad ∧ navigate exT root exBad = none := by decide +kernel
/-- wrong leading sigil for the root kind -/
example : navigate exT root [.idx 0] = none := by decide +kernel
/-- a scalar in the way -/
example : navigate exT root [.key ['n'], .key ['x']] = none := by decide +kernel
/-- the other container kind in the way -/
example : navigate exT root [.key ['a'], .key ['x']] = none := by decide +kernel

theorem C10_unresolved_text (h : Heap) (v : Val) (s : Str) (p : List Seg) (hs : segments s = some p)
    (hi : ∀ n, Seg.idx n ∈ p → n < 2 ^ 63) (hn : navigate h v p = none) :
    typeTF h v s = .undefined ∧ (getTF h v s).isPanic = true := by
  obtain ⟨rfl, hne, hv⟩ := segments_validPath hs hi
  exact C10_unresolved h v p hne hv hn

example : segments ['.', 'a', '#', '7', '.', 'k'] = some exBad ∧ (∀ n, Seg.idx n ∈ exBad → n < 2 ^ 63) := by
  refine ⟨by decide +kernel, ?_⟩
  intro n hn
  have : n = 7 := by simpa [exBad] using hn
  subst this; decide

/-- an index that does not fit a Go `int` is a parse error (`ParseInt` fails) -/
theorem C10_parse_overflow (n : Nat) (hn : 2 ^ 63 ≤ n) :
    parseIntBase0 (Nat.toDigits 10 n) = none := parseIdx_toDigits_big n hn

example : (2 : Nat) ^ 63 ≤ 9223372036854775808 := by decide +kernel

/-- a path through an index that does not fit a Go `int` (prefix well-formed, anything after it):
`ParseInt` fails, so undefined / panic -/
theorem C10_overflow (h : Heap) (v : Val) (pre post : List Seg) (m : Nat) (hpre : ValidPath pre)
    (hm : 2 ^ 63 ≤ m) :
    typeTF h v (render (pre ++ .idx m :: post)) = .undefined ∧
    (getTF h v (render (pre ++ .idx m :: post))).isPanic = true := by
  suffices hp : (getTF h v (render (pre ++ .idx m :: post))).isPanic = true from
    ⟨(typeV_undefined_iff h _ v _).2 hp, hp⟩
  induction pre generalizing v with
  | nil =>
    -- `ParseInt` fails on the first segment, whatever the receiver
    rw [List.nil_append, getTF_walk]
    cases hc : recvSigil v with
    | none => unfold walkV; rw [hc]; rfl
    | some c =>
      have hne : (Seg.idx m).text ≠ [] := toDigits_ne_nil m
      have hf : SigilFree (Seg.idx m).text := toDigits_sigilFree m
      rw [render_cons, walkV_eq hc, readHead_seg c _ hne hf (render_tail post)]
      cases v <;> cases hc
      · simp only [Seg.sigil, if_true, readSlot, Seg.text, parseIdx_toDigits_big m hm, Option.map_none]; rfl
      · rfl
  | cons s pre' ih =>
    rw [List.cons_append, getTF_cons h v s _ hpre.head]
    cases hq : pre' ++ Seg.idx m :: post with
    | nil => simp at hq
    | cons s' q' =>
      dsimp only [descend]
      cases getStep h v s with
      | panic p => rfl
      | ok w =>
        dsimp only
        by_cases hk : w.kind = wantKind s'.isKey
        · rw [if_pos hk, ← hq]; exact ih w hpre.tail
        · rw [if_neg hk]; rfl

example : ValidPath [Seg.key ['a']] ∧ (2 : Nat) ^ 63 ≤ 9223372036854775808 := by decide +kernel

/-! ## 5. texts outside the grammar -/

/-- Full statement. The two exclusions are exactly the places where the property is silent
(`NonCanonicalNumeral`: a '#'-segment that is not a canonical decimal but that
`strconv.ParseInt(·, 0, 64)` accepts as a non-negative number, e.g. `#010`, `#0x2`, `#+1`, `#1_0`)
or known to fail (`SigilLeafKey`, finding K1: after an EMPTY segment the whole rest of the text,
sigils included, is looked up as one key of the object reached so far). -/
theorem C10_malformed (h : Heap) (v : Val) (s : Str) (hs : segments s = none)
    (hnc : ¬ NonCanonicalNumeral s) (hk1 : ¬ SigilLeafKey h v s) :
    typeTF h v s = .undefined ∧ (getTF h v s).isPanic = true := by
  suffices hp : (getTF h v s).isPanic = true from ⟨(typeV_undefined_iff h _ v s).2 hp, hp⟩
  cases hp : (getTF h v s).isPanic with
  | true => rfl
  | false =>
    rcases explained_of_get h _ v s hp with ⟨p, hp⟩ | hc | hc
    · rw [hs] at hp; cases hp
    · exact absurd hc hnc
    · exact absurd hc hk1

/-- the same with decidable sufficient checks for the two exclusions: no '#' is followed by a
non-canonical numeral that ParseInt accepts (`ncCheck`), and the text has no empty segment
(`hasEmptySeg`: a sigil directly followed by a sigil) -/
theorem C10_malformed_checked (h : Heap) (v : Val) (s : Str) (hs : segments s = none)
    (hnc : ncCheck s = false) (he : hasEmptySeg s = false) :
    typeTF h v s = .undefined ∧ (getTF h v s).isPanic = true := by
  refine C10_malformed h v s hs (fun hn => ?_) ?_
  · rw [ncCheck_of_nonCanonical hn] at hnc; cases hnc
  · rintro ⟨p, t, r, rfl, ⟨c, u, rfl, hcs⟩, _, _, _⟩
    rw [hasEmptySeg_append _ '.' c u rfl hcs] at he
    cases he

/-- (a) the empty text and single characters; (b) a wrong leading sigil / no sigil at all;
(c) a trailing sigil; (d) a '#'-segment that is not a number; a negative index -/
example : ∀ s ∈ ([[], ['.'], ['#'], ['a'], ['a', '.', 'b'], ['.', 'a', '.'], ['.', 'a', '#'],
      ['.', 'a', '#', 'x'], ['.', 'a', '#', '1', 'x', '.', 'k'], ['.', 'a', '#', '-', '1']] : List Str),
    segments s = none ∧ ncCheck s = false ∧ hasEmptySeg s = false := by decide +kernel

example : typeTF exT root ['.', 'a', '#', 'x'] = .undefined ∧ (getTF exT root ['.', 'a', '#', 'x']).isPanic = true :=
  C10_malformed_checked exT root _ (by decide +kernel) (by decide +kernel) (by decide +kernel)

/-- an empty segment that is NOT followed by a key of the object there: undefined / panic
(here `.a..k`: the receiver of the empty segment is a list) -/
example : segments ['.', 'a', '.', '.', 'k'] = none ∧ ncCheck ['.', 'a', '.', '.', 'k'] = false ∧
    typeTF exT root ['.', 'a', '.', '.', 'k'] = .undefined := by decide +kernel

/-- the texts the first exclusion is about -/
example : ∀ s ∈ ([['#', '0', '1', '0'], ['#', '0', 'x', '2'], ['#', '+', '1'], ['#', '1', '_', '0'],
      ['#', '-', '0']] : List Str), segments s = none ∧ ncCheck s = true := by decide +kernel

/-- the K1 exclusion is tight: EVERY instance of `SigilLeafKey` is a text outside the grammar on
which TypeOfTF is not `undefined` and GetTF does not panic -/
theorem C10_sigil_leaf_exact (h : Heap) (v : Val) (s : Str) (hk : SigilLeafKey h v s) :
    segments s = none ∧ typeTF h v s ≠ .undefined ∧ (getTF h v s).isPanic = false := by
  obtain ⟨p, t, r, rfl, ht, hv, hnav, hl⟩ := hk
  refine ⟨?_, ?_⟩
  · obtain ⟨c, u, rfl, hc⟩ := ht
    unfold segments
    rw [segAux_none_append _ _ (segAux_empty_segment c u hc)]
  · cases hx : lookup (h.fields r.addr) t with
    | none => simp [hx] at hl
    | some x =>
      rw [typeTF_eq, k1_resolves h t r x ht hx p hv v hnav]
      exact ⟨val_kind_ne_undefined _, rfl⟩

/-- K1 documented: a text outside the grammar that resolves -/
theorem C10_sigil_leaf_counterexample :
    ∃ (h : Heap) (v : Val) (s : Str), segments s = none ∧ typeTF h v s ≠ .undefined :=
  ⟨k1H, .obj ⟨0, 0⟩, ['.', '.', 'a'], by decide +kernel, by decide +kernel⟩

/-- … and it is an instance of `SigilLeafKey` -/
example : SigilLeafKey k1H (.obj ⟨0, 0⟩) ['.', '.', 'a'] :=
  ⟨[], ['.', 'a'], ⟨0, 0⟩, rfl, ⟨'.', ['a'], rfl, rfl⟩, by decide +kernel, rfl, rfl⟩

/-- K1 is not confined to the last segment: after the empty segment the WHOLE rest of the text is
the key (`NewObject(".a.b", 1).TypeOfTF("..a.b") == TypeInt`) -/
theorem C10_sigil_leaf_counterexample_deep :
    segments ['.', '.', 'a', '.', 'b'] = none ∧
    typeTF [.obj [(['.', 'a', '.', 'b'], .int 1)] 0] (.obj ⟨0, 0⟩) ['.', '.', 'a', '.', 'b'] = .int := by
  decide

/-! ## 6. totality, no modification -/

/-- `TF.typeL/typeO` return a `Kind` and `TF.getL/getO` an `Out Val`: by their types TypeOfTF cannot
panic and neither call returns a heap, so the tree is not modified. On EVERY text (inside the
grammar or not) TypeOfTF answers `undefined` exactly when GetTF panics. -/
theorem C10_total (h : Heap) (v : Val) (s : Str) :
    typeTF h v s = .undefined ↔ (getTF h v s).isPanic = true :=
  typeV_undefined_iff h _ v s

/-- for a well-formed path: undefined / panic exactly when Get segment by segment fails -/
theorem C10_total_path (h : Heap) (v : Val) (p : List Seg) (hne : p ≠ []) (hv : ValidPath p) :
    (typeTF h v (render p) = .undefined ↔ navigate h v p = none) ∧
    ((getTF h v (render p)).isPanic = true ↔ navigate h v p = none) := by
  cases hn : navigate h v p with
  | none =>
    obtain ⟨h1, h2⟩ := C10_unresolved h v p hne hv hn
    simp [h1, h2]
  | some r =>
    obtain ⟨h1, h2⟩ := C10_resolved h v r p hne hv hn
    simp [h1, h2, Out.isPanic, val_kind_ne_undefined]

end Anytype

#print axioms Anytype.C10_grammar_render
#print axioms Anytype.C10_grammar_iff
#print axioms Anytype.C10_grammar_canonical
#print axioms Anytype.C10_fuel_get
#print axioms Anytype.C10_fuel_type
#print axioms Anytype.C10_parse_canonical
#print axioms Anytype.C10_split_render
#print axioms Anytype.C10_strip_render
#print axioms Anytype.C10_resolved
#print axioms Anytype.C10_resolved_text
#print axioms Anytype.C10_unresolved
#print axioms Anytype.C10_unresolved_text
#print axioms Anytype.C10_parse_overflow
#print axioms Anytype.C10_overflow
#print axioms Anytype.C10_malformed
#print axioms Anytype.C10_malformed_checked
#print axioms Anytype.C10_sigil_leaf_exact
#print axioms Anytype.C10_sigil_leaf_counterexample_deep
#print axioms Anytype.C10_sigil_leaf_counterexample
#print axioms Anytype.C10_total
#print axioms Anytype.C10_total_path
