/-
The executable fuel `h.length + 1` suffices for every acyclic value: a container that needs fuel
`n + 1` heads a chain of `n` nested containers at valid, pairwise distinct addresses (pigeonhole).
-/
import Anytype.Lemmas.Reify
namespace Anytype
open Heap
namespace Rf

variable {n m : Nat} {h : Heap} {v : Val} {a : Nat}

/-! ### `isSome` forms: one level of `reify`, the same for lists and objects -/

theorem reifyList_isSome (xs : List Val) :
    (reifyList n h xs).isSome = true ↔ ∀ x ∈ xs, (reify n h x).isSome = true := by
  induction xs with
  | nil => simp [reifyList]
  | cons x xs ih =>
    rw [reifyList, List.forall_mem_cons, ← ih]
    cases reify n h x <;> cases reifyList n h xs <;> simp

theorem reify_isSome_zero : (reify 0 h v).isSome = true ↔ v.addr? = none := by
  cases v <;> simp [reify, Val.addr?]

theorem reify_isSome_succ :
    (reify (n + 1) h v).isSome = true ↔ v.okIn h ∧ ∀ x ∈ kids h v, (reify n h x).isSome = true := by
  cases v with
  | list r =>
    rw [reify_list_succ, ← reifyList_isSome]
    by_cases hl : h.isList r.addr = true <;> simp [Val.okIn, kids, hl]
  | obj r =>
    rw [reify_obj_succ, reifyFields_eq, ← reifyList_isSome]
    by_cases hl : h.isObj r.addr = true <;> simp [Val.okIn, kids, hl]
  | _ => simp [reify, Val.okIn, kids]

theorem reify_isSome_mono (hnm : n ≤ m) {v : Val}
    (hv : (reify n h v).isSome = true) : (reify m h v).isSome = true := by
  obtain ⟨t, ht⟩ := Option.isSome_iff_exists.1 hv
  rw [reify_mono hnm ht]; rfl

/-- every value stored in cell `a` reifies with fuel `n`, so that a valid reference to `a` reifies
with fuel `n + 1` -/
def CellOK (n : Nat) (h : Heap) (a : Nat) : Prop :=
  ∀ x ∈ h.items a ++ (h.fields a).map (·.2), (reify n h x).isSome = true

theorem CellOK.mono (hnm : n ≤ m) (c : CellOK n h a) : CellOK m h a :=
  fun x hx => reify_isSome_mono hnm (c x hx)

theorem kids_of_okIn (hv : v.okIn h) (ha : v.addr? = some a) :
    kids h v = h.items a ++ (h.fields a).map (·.2) := by
  cases v <;> cases ha
  · rw [kids, fields_of_not_isObj (isObj_false_of_isList hv), List.map_nil, List.append_nil]
  · rw [kids, items_of_not_isList (isList_false_of_isObj hv), List.nil_append]

theorem reify_isSome_iff_cellOK (ha : v.addr? = some a) :
    (reify (n + 1) h v).isSome = true ↔ v.okIn h ∧ CellOK n h a := by
  rw [reify_isSome_succ]
  exact and_congr_right fun hv => by rw [kids_of_okIn hv ha, CellOK]

theorem lt_of_okIn (hv : v.okIn h) (ha : v.addr? = some a) :
    a < h.length := by
  cases v <;> cases ha
  · exact isList_lt hv
  · exact isObj_lt hv

/-- if cell `a` needs exactly fuel `n + 1`, it stores a reference to a cell that needs exactly `n`,
and so on: a chain of `n + 1` valid cells, distinct because they need different amounts of fuel -/
theorem chain_of_cellOK : ∀ (n a : Nat), CellOK (n + 1) h a → ¬ CellOK n h a →
    ∃ l : List Nat, l.length = n + 1 ∧ l.Nodup ∧ ∀ b ∈ l, b < h.length ∧ CellOK n h b := by
  intro n
  induction n with
  | zero =>
    intro a c1 c0
    obtain ⟨x, hx⟩ := Classical.not_forall.1 c0
    obtain ⟨hx, hx0⟩ := Classical.not_imp.1 hx
    obtain ⟨b, hb⟩ := Option.ne_none_iff_exists'.1 (mt reify_isSome_zero.2 hx0)
    obtain ⟨ok, cb⟩ := (reify_isSome_iff_cellOK hb).1 (c1 x hx)
    exact ⟨[b], rfl, List.nodup_cons.2 ⟨List.not_mem_nil, List.nodup_nil⟩, fun b' hb' => by
      rw [List.mem_singleton.1 hb']; exact ⟨lt_of_okIn ok hb, cb⟩⟩
  | succ n ih =>
    intro a c1 c0
    obtain ⟨x, hx⟩ := Classical.not_forall.1 c0
    obtain ⟨hx, hx0⟩ := Classical.not_imp.1 hx
    obtain ⟨b, hb⟩ := Option.ne_none_iff_exists'.1
      (mt (fun e => reify_isSome_mono (Nat.zero_le _) (reify_isSome_zero.2 e)) hx0)
    obtain ⟨ok, cb⟩ := (reify_isSome_iff_cellOK hb).1 (c1 x hx)
    have cb0 : ¬ CellOK n h b := fun c => hx0 ((reify_isSome_iff_cellOK hb).2 ⟨ok, c⟩)
    obtain ⟨l, hlen, hnd, hl⟩ := ih b cb cb0
    refine ⟨b :: l, by rw [List.length_cons, hlen], List.nodup_cons.2 ⟨fun hm => cb0 (hl b hm).2, hnd⟩, ?_⟩
    intro b' hb'
    rcases List.mem_cons.1 hb' with rfl | hb'
    · exact ⟨lt_of_okIn ok hb, cb⟩
    · exact ⟨(hl b' hb').1, (hl b' hb').2.mono (Nat.le_succ n)⟩

theorem cellOK_bounded (k : Nat) (c : CellOK k h a) : CellOK h.length h a := by
  induction k with
  | zero => exact c.mono (Nat.zero_le _)
  | succ k ih =>
    by_cases c0 : CellOK k h a
    · exact ih c0
    · obtain ⟨l, hlen, hnd, hl⟩ := chain_of_cellOK k a c c0
      -- pigeonhole: `k + 1` distinct addresses below `h.length`
      have := hnd.length_le_of_subset (l₂ := List.range h.length)
        fun b hb => List.mem_range.2 (hl b hb).1
      rw [List.length_range, hlen] at this
      exact c.mono this

theorem reifyF_of_acyclic (hv : Acyclic h v) : (reifyF h v).isSome = true := by
  obtain ⟨n, hn⟩ := hv
  cases ha : v.addr? with
  | none => exact reify_isSome_mono (Nat.zero_le _) (reify_isSome_zero.2 ha)
  | some a =>
    cases n with
    | zero => rw [reify_isSome_zero.1 hn] at ha; cases ha
    | succ n =>
      obtain ⟨ok, c⟩ := (reify_isSome_iff_cellOK ha).1 hn
      exact (reify_isSome_iff_cellOK ha).2 ⟨ok, cellOK_bounded n c⟩

theorem reifyF_eq_of_reify {t : JVal} (ht : reify n h v = some t) :
    reifyF h v = some t := by
  obtain ⟨t', ht'⟩ := Option.isSome_iff_exists.1 (reifyF_of_acyclic ⟨n, by rw [ht]; rfl⟩)
  have e1 := reify_mono (Nat.le_max_left n (h.length + 1)) ht
  rw [reify_mono (Nat.le_max_right n (h.length + 1)) ht'] at e1
  rw [ht', e1]

/-! ### with sufficient fuel, `reach` is the complete set of reachable containers -/

theorem reach_sub_of_reify : ∀ (n : Nat) (v : Val), (reify n h v).isSome = true →
    ∀ (m a : Nat), a ∈ reach m h v → a ∈ reach n h v := by
  intro n
  induction n with
  | zero =>
    intro v hv m a ha
    cases m with
    | zero => exact ha
    | succ m =>
      -- a container does not reify without fuel; a scalar reaches nothing
      cases v <;> simp [reify] at hv <;> simp [reach] at ha
  | succ n ih =>
    intro v hv m a ha
    cases m with
    | zero => rw [reach] at ha; cases ha
    | succ m =>
      rcases mem_reach_succ.1 ha with ha | ⟨x, hx, ha⟩
      · exact mem_reach_succ.2 (Or.inl ha)
      · exact mem_reach_of_kid hx (ih x ((reify_isSome_succ.1 hv).2 x hx) m a ha)

end Rf
end Anytype
