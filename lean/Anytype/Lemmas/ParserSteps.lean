/-
Single-step lemmas for the two parser state machines, phrased as "for every fuel exceeding the
length of the remaining input the machine returns R" (`LRun`, `ORun`).  Both are instances of the
same statement about `exec` (`ERun`), so a step lemma is one of `ERun.goto` / `ERun.ret` /
`ERun.call` applied to the value of `step` at the state and character in question.
The big-step relation `Run` (`Lemmas/ParserFuel`) yields an `ERun`: `Run.replay` (`Lemmas/ParserPrefix`) says
`Run σ line c v l' → ERun (c ++ t) σ line (.ok v t l')`, even for every fuel exceeding `c.length` only.
-/
import Anytype.Lemmas.SerChars
import Anytype.Lemmas.ParserFuel
namespace Anytype
namespace RT

abbrev I (s : Str) : List Item := s.map some

def LRun (items : List Item) (st : LSt) (acc : List JVal) (val : Str) (inVal : Bool) (line : Nat)
    (R : PRes) : Prop :=
  ∀ fuel, items.length < fuel → pList fuel items st acc val inVal line = R

def ORun (items : List Item) (st : OSt) (acc : List (Str × JVal)) (key val : Str) (inVal : Bool)
    (line : Nat) (R : PRes) : Prop :=
  ∀ fuel, items.length < fuel → pObject fuel items st acc key val inVal line = R

/-- characters that the `.val` state simply appends to the pending field text -/
def PlainChar (c : Char) : Prop :=
  isSpace c = false ∧ c ≠ '"' ∧ c ≠ '{' ∧ c ≠ '[' ∧ c ≠ ',' ∧ c ≠ ']' ∧ c ≠ '}'

/-! ### the three kinds of step, for either machine -/

def ERun (items : List Item) (σ : Cfg) (line : Nat) (R : PRes) : Prop :=
  ∀ fuel, items.length < fuel → exec fuel items σ line = R

theorem LRun_iff {items st acc val inVal line R} :
    LRun items st acc val inVal line R ↔ ERun items (.L st acc val inVal) line R := by
  simp only [LRun, ERun, pList_eq_exec]

theorem ORun_iff {items st acc key val inVal line R} :
    ORun items st acc key val inVal line R ↔ ERun items (.O st acc key val inVal) line R := by
  simp only [ORun, ERun, pObject_eq_exec]

section
variable {c : Char} {σ σ' : Cfg} {rest : List Item} {line : Nat} {R : PRes}

/-- The characters of all step lemmas are not newlines, so the line counter stays. -/
theorem ERun.of_run (hc : c ≠ '\n') (h : ∀ f, rest.length < f → run f rest line (step σ c line) = R) :
    ERun (some c :: rest) σ line R := by
  intro fuel hf
  cases fuel with
  | zero => exact absurd hf (Nat.not_lt_zero _)
  | succ f => rw [exec_succ, bumpLine_of_ne hc]; exact h f (Nat.lt_of_succ_lt_succ hf)

theorem ERun.goto (hc : c ≠ '\n') (hs : step σ c line = .goto σ') (h : ERun rest σ' line R) :
    ERun (some c :: rest) σ line R :=
  .of_run hc fun f hf => by rw [hs]; exact h f hf

theorem ERun.ret {v} (hc : c ≠ '\n') (hs : step σ c line = .ret v) :
    ERun (some c :: rest) σ line (.ok v rest line) :=
  .of_run hc fun f _ => by rw [hs]; rfl

theorem ERun.call {σc k o rest' line'} (hc : c ≠ '\n') (hs : step σ c line = .call σc k)
    (hn : ERun rest σc line (.ok o rest' line')) (hl : rest'.length ≤ rest.length)
    (h : ERun rest' (k o) line' R) : ERun (some c :: rest) σ line R :=
  .of_run hc fun f hf => by rw [hs, run, hn f hf]; exact h f (by omega)

end

/-! ### list machine steps

Where the state, the character and `inVal` are given, `step` evaluates by `rfl`; `inVal` is a
variable in several lemmas and blocks `!inVal && _`, hence the `cases inVal`. -/

theorem LRun_val_plain1 {c : Char} (hc : PlainChar c) {rest acc val inVal line R}
    (h : LRun rest .val acc (val ++ [c]) true line R) :
    LRun (some c :: rest) .val acc val inVal line R := by
  obtain ⟨h1, h2, h3, h4, h5, h6, _⟩ := hc
  exact LRun_iff.2 (.goto (ne_nl_of_not_space h1) (by simp [step, stepL, h1, h2, h3, h4, h5, h6])
    (LRun_iff.1 h))

theorem LRun_val_plain {s : Str} (hs : ∀ c ∈ s, PlainChar c) : ∀ {c : Char} (_ : PlainChar c)
    {rest acc val inVal line R},
    LRun rest .val acc (val ++ c :: s) true line R →
    LRun (I (c :: s) ++ rest) .val acc val inVal line R := by
  induction s with
  | nil => intro c hc rest acc val inVal line R h; exact LRun_val_plain1 hc h
  | cons d s ih =>
    intro c hc rest acc val inVal line R h
    apply LRun_val_plain1 hc
    apply ih (fun e he => hs e (List.mem_cons_of_mem _ he)) (hs d List.mem_cons_self)
    simpa using h

theorem LRun_val_comma {rest acc val inVal line R} {f : JVal} (hv : val ≠ [])
    (hp : parseField val line = .ok f) (h : LRun rest .val (acc ++ [f]) [] false line R) :
    LRun (some ',' :: rest) .val acc val inVal line R :=
  LRun_iff.2 (.goto (by decide) (by simp [step, stepL, isSpace, hv, hp]) (LRun_iff.1 h))

theorem LRun_val_close {rest acc val inVal line} {f : JVal} (hv : val ≠ [])
    (hp : parseField val line = .ok f) :
    LRun (some ']' :: rest) .val acc val inVal line (.ok (.list (acc ++ [f])) rest line) :=
  LRun_iff.2 (.ret (by decide) (by simp [step, stepL, isSpace, hv, hp]))

/-- `,` with nothing pending (after a nested container) -/
theorem LRun_val_comma0 {rest acc inVal line R} (h : LRun rest .val acc [] inVal line R) :
    LRun (some ',' :: rest) .val acc [] inVal line R :=
  LRun_iff.2 (.goto (by decide) (by cases inVal <;> rfl) (LRun_iff.1 h))

theorem LRun_val_close0 {rest acc inVal line} :
    LRun (some ']' :: rest) .val acc [] inVal line (.ok (.list acc) rest line) :=
  LRun_iff.2 (.ret (by decide) (by cases inVal <;> rfl))

theorem LRun_val_quote {rest acc val line R} (h : LRun rest .str acc val false line R) :
    LRun (some '"' :: rest) .val acc val false line R :=
  LRun_iff.2 (.goto (by decide) rfl (LRun_iff.1 h))

theorem LRun_str_plain {c : Char} (h1 : c ≠ '"') (h2 : c ≠ '\\') (h3 : c ≠ '\n') {rest acc val inVal line R}
    (h : LRun rest .str acc (val ++ [c]) inVal line R) :
    LRun (some c :: rest) .str acc val inVal line R :=
  LRun_iff.2 (.goto h3 (by simp [step, stepL, h1, h2]) (LRun_iff.1 h))

theorem LRun_str_esc {e : Char} (h3 : e ≠ '\n') {rest acc val inVal line R}
    (h : LRun rest .str acc (val ++ ['\\', e]) inVal line R) :
    LRun (some '\\' :: some e :: rest) .str acc val inVal line R :=
  LRun_iff.2 (.goto (by decide) rfl (.goto h3 rfl (LRun_iff.1 h)))

theorem LRun_str_end {rest acc val inVal line R}
    (h : LRun rest .afterStr (acc ++ [.str (unquoteJSON val)]) [] inVal line R) :
    LRun (some '"' :: rest) .str acc val inVal line R :=
  LRun_iff.2 (.goto (by decide) rfl (LRun_iff.1 h))

theorem LRun_afterStr_comma {rest acc val inVal line R} (h : LRun rest .val acc val inVal line R) :
    LRun (some ',' :: rest) .afterStr acc val inVal line R :=
  LRun_iff.2 (.goto (by decide) rfl (LRun_iff.1 h))

theorem LRun_afterStr_close {rest acc val inVal line} :
    LRun (some ']' :: rest) .afterStr acc val inVal line (.ok (.list acc) rest line) :=
  LRun_iff.2 (.ret (by decide) rfl)

theorem LRun_val_list {items rest' acc val line line' R} {l : JVal}
    (hn : LRun items .val [] [] false line (.ok l rest' line')) (hl : rest'.length ≤ items.length)
    (h : LRun rest' .val (acc ++ [l]) val false line' R) :
    LRun (some '[' :: items) .val acc val false line R :=
  LRun_iff.2 (.call (by decide) rfl (LRun_iff.1 hn) hl (LRun_iff.1 h))

theorem LRun_val_obj {items rest' acc val line line' R} {o : JVal}
    (hn : ORun items .keyStart [] [] [] false line (.ok o rest' line')) (hl : rest'.length ≤ items.length)
    (h : LRun rest' .val (acc ++ [o]) val false line' R) :
    LRun (some '{' :: items) .val acc val false line R :=
  LRun_iff.2 (.call (by decide) rfl (ORun_iff.1 hn) hl (LRun_iff.1 h))

/-! ### object machine steps -/

theorem ORun_keyStart_close {rest acc key val inVal line} :
    ORun (some '}' :: rest) .keyStart acc key val inVal line (.ok (.obj acc) rest line) :=
  ORun_iff.2 (.ret (by decide) rfl)

theorem ORun_keyStart_quote {rest acc key val inVal line R} (h : ORun rest .key acc [] val inVal line R) :
    ORun (some '"' :: rest) .keyStart acc key val inVal line R :=
  ORun_iff.2 (.goto (by decide) rfl (ORun_iff.1 h))

theorem ORun_key_plain {c : Char} (h1 : c ≠ '"') (h2 : c ≠ '\\') (h3 : c ≠ '\n') {rest acc key val inVal line R}
    (h : ORun rest .key acc (key ++ [c]) val inVal line R) :
    ORun (some c :: rest) .key acc key val inVal line R :=
  ORun_iff.2 (.goto h3 (by simp [step, stepO, h1, h2]) (ORun_iff.1 h))

theorem ORun_key_esc {e : Char} (h3 : e ≠ '\n') {rest acc key val inVal line R}
    (h : ORun rest .key acc (key ++ ['\\', e]) val inVal line R) :
    ORun (some '\\' :: some e :: rest) .key acc key val inVal line R :=
  ORun_iff.2 (.goto (by decide) rfl (.goto h3 rfl (ORun_iff.1 h)))

theorem ORun_key_end {rest acc key val inVal line R}
    (h : ORun rest .afterKey acc key val inVal line R) :
    ORun (some '"' :: rest) .key acc key val inVal line R :=
  ORun_iff.2 (.goto (by decide) rfl (ORun_iff.1 h))

theorem ORun_afterKey_colon {rest acc key val inVal line R}
    (h : ORun rest .val acc (unquoteJSON key) [] false line R) :
    ORun (some ':' :: rest) .afterKey acc key val inVal line R :=
  ORun_iff.2 (.goto (by decide) rfl (ORun_iff.1 h))

theorem ORun_val_plain1 {c : Char} (hc : PlainChar c) {rest acc key val inVal line R}
    (h : ORun rest .val acc key (val ++ [c]) true line R) :
    ORun (some c :: rest) .val acc key val inVal line R := by
  obtain ⟨h1, h2, h3, h4, h5, _, h7⟩ := hc
  exact ORun_iff.2 (.goto (ne_nl_of_not_space h1) (by simp [step, stepO, h1, h2, h3, h4, h5, h7])
    (ORun_iff.1 h))

theorem ORun_val_plain {s : Str} (hs : ∀ c ∈ s, PlainChar c) : ∀ {c : Char} (_ : PlainChar c)
    {rest acc key val inVal line R},
    ORun rest .val acc key (val ++ c :: s) true line R →
    ORun (I (c :: s) ++ rest) .val acc key val inVal line R := by
  induction s with
  | nil => intro c hc rest acc key val inVal line R h; exact ORun_val_plain1 hc h
  | cons d s ih =>
    intro c hc rest acc key val inVal line R h
    apply ORun_val_plain1 hc
    apply ih (fun e he => hs e (List.mem_cons_of_mem _ he)) (hs d List.mem_cons_self)
    simpa using h

theorem ORun_val_comma {rest acc key val inVal line R} {f : JVal} (hv : val ≠ [])
    (hp : parseField val line = .ok f) (h : ORun rest .keyStart (setField acc key f) key val inVal line R) :
    ORun (some ',' :: rest) .val acc key val inVal line R :=
  ORun_iff.2 (.goto (by decide) (by simp [step, stepO, isSpace, hv, hp]) (ORun_iff.1 h))

theorem ORun_val_close {rest acc key val inVal line} {f : JVal} (hv : val ≠ [])
    (hp : parseField val line = .ok f) :
    ORun (some '}' :: rest) .val acc key val inVal line (.ok (.obj (setField acc key f)) rest line) :=
  ORun_iff.2 (.ret (by decide) (by simp [step, stepO, isSpace, hv, hp]))

theorem ORun_val_quote {rest acc key val line R} (h : ORun rest .str acc key val false line R) :
    ORun (some '"' :: rest) .val acc key val false line R :=
  ORun_iff.2 (.goto (by decide) rfl (ORun_iff.1 h))

theorem ORun_str_plain {c : Char} (h1 : c ≠ '"') (h2 : c ≠ '\\') (h3 : c ≠ '\n') {rest acc key val inVal line R}
    (h : ORun rest .str acc key (val ++ [c]) inVal line R) :
    ORun (some c :: rest) .str acc key val inVal line R :=
  ORun_iff.2 (.goto h3 (by simp [step, stepO, h1, h2]) (ORun_iff.1 h))

theorem ORun_str_esc {e : Char} (h3 : e ≠ '\n') {rest acc key val inVal line R}
    (h : ORun rest .str acc key (val ++ ['\\', e]) inVal line R) :
    ORun (some '\\' :: some e :: rest) .str acc key val inVal line R :=
  ORun_iff.2 (.goto (by decide) rfl (.goto h3 rfl (ORun_iff.1 h)))

theorem ORun_str_end {rest acc key val inVal line R}
    (h : ORun rest .afterStr (setField acc key (.str (unquoteJSON val))) key val inVal line R) :
    ORun (some '"' :: rest) .str acc key val inVal line R :=
  ORun_iff.2 (.goto (by decide) rfl (ORun_iff.1 h))

theorem ORun_afterStr_comma {rest acc key val inVal line R} (h : ORun rest .keyStart acc key val inVal line R) :
    ORun (some ',' :: rest) .afterStr acc key val inVal line R :=
  ORun_iff.2 (.goto (by decide) rfl (ORun_iff.1 h))

theorem ORun_afterStr_close {rest acc key val inVal line} :
    ORun (some '}' :: rest) .afterStr acc key val inVal line (.ok (.obj acc) rest line) :=
  ORun_iff.2 (.ret (by decide) rfl)

theorem ORun_afterVal_comma {rest acc key val inVal line R} (h : ORun rest .keyStart acc key val inVal line R) :
    ORun (some ',' :: rest) .afterVal acc key val inVal line R :=
  ORun_iff.2 (.goto (by decide) rfl (ORun_iff.1 h))

theorem ORun_afterVal_close {rest acc key val inVal line} :
    ORun (some '}' :: rest) .afterVal acc key val inVal line (.ok (.obj acc) rest line) :=
  ORun_iff.2 (.ret (by decide) rfl)

theorem ORun_val_list {items rest' acc key val line line' R} {l : JVal}
    (hn : LRun items .val [] [] false line (.ok l rest' line')) (hl : rest'.length ≤ items.length)
    (h : ORun rest' .afterVal (setField acc key l) key val false line' R) :
    ORun (some '[' :: items) .val acc key val false line R :=
  ORun_iff.2 (.call (by decide) rfl (LRun_iff.1 hn) hl (ORun_iff.1 h))

theorem ORun_val_obj {items rest' acc key val line line' R} {o : JVal}
    (hn : ORun items .keyStart [] [] [] false line (.ok o rest' line')) (hl : rest'.length ≤ items.length)
    (h : ORun rest' .afterVal (setField acc key o) key val false line' R) :
    ORun (some '{' :: items) .val acc key val false line R :=
  ORun_iff.2 (.call (by decide) rfl (ORun_iff.1 hn) hl (ORun_iff.1 h))

end RT
end Anytype
