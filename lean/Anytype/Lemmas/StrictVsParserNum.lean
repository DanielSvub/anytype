/-
Strict decoder vs. lenient parser, part 1: number literals.

`Strict.number s = some (some v, rest)` consumes a text `t` (`s = t ++ rest`) made of number
characters, and `parseField t` (ParseInt base 0, then ParseFloat) yields the same `v`, provided the
literal is shorter than `numRunBound` = 9600 characters (beyond that the exponent caps of the two
readers genuinely disagree, see `Props/C03.lean`).
-/
import Anytype.Lemmas.SerChars
import Anytype.Lemmas.Float32
namespace Anytype
namespace SVP
open Strict

/-- A number literal (more generally: a run of number characters) must be shorter than this for
the agreement theorems.  `strconv.ParseFloat` stops accumulating exponent digits at 10000
(`F64.readExpDigits`), so an exponent of six or more digits is read as a number between 10000 and
99999; with fewer than 9600 mantissa digits that is still "out of range" or "zero", as for the true
exponent. -/
def numRunBound : Nat := 9600

def dval (ds : Str) (x : Nat) : Nat := ds.foldl (fun n c => n * 10 + (c.toNat - 48)) x

theorem digitsVal_eq_dval (ds : Str) : digitsVal ds = dval ds 0 := by rfl

theorem dval_cons (c : Char) (ds : Str) (x : Nat) : dval (c :: ds) x = dval ds (x * 10 + (c.toNat - 48)) := by
  simp only [dval, List.foldl_cons]

theorem dval_append (a b : Str) (x : Nat) : dval (a ++ b) x = dval b (dval a x) := by
  simp [dval, List.foldl_append]

theorem dval_ge (ds : Str) (x : Nat) : x * 10 ^ ds.length ≤ dval ds x := by
  induction ds generalizing x with
  | nil => simp [dval]
  | cons c ds ih =>
    rw [dval_cons, List.length_cons, Nat.pow_succ]
    refine Nat.le_trans ?_ (ih _)
    rw [Nat.mul_comm (10 ^ ds.length) 10, ← Nat.mul_assoc]
    exact Nat.mul_le_mul_right _ (by omega)

theorem dval_lt (ds : Str) (hd : ∀ c ∈ ds, F64.isDigit c = true) (x : Nat) :
    dval ds x < (x + 1) * 10 ^ ds.length := by
  induction ds generalizing x with
  | nil => simp [dval]
  | cons c ds ih =>
    have hc := isDigit_toNat (hd c (by simp))
    rw [dval_cons, List.length_cons, Nat.pow_succ]
    refine Nat.lt_of_lt_of_le (ih (fun d h => hd d (by simp [h])) _) ?_
    rw [Nat.mul_comm (10 ^ ds.length) 10, ← Nat.mul_assoc]
    exact Nat.mul_le_mul_right _ (by omega)

theorem decLen_pos (m : Nat) : 1 ≤ F64.decLen m :=
  List.length_pos_iff.mpr Nat.toDigits_ne_nil

theorem decLen_le (k : Nat) : ∀ m, m < 10 ^ (k + 1) → F64.decLen m ≤ k + 1 := by
  induction k with
  | zero =>
    intro m h
    simp at h
    simp [F64.decLen, Nat.toDigits_of_lt_base h]
  | succ k ih =>
    intro m h
    by_cases h10 : m < 10
    · simp [F64.decLen, Nat.toDigits_of_lt_base h10]
    · unfold F64.decLen
      rw [Nat.toDigits_of_base_le (by decide) (by omega), List.length_append]
      have : m / 10 < 10 ^ (k + 1) := by
        rw [Nat.pow_succ] at h
        omega
      have := ih _ this
      unfold F64.decLen at this
      simp
      omega

theorem decLen_dval (ds : Str) (hd : ∀ c ∈ ds, F64.isDigit c = true) (hne : ds ≠ []) :
    F64.decLen (dval ds 0) ≤ ds.length := by
  cases ds with
  | nil => contradiction
  | cons c t =>
    have := dval_lt (c :: t) hd 0
    simp only [List.length_cons] at this ⊢
    exact decLen_le _ _ (by simpa using this)

theorem finish_none (n d : Nat) (e : Int) (h : 971 < e) : F32.finish n d e = none := by
  have he : ∀ (c : Prop) [Decidable c] (a b : Nat), e ≤ (if c then (a, e + 1) else (b, e)).2 := by
    intro c _ a b; split <;> simp <;> omega
  unfold F32.finish
  simp only []
  exact if_pos (Int.lt_of_lt_of_le h (he _ _ _))

theorem pow10_pos (k : Nat) : 0 < 10 ^ k := Nat.pow_pos (by decide)

theorem pow_bound (k : Nat) : 2 ^ (3 * k) ≤ 10 ^ k := by
  rw [Nat.pow_mul]; exact Nat.pow_le_pow_left (by decide) k

theorem roundPos_overflow (m : Nat) (h : 400 < F64.decLen m) : F64.roundPos m 1 = none := by
  have hm : 10 ^ (399 + 1) ≤ m := by
    apply Nat.le_of_not_lt
    intro hlt
    have := decLen_le 399 m hlt
    omega
  have hm0 : m ≠ 0 := by have := pow10_pos (399 + 1); omega
  have hb := (Nat.le_log2 hm0).2 (Nat.le_trans (pow_bound (399 + 1)) hm)
  rw [(FmtR.roundPos_one m hm0).2]
  exact finish_none _ _ _ (by omega)

/-! ### `strconv.ParseFloat` on the consumed text -/

def fSign (s : Str) : Bool × Str :=
  match s with | '+' :: t => (false, t) | '-' :: t => (true, t) | _ => (false, s)

def fHex (s1 : Str) : Bool × Str :=
  match s1 with
  | '0' :: c :: d :: t => if F64.lower c == 'x' then (true, d :: t) else (false, s1)
  | _ => (false, s1)

def fExp (hex : Bool) (expChar : Char) (rest : Str) : Option (Int × Str) :=
  match rest with
  | c :: t =>
    if F64.lower c == expChar then
      match t with
      | [] => none
      | _ =>
        let p := expSign t
        match p.2 with
        | d :: _ =>
          if F64.isDigit d then
            let q := F64.readExpDigits p.2 0
            some (p.1 * (q.1 : Int), q.2)
          else none
        | [] => none
    else if hex then none else some (0, rest)
  | [] => if hex then none else some (0, [])

/-- the decimal tail of `parseFloatCore` -/
def decTail (neg : Bool) (m fd : Nat) (e : Int) : Option (Option F64) :=
  let e10 : Int := e - (fd : Int)
  let nd : Int := F64.decLen m
  if e10 + nd > 400 then some none
  else if e10 + nd < -400 then some (some (F64.withSign neg F64.posZero))
  else
    let (n, d) := if e10 ≥ 0 then (m * 10 ^ e10.toNat, 1) else (m, 10 ^ (-e10).toNat)
    some (F64.roundRat neg n d)

def goFinal (neg : Bool) (m fd : Nat) (e : Int) : Option (Option F64) :=
  if m = 0 then some (some (F64.withSign neg F64.posZero)) else decTail neg m fd e

/-- `parseFloatCore` with its sign, hex-prefix and exponent readers named -/
theorem parseFloatCore_eq (s : Str) : F64.parseFloatCore s =
    (let p := fSign s
     let h := fHex p.2
     let r := F64.readMant (if h.1 then 16 else 10) h.2 0 0 false false
     if !r.2.2.1 then none else
     match fExp h.1 (if h.1 then 'p' else 'e') r.2.2.2.2 with
     | none => none
     | some (e, rest') =>
       if !rest'.isEmpty then none
       else if s.contains '_' && !F64.underscoreOK s then none
       else if r.1 = 0 then some (some (F64.withSign p.1 F64.posZero))
       else if h.1 then
         let e2 : Int := e - 4 * (r.2.1 : Int)
         if e2 > 2000 then some none
         else if e2 < -3000 - 4 * (F64.bitLen r.1 : Int) then some (some (F64.withSign p.1 F64.posZero))
         else
           let (n, d) := if e2 ≥ 0 then (r.1 * 2 ^ e2.toNat, 1) else (r.1, 2 ^ (-e2).toNat)
           some (F64.roundRat p.1 n d)
       else decTail p.1 r.1 r.2.1 e) := by
  rfl

theorem digit_ne {c d : Char} (hc : F64.isDigit c = true) (hd : d.toNat < 48 ∨ 57 < d.toNat) : c ≠ d := by
  have := isDigit_toNat hc
  apply ne_of_toNat_ne; omega

theorem digit_cons_ne {d c : Char} (hd : F64.isDigit d = true) (hc : c.toNat < 48 ∨ 57 < c.toNat) {X t : Str} :
    d :: X ≠ c :: t :=
  fun h => digit_ne hd hc (List.cons.inj h).1

theorem fSign_shape (neg : Bool) (d0 : Char) (X : Str) (hd0 : F64.isDigit d0 = true) :
    fSign ((if neg then ['-'] else []) ++ d0 :: X) = (neg, d0 :: X) := by
  cases neg with
  | true => rfl
  | false =>
    simp only [Bool.false_eq_true, if_false, List.nil_append]
    unfold fSign; split
    · exact absurd ‹_› (digit_cons_ne hd0 (by decide))
    · exact absurd ‹_› (digit_cons_ne hd0 (by decide))
    · rfl

theorem fHex_shape (d0 : Char) (Y : Str) (hz : d0 = '0' → ∀ c t, Y = c :: t → (F64.lower c == 'x') = false) :
    fHex (d0 :: Y) = (false, d0 :: Y) := by
  unfold fHex; split
  · rename_i c d t h
    simp only [List.cons.injEq] at h
    rw [hz h.1 c (d :: t) h.2]; simp
  · rfl

theorem readMant_digits (ds r : Str) (hd : ∀ c ∈ ds, F64.isDigit c = true) (m fd : Nat) (sd dot : Bool) :
    F64.readMant 10 (ds ++ r) m fd sd dot =
      F64.readMant 10 r (dval ds m) (if dot then fd + ds.length else fd) (sd || !ds.isEmpty) dot := by
  induction ds generalizing m fd sd with
  | nil => simp [dval]
  | cons c ds ih =>
    have hc := hd c (by simp)
    have h1 : (c == '_') = false := by simpa using digit_ne hc (by decide)
    have h2 : (c == '.') = false := by simpa using digit_ne hc (by decide)
    simp only [List.cons_append, F64.readMant, h1, h2, hc, Bool.false_eq_true, if_false, if_true]
    rw [ih (fun d h => hd d (by simp [h])), dval_cons]
    cases dot <;> simp [Nat.add_assoc, Nat.add_comm 1]

theorem readMant_stop {et : Str} {ex : Option Int} (h : ExpText et ex) (m fd : Nat) (sd dot : Bool) :
    F64.readMant 10 et m fd sd dot = (m, fd, sd, dot, et) := by
  rcases h with ⟨_, rfl⟩ | ⟨c, sg, ed, sgn, rfl, hc, _⟩
  · rfl
  · have h1 : (c == '_') = false ∧ (c == '.') = false ∧ F64.isDigit c = false := by
      rcases hc with rfl | rfl <;> decide
    simp [F64.readMant, h1]

theorem readMant_shape {d0 : Char} {more fp : Str} {hasFrac : Bool} (hsh : NumShape d0 more fp hasFrac)
    {et : Str} {ex : Option Int} (het : ExpText et ex) :
    F64.readMant 10 ((d0 :: more) ++ ((if hasFrac then '.' :: fp else []) ++ et)) 0 0 false false =
      (dval (d0 :: more ++ fp) 0, fp.length, true, hasFrac, et) := by
  rw [readMant_digits (d0 :: more) _ hsh.ip]
  cases hasFrac with
  | false =>
    rw [hsh.noFrac rfl]
    simp only [Bool.false_eq_true, if_false, List.nil_append, List.append_nil]
    rw [readMant_stop het]; rfl
  | true =>
    simp only [if_true, List.cons_append, Bool.false_eq_true, if_false]
    have : F64.readMant 10 ('.' :: (fp ++ et)) (dval (d0 :: more) 0) 0 true false =
        F64.readMant 10 (fp ++ et) (dval (d0 :: more) 0) 0 true true := by
      simp [F64.readMant]
    simp only [List.isEmpty_cons, Bool.not_false, Bool.or_true]
    rw [this, readMant_digits fp _ hsh.frac, readMant_stop het, ← List.cons_append, dval_append]
    simp

theorem expSign_digit (d : Char) (t : Str) (hd : F64.isDigit d = true) : expSign (d :: t) = (1, d :: t) := by
  unfold expSign; split
  · exact absurd ‹_› (digit_cons_ne hd (by decide))
  · exact absurd ‹_› (digit_cons_ne hd (by decide))
  · rfl

/-! ### the two exponent caps -/

theorem le_dval (ds : Str) (x : Nat) : x ≤ dval ds x :=
  Nat.le_trans (Nat.le_mul_of_pos_right _ (pow10_pos _)) (dval_ge ds x)

theorem readExpDigits_spec (ed : Str) (hd : ∀ c ∈ ed, F64.isDigit c = true) (e : Nat) :
    ∃ x, F64.readExpDigits ed e = (x, []) ∧ (dval ed e < 10000 → x = dval ed e) ∧
      (10000 ≤ dval ed e → 10000 ≤ x) := by
  induction ed generalizing e with
  | nil => exact ⟨e, rfl, fun _ => rfl, fun h => h⟩
  | cons c ed ih =>
    have hc := hd c (by simp)
    have h1 : (c == '_') = false := by simpa using digit_ne hc (by decide)
    obtain ⟨x, hx, hlo, hhi⟩ := ih (fun d h => hd d (by simp [h])) (if e < 10000 then e * 10 + (c.toNat - 48) else e)
    refine ⟨x, by simp only [F64.readExpDigits, h1, hc, Bool.false_eq_true, if_false, if_true, hx], ?_⟩
    by_cases he : e < 10000
    · rw [if_pos he] at hlo hhi
      exact ⟨hlo, hhi⟩
    · rw [if_neg he] at hlo hhi
      have := le_dval ed e
      have := le_dval (c :: ed) e
      exact ⟨fun h => by omega, fun _ => hhi (by omega)⟩

theorem dval_dropZeros (ed : Str) : dval (ed.dropWhile (· == '0')) 0 = dval ed 0 := by
  induction ed with
  | nil => rfl
  | cons c ed ih =>
    by_cases hc : c = '0'
    · subst hc
      simp only [List.dropWhile_cons, beq_self_eq_true, if_true, ih, dval_cons]
      rfl
    · have : (c == '0') = false := by simpa using hc
      simp only [List.dropWhile_cons, this, Bool.false_eq_true, if_false]

theorem capS_spec (ed : Str) (hd : ∀ c ∈ ed, F64.isDigit c = true) :
    (dval ed 0 < 10000 → capS ed = dval ed 0) ∧ (10000 ≤ dval ed 0 → 10000 ≤ capS ed) := by
  unfold capS
  rw [digitsVal_eq_dval, dval_dropZeros]
  split
  · rename_i hlen
    rcases h : ed.dropWhile (· == '0') with _ | ⟨c, t⟩
    · rw [h] at hlen; simp at hlen
    · have hc : c ≠ '0' := by
        have := List.head_dropWhile_not (· == '0') (l := ed) (by rw [h]; simp)
        simpa [h] using this
      have hcd : F64.isDigit c = true := hd c ((List.dropWhile_suffix _).subset (by rw [h]; simp))
      have hcn := isDigit_toNat hcd
      have hc0 : c.toNat ≠ 48 := fun e => hc ((char_eq_iff _ _).2 e)
      have h1 := dval_ge t (c.toNat - 48)
      have h2 : dval (c :: t) 0 = dval ed 0 := by rw [← h, dval_dropZeros]
      rw [dval_cons] at h2
      simp only [Nat.zero_mul, Nat.zero_add] at h2
      rw [h] at hlen
      simp only [List.length_cons] at hlen
      have h3 : 10 ^ 6 ≤ 10 ^ t.length := Nat.pow_le_pow_right (by decide) (by omega)
      have h4 : (10 : Nat) ^ 6 = 1000000 := by decide
      have h5 : 1 * 10 ^ t.length ≤ (c.toNat - 48) * 10 ^ t.length := Nat.mul_le_mul_right _ (by omega)
      exact ⟨fun hh => by omega, fun _ => by omega⟩
  · exact ⟨fun _ => rfl, fun h => h⟩

theorem caps_agree (ed : Str) (hd : ∀ c ∈ ed, F64.isDigit c = true) :
    ∃ x, F64.readExpDigits ed 0 = (x, []) ∧ (x = capS ed ∨ (10000 ≤ x ∧ 10000 ≤ capS ed)) := by
  obtain ⟨x, hx, a⟩ := readExpDigits_spec ed hd 0
  have b := capS_spec ed hd
  refine ⟨x, hx, ?_⟩
  by_cases h : dval ed 0 < 10000
  · left; rw [a.1 h, b.1 h]
  · right; exact ⟨a.2 (by omega), b.2 (by omega)⟩

/-- what the two readers make of one exponent text: the same number, or two huge ones of the same sign -/
def ExpAgree (ex : Option Int) (e : Int) : Prop :=
  ex.getD 0 = e ∨ ∃ (sgn : Int) (E E' : Nat), (sgn = 1 ∨ sgn = -1) ∧ 10000 ≤ E ∧ 10000 ≤ E' ∧
    ex = some (sgn * (E' : Int)) ∧ e = sgn * (E : Int)

theorem fExp_shape (et : Str) (ex : Option Int) (h : ExpText et ex) :
    ∃ e : Int, fExp false 'e' et = some (e, []) ∧ ExpAgree ex e := by
  rcases h with ⟨rfl, rfl⟩ | ⟨c, sg, ed, sgn, rfl, hc, hsg, hne, hd, rfl⟩
  · exact ⟨0, rfl, .inl rfl⟩
  · have hlow : (F64.lower c == 'e') = true := by rcases hc with rfl | rfl <;> decide
    obtain ⟨x, hr, hx⟩ := caps_agree ed hd
    refine ⟨sgn * (x : Int), ?_, ?_⟩
    · cases ed with
      | nil => contradiction
      | cons d ed' =>
        have hdd := hd d (by simp)
        rcases hsg with ⟨rfl, rfl⟩ | ⟨rfl, rfl⟩ | ⟨rfl, rfl⟩
        all_goals simp only [List.cons_append, List.nil_append]
        · simp only [fExp, hlow, if_true, expSign_digit d ed' hdd, hdd, hr]
        · simp only [fExp, hlow, if_true, expSign, hdd, hr]
        · simp only [fExp, hlow, if_true, expSign, hdd, hr]
    · rcases hx with heq | ⟨hg, hcap⟩
      · exact .inl (by rw [heq]; rfl)
      · exact .inr ⟨sgn, _, _, by rcases hsg with ⟨_, rfl⟩ | ⟨_, rfl⟩ | ⟨_, rfl⟩ <;> simp, hg, hcap, rfl, rfl⟩

/-- `parseFloatCore` on a text of the JSON number shape is `goFinal` at the exponent `e` that Go's exponent reader returns -/
theorem parseFloatCore_prim (neg : Bool) {d0 : Char} {more fp : Str} {hasFrac : Bool} (hsh : NumShape d0 more fp hasFrac)
    {et : Str} {ex : Option Int} (het : ExpText et ex) {e : Int} (he : fExp false 'e' et = some (e, [])) :
    F64.parseFloatCore (numText neg (d0 :: more) fp hasFrac et) =
        goFinal neg (dval (d0 :: more ++ fp) 0) fp.length e := by
  have hus := contains_us_numChars _ (numText_numChars neg hsh het.numChars)
  have hY : d0 = '0' → ∀ c t', (more ++ ((if hasFrac then '.' :: fp else []) ++ et)) = c :: t' →
      (F64.lower c == 'x') = false := by
    intro h0 c t' hc
    rw [hsh.zero h0, List.nil_append] at hc
    rcases numTail_head hasFrac fp het with ⟨rfl, _, rfl⟩ | ⟨c', tl, h, hc', _⟩
    · cases hc
    · rw [h] at hc
      cases hc
      rcases hc' with rfl | rfl | rfl <;> rfl
  have hm := readMant_shape hsh het
  rw [parseFloatCore_eq]
  simp only [hus]
  rw [numText_eq, fSign_shape neg d0 _ (hsh.ip d0 (by simp))]
  simp only [fHex_shape d0 _ hY, Bool.false_eq_true, if_false]
  rw [← List.cons_append, hm]
  simp only [he]
  simp [goFinal]

theorem eqFold_digit (d0 : Char) (X : Str) (h : F64.isDigit d0 = true) :
    F64.eqFold (d0 :: X) "inf" = false ∧ F64.eqFold (d0 :: X) "infinity" = false ∧ F64.eqFold (d0 :: X) "nan" = false := by
  have a : "inf".toList = ['i', 'n', 'f'] := by decide
  have b : "infinity".toList = ['i', 'n', 'f', 'i', 'n', 'i', 't', 'y'] := by decide
  have c : "nan".toList = ['n', 'a', 'n'] := by decide
  have c1 : d0 ≠ 'i' := digit_ne h (by decide)
  have c2 : d0 ≠ 'n' := digit_ne h (by decide)
  have hl : F64.lower d0 = d0 := by
    have := isDigit_toNat h
    unfold F64.lower
    rw [if_neg]
    rw [char_le_iff, char_le_iff]
    have e1 : 'A'.toNat = 65 := rfl
    omega
  simp [F64.eqFold, a, b, c, hl, c1, c2]

theorem parseSpecial_numText (neg : Bool) (d0 : Char) (X : Str) (h : F64.isDigit d0 = true) :
    F64.parseSpecial ((if neg then ['-'] else []) ++ d0 :: X) = none := by
  have he := eqFold_digit d0 X h
  cases neg with
  | true => simp [F64.parseSpecial, he]
  | false =>
    simp only [Bool.false_eq_true, if_false, List.nil_append]
    unfold F64.parseSpecial; split
    · exact absurd ‹_› (digit_cons_ne h (by decide))
    · exact absurd ‹_› (digit_cons_ne h (by decide))
    · simp [he]

theorem numFinal_float (neg : Bool) (ip fp : Str) (hasFrac : Bool) (ex : Option Int) (rest : Str)
    (h : (!hasFrac && ex.isNone) = false) :
    numFinal neg ip fp hasFrac ex rest =
      match goFinal neg (dval (ip ++ fp) 0) fp.length (ex.getD 0) with
      | some (some f) => some (some (.float f), rest)
      | some none => some (none, rest)
      | none => none := by
  unfold numFinal goFinal decTail
  simp only [h, digitsVal_eq_dval, Bool.false_eq_true, if_false, beq_iff_eq]
  generalize dval (ip ++ fp) 0 = m
  generalize ex.getD 0 - (fp.length : Int) = e10
  by_cases h0 : m = 0
  · rw [if_pos h0, if_pos h0]
  rw [if_neg h0, if_neg h0]
  by_cases h1 : e10 + (F64.decLen m : Int) > 400
  · rw [if_pos h1, if_pos h1]
  rw [if_neg h1, if_neg h1]
  by_cases h2 : e10 + (F64.decLen m : Int) < -400
  · rw [if_pos h2, if_pos h2]
  rw [if_neg h2, if_neg h2]
  generalize (if e10 ≥ 0 then (m * 10 ^ e10.toNat, 1) else (m, 10 ^ (-e10).toNat)) = nd
  cases F64.roundRat neg nd.1 nd.2 <;> rfl

/-- beyond ±10000 the value overflows, or is zero, for either exponent -/
theorem goFinal_agree (neg : Bool) (m fd k : Nat) (ex : Option Int) (e : Int) (f : F64)
    (hk : F64.decLen m ≤ k + fd) (hk' : k < numRunBound) (hfd : fd < numRunBound) (hrel : ExpAgree ex e)
    (hs : goFinal neg m fd (ex.getD 0) = some (some f)) : goFinal neg m fd e = some (some f) := by
  rcases hrel with rfl | ⟨sgn, E, E', hsgn, hE, hE', rfl, rfl⟩
  · exact hs
  · have := decLen_pos m
    unfold numRunBound at hk' hfd
    unfold goFinal decTail at hs ⊢
    by_cases hm : m = 0
    · rw [if_pos hm] at hs ⊢; exact hs
    · rw [if_neg hm] at hs ⊢
      simp only [Option.getD_some] at hs ⊢
      rcases hsgn with rfl | rfl
      · rw [if_pos (by omega)] at hs; cases hs
      · rw [if_neg (by omega), if_pos (by omega)] at hs ⊢; exact hs

theorem numText_numLike (neg : Bool) {d0 : Char} {more fp : Str} {hasFrac : Bool} (hsh : NumShape d0 more fp hasFrac)
    {et : Str} {ex : Option Int} (het : ExpText et ex) : NumLike (numText neg (d0 :: more) fp hasFrac et) :=
  ⟨by simp [numText], numText_numChars neg hsh het.numChars⟩

theorem parseField_numText (neg : Bool) {d0 : Char} {more fp : Str} {hasFrac : Bool} (hsh : NumShape d0 more fp hasFrac)
    {et : Str} {ex : Option Int} (het : ExpText et ex) {e : Int} (he : fExp false 'e' et = some (e, [])) {f : F64}
    (hint : parseIntBase0 (numText neg (d0 :: more) fp hasFrac et) = none)
    (hg : goFinal neg (dval (d0 :: more ++ fp) 0) fp.length e = some (some f)) (line : Nat) :
    parseField (numText neg (d0 :: more) fp hasFrac et) line = .ok (.float f) := by
  have hd0 := hsh.ip d0 (by simp)
  unfold parseField F64.parseFloat
  rw [hint, parseFloatCore_prim neg hsh het he, hg, numLike_ne_null (numText_numLike neg hsh het), numText_eq,
    parseSpecial_numText neg d0 _ hd0]
  rfl

/-- the lemma behind `C03_numbers` -/
theorem number_parseField (s : Str) (v : JVal) (rest : Str) (h : Strict.number s = some (some v, rest)) :
    ∃ t, s = t ++ rest ∧ t ≠ [] ∧ (∀ c ∈ t, isNumChar c = true) ∧
      (t.length < numRunBound → ∀ line, parseField t line = .ok v) := by
  rw [number_eq] at h
  obtain ⟨neg, d0, more, fp, hasFrac, et, ex, hs, hsh, het, hfin⟩ := number'_shape s _ rest h
  have hnl := numText_numLike neg hsh het
  refine ⟨numText neg (d0 :: more) fp hasFrac et, hs, hnl.1, hnl.2, ?_⟩
  intro hlen line
  obtain ⟨e, he, hrel⟩ := fExp_shape et ex het
  rcases numTail_head hasFrac fp het with ⟨rfl, rfl, rfl⟩ | ⟨c, tl, htl, hc, hni⟩
  · -- an integer literal: in `int` range, or else rounded
    obtain rfl := hsh.noFrac rfl
    rcases intLit_cases neg hsh rest with ⟨iv, hp, hn⟩ | ⟨hp, hm0, hn⟩ <;> rw [hn] at hfin
    · cases hfin
      unfold parseField
      rw [numLike_ne_null hnl, hp]
      rfl
    · generalize hm : digitsVal (d0 :: more) = m at hfin hm0
      rcases hrr : F64.roundRat neg m 1 with _ | f <;> rw [hrr] at hfin <;> cases hfin
      obtain rfl : e = 0 := by cases he; rfl
      refine parseField_numText neg hsh het he hp ?_ line
      -- the literal has at most 400 digits, or rounding it would have overflowed
      have hnd : ¬ (400 < F64.decLen m) := by
        intro h400
        have := roundPos_overflow m h400
        simp [F64.roundRat, this] at hrr
      have hp := decLen_pos m
      rw [List.append_nil, ← digitsVal_eq_dval, hm]
      unfold goFinal decTail
      rw [if_neg hm0]
      simp only []
      rw [if_neg (by simp <;> omega), if_neg (by simp <;> omega)]
      simp [hrr]
  · -- a fraction or an exponent: both readers go through `goFinal`
    rw [numFinal_float _ _ _ _ _ _ hni] at hfin
    have hl : (d0 :: more).length < numRunBound ∧ fp.length < numRunBound := by
      simp only [numRunBound, numText, List.length_append] at hlen ⊢
      cases hasFrac with
      | true => simp at hlen ⊢; omega
      | false => rw [hsh.noFrac rfl]; simp at hlen ⊢; omega
    have hint : parseIntBase0 (numText neg (d0 :: more) fp hasFrac et) = none := by
      rw [numText_eq, htl]
      exact parseInt_tail neg hsh tl hc
    rcases hg : goFinal neg (dval (d0 :: more ++ fp) 0) fp.length (ex.getD 0) with _ | _ | f <;>
      rw [hg] at hfin <;> cases hfin
    have hk : F64.decLen (dval (d0 :: more ++ fp) 0) ≤ (d0 :: more).length + fp.length := by
      have := decLen_dval (d0 :: more ++ fp)
        (fun c hc' => (List.mem_append.mp hc').elim (hsh.ip c) (hsh.frac c)) (by simp)
      rw [List.length_append] at this; exact this
    exact parseField_numText neg hsh het he hint (goFinal_agree neg _ _ _ ex e f hk hl.1 hl.2 hrel hg) line

end SVP
end Anytype
