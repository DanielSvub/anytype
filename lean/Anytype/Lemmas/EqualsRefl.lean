/-
Reflexivity of the library `Equals` on well-formed trees (`v.WF`: floats finite, hence no NaN; the keys of
every object distinct).
-/
import Anytype.Lemmas.TreeWF
import Anytype.Lemmas.Equals
namespace Anytype
namespace RT

theorem eqGo_refl (x : F64) (hx : x.isFinite = true) : F64.eqGo x x = true := by
  refine F64.eqGo_refl ?_
  simp [F64.isNaN, F64.isFinite] at hx ⊢
  intro h; exact absurd h hx

mutual
theorem equalsJ_refl : (v : JVal) → v.WF → equalsJ v v = true
  | .null, _ => by simp [equalsJ]
  | .bool _, _ => by simp [equalsJ]
  | .int _, _ => by simp [equalsJ]
  | .float x, hw => by simp [equalsJ, eqGo_refl x (by simpa [JVal.WF] using hw)]
  | .str _, _ => by simp [equalsJ]
  | .list xs, hw => by
    simp [equalsJ, equalsList_refl xs (by simpa [JVal.WF] using hw)]
  | .obj kvs, hw => by
    have hw' : (kvs.map Prod.fst).Nodup ∧ WFFields kvs := by simpa [JVal.WF] using hw
    have h := equalsFields_refl kvs hw'.2
    have : equalsFields kvs kvs = true :=
      equalsFields_iff.2 fun kv hkv => ⟨kv.2, lookup_of_mem hw'.1 hkv, h kv hkv⟩
    simp [equalsJ, this]
theorem equalsList_refl : (xs : List JVal) → WFList xs → equalsList xs xs = true
  | [], _ => by simp [equalsList]
  | x :: xs, hw => by simp [equalsList, equalsJ_refl x hw.1, equalsList_refl xs hw.2]
/-- the part of the induction for fields: every field value equals itself; `equalsFields kvs kvs` follows in
`equalsJ_refl` with the distinctness of the keys -/
theorem equalsFields_refl : (kvs : List (Str × JVal)) → WFFields kvs → ∀ kv ∈ kvs, equalsJ kv.2 kv.2 = true
  | [], _ => by simp
  | (k, v) :: kvs, hw => by
    intro z hz
    rcases List.mem_cons.mp hz with h | h
    · rw [h]; exact equalsJ_refl v hw.1
    · exact equalsFields_refl kvs hw.2 z h
end

end RT
end Anytype
