/-
The definitions that `vextract` (tfgen.go) translates from the Go source of the eight tree-form methods, the seven
`serialize()` methods and `FormatString` (`Generated/TreeFormGen.lean`, regenerated on every run) are equal to the
hand-written model (`Model/TreeForm.lean`, `Model/Serialize.lean`, `Model/Indent.lean`).

The scripts follow the model and mention nothing of the generated code but the names of its definitions and the two tests
on the positions of `.` and `#`: `split_cases` decides those tests and `TF.split` together, facts about the model (the typed
getter against `TypeOf`, a fresh empty cell, the padding loop) bring both sides to the same branch, and `gen_case` walks the
two remaining decision trees in lockstep.  `unquoteAux_backslash` alone goes down the tests in the order of the source.
-/
import Anytype.Generated.TreeFormGen
import Anytype.Lemmas.Heap
import Mathlib.Tactic.SplitIfs
-- one script serves several cases; simp sets and `first` alternatives provide for other ways of writing the source
set_option linter.unusedSimpArgs false
set_option linter.unusedTactic false

namespace Anytype

open Generated

namespace TFGen

theorem indexOf_ge (c : Char) (s : Str) : -1 ≤ TF.indexOf c s := by
  induction s with
  | nil => simp [TF.indexOf]
  | cons x xs ih => simp only [TF.indexOf]; split_ifs <;> omega

theorem indexOf_get (c : Char) (s : Str) (h : 0 ≤ TF.indexOf c s) : s[(TF.indexOf c s).toNat]? = some c := by
  induction s with
  | nil => simp [TF.indexOf] at h
  | cons x xs ih =>
    simp only [TF.indexOf] at h ⊢
    by_cases hx : (x == c) = true
    · simp [eq_of_beq hx]
    · simp only [hx, ↓reduceIte, Bool.false_eq_true] at h ⊢
      by_cases hr : TF.indexOf c xs < 0
      · simp only [hr, ↓reduceIte] at h; omega
      · simp only [hr, ↓reduceIte] at h ⊢
        rw [show (TF.indexOf c xs + 1).toNat = (TF.indexOf c xs).toNat + 1 by omega, List.getElem?_cons_succ]
        exact ih (by omega)

theorem indexOf_get_pos (c : Char) (s : Str) (h : 0 < TF.indexOf c s) : s[(TF.indexOf c s).toNat]? = some c :=
  indexOf_get c s (by omega)

theorem indexOf_ne {c₁ c₂ : Char} (hc : c₁ ≠ c₂) (s : Str) (h : 0 ≤ TF.indexOf c₁ s) :
    TF.indexOf c₁ s ≠ TF.indexOf c₂ s := by
  intro he
  have h1 := indexOf_get c₁ s h
  have h2 := indexOf_get c₂ s (he ▸ h)
  rw [he, h2] at h1
  exact hc (Option.some.inj h1).symm

/-- `strings.IndexAny(s, "c₁c₂")` as the translator writes it, in the terms in which the model splits a tree form: the
first separator is `c₁` at a positive position, or `c₂` at a positive position, or there is none at a positive position.
The source searches twice with `strings.Index`; with this in their simp sets a method that searches once with
`strings.IndexAny` unfolds to the same tests. -/
theorem indexAny2_eq {c₁ c₂ : Char} (hc : (c₁ == c₂) = false) (s : Str) :
    (if TF.indexOf c₁ s < 0 then TF.indexOf c₂ s else if TF.indexOf c₂ s < 0 then TF.indexOf c₁ s
      else min (TF.indexOf c₁ s) (TF.indexOf c₂ s)) =
    if TF.indexOf c₁ s > 0 && (TF.indexOf c₂ s < 0 || TF.indexOf c₁ s < TF.indexOf c₂ s) then TF.indexOf c₁ s
    else if TF.indexOf c₂ s > 0 && (TF.indexOf c₁ s < 0 || TF.indexOf c₂ s < TF.indexOf c₁ s) then TF.indexOf c₂ s
    else if TF.indexOf c₁ s < 0 && TF.indexOf c₂ s < 0 then -1 else 0 := by
  have g1 := indexOf_ge c₁ s
  have g2 := indexOf_ge c₂ s
  have ne : 0 ≤ TF.indexOf c₁ s → TF.indexOf c₁ s ≠ TF.indexOf c₂ s := indexOf_ne (by simpa using hc) s
  generalize TF.indexOf c₁ s = x at *
  generalize TF.indexOf c₂ s = y at *
  -- each position is -1, 0 or positive, and the two differ unless both are -1
  have hx : x = -1 ∨ x = 0 ∨ 0 < x := by omega
  have hy : y = -1 ∨ y = 0 ∨ 0 < y := by omega
  rcases hx with rfl | rfl | hx <;> rcases hy with rfl | rfl | hy <;>
    simp (config := { decide := true }) [Int.min_def, *] <;> omega

/-- `mk` makes the values of the container kind `k` -/
class RefKind (k : Kind) (mk : outParam (Ref → Val)) : Prop where
  kind_iff : ∀ v : Val, v.kind = k ↔ ∃ r, v = mk r
  getVal : ∀ (h : Heap) (r : Ref), h.getVal (mk r) = mk ⟨r.addr, h.ego r.addr⟩
  ne : k ≠ .undefined

instance refKind_obj : RefKind .object .obj := ⟨fun v => by cases v <;> simp [Val.kind], fun _ _ => rfl, by decide⟩
instance refKind_list : RefKind .list .list := ⟨fun v => by cases v <;> simp [Val.kind], fun _ _ => rfl, by decide⟩

/-- `GetObject(i)` / `GetList(i)` against `TypeOf(i)`: a container of that kind, returned with the present ego; or `TypeOf`
says otherwise and the getter panics -/
theorem L_getRef {k : Kind} {mk : Ref → Val} [rk : RefKind k mk] {h : Heap} {a : Nat} {i : Int} {g : Out Val}
    (hg : L.getK h a k i = g) :
    (∃ r, (h.items a)[i.toNat]? = some (mk r) ∧ L.typeOf h a i = k ∧ g = .ok (mk ⟨r.addr, h.ego r.addr⟩)) ∨
    (L.typeOf h a i ≠ k ∧ ∃ p, g = .panic p) := by
  subst hg
  unfold L.typeOf L.getK L.get
  by_cases hr : L.count h a ≤ i ∨ i < 0
  · have h1 : ¬ (0 ≤ i ∧ i < L.count h a) := by omega
    simp [hr, h1, rk.ne.symm]
  · have h1 : 0 ≤ i ∧ i < L.count h a := by omega
    cases hx : (h.items a)[i.toNat]? with
    | none => simp [hr, h1, rk.ne.symm]
    | some v =>
      by_cases hv : v.kind = k
      · obtain ⟨r, rfl⟩ := (rk.kind_iff v).1 hv
        exact .inl ⟨r, rfl, by simp [hr, h1, hv], by simp [hr, rk.getVal, (rk.kind_iff _).2 ⟨_, rfl⟩]⟩
      · simp [hr, h1, hv, Heap.getVal_kind]

theorem O_getRef {k : Kind} {mk : Ref → Val} [rk : RefKind k mk] {h : Heap} {a : Nat} {key : Str} {g : Out Val}
    (hg : O.getK h a k key = g) :
    (∃ r, lookup (h.fields a) key = some (mk r) ∧ O.typeOf h a key = k ∧ g = .ok (mk ⟨r.addr, h.ego r.addr⟩)) ∨
    (O.typeOf h a key ≠ k ∧ ∃ p, g = .panic p) := by
  subst hg
  unfold O.typeOf O.getK O.get
  cases hx : lookup (h.fields a) key with
  | none => simp [rk.ne.symm]
  | some v =>
    by_cases hv : v.kind = k
    · obtain ⟨r, rfl⟩ := (rk.kind_iff v).1 hv
      exact .inl ⟨r, rfl, hv, by simp [rk.getVal, (rk.kind_iff _).2 ⟨_, rfl⟩]⟩
    · simp [hv, Heap.getVal_kind]

/-- `NewObject()` / `NewList()` append an empty cell: no list or object read behind the allocation differs -/
theorem items_append_fresh (h : Heap) {c : Cell} (hc : c = .obj [] 0 ∨ c = .list [] 0) (a : Nat) :
    (h ++ [c]).items a = h.items a := by
  rcases Nat.lt_trichotomy a h.length with hlt | rfl | hgt
  · exact Heap.items_append_old h c hlt
  · rcases hc with rfl | rfl <;> simp [Heap.items]
  · simp [Heap.items, List.getElem?_eq_none, Nat.le_of_lt hgt, Nat.succ_le_of_lt hgt]
theorem fields_append_fresh (h : Heap) {c : Cell} (hc : c = .obj [] 0 ∨ c = .list [] 0) (a : Nat) :
    (h ++ [c]).fields a = h.fields a := by
  rcases Nat.lt_trichotomy a h.length with hlt | rfl | hgt
  · exact Heap.fields_append_old h c hlt
  · rcases hc with rfl | rfl <;> simp [Heap.fields]
  · simp [Heap.fields, List.getElem?_eq_none, Nat.le_of_lt hgt, Nat.succ_le_of_lt hgt]
theorem count_append_fresh (h : Heap) {c : Cell} (hc : c = .obj [] 0 ∨ c = .list [] 0) (a : Nat) :
    L.count (h ++ [c]) a = L.count h a := by
  simp only [L.count, items_append_fresh h hc]

/-- the tests on the positions of the first `.` and the first `#` by which the source code picks the first segment -/
abbrev dotFirst (t : Str) : Bool := TF.indexOf '.' t > 0 && (TF.indexOf '#' t < 0 || TF.indexOf '.' t < TF.indexOf '#' t)
abbrev hashFirst (t : Str) : Bool := TF.indexOf '#' t > 0 && (TF.indexOf '.' t < 0 || TF.indexOf '#' t < TF.indexOf '.' t)

theorem split_cases (t : Str) :
    (dotFirst t = true ∧ TF.split t = .dot (t.take (TF.indexOf '.' t).toNat) (t.drop (TF.indexOf '.' t).toNat)) ∨
    (dotFirst t = false ∧ hashFirst t = true ∧
      TF.split t = .hash (t.take (TF.indexOf '#' t).toNat) (t.drop (TF.indexOf '#' t).toNat)) ∨
    (dotFirst t = false ∧ hashFirst t = false ∧ TF.split t = .leaf t) := by
  simp only [TF.split]
  split_ifs with h1 h2
  · exact .inl ⟨h1, rfl⟩
  · exact .inr (.inl ⟨by simpa using h1, h2, rfl⟩)
  · exact .inr (.inr ⟨by simpa using h1, by simpa using h2, rfl⟩)

theorem L_add_nil (h : Heap) (a : Nat) :
    L.add h a [.nil] = (h.setItems a (h.items a ++ [.nil]), .ok ((h.setItems a (h.items a ++ [.nil])).egoRef a)) := by
  simp [L.add, addEach, parseVal]

theorem padNil_zero (h : Heap) (a : Nat) : TF.padNil h a 0 = h := by simp [TF.padNil]
theorem padNil_succ (h : Heap) (a k : Nat) :
    TF.padNil (h.setItems a (h.items a ++ [.nil])) a k = TF.padNil h a (k + 1) := by
  unfold TF.padNil
  cases hl : h.isList a
  · simp [Heap.setItems_of_not_isList _ hl, Heap.items_of_not_isList hl]
  · simp [Heap.items_setItems_same _ hl, List.replicate_succ]

/-- a generated padding loop is the model's `padNil` -/
local macro "pad_loop" f:ident : tactic =>
  `(tactic| (intro a n; induction n with
    | zero => intro h; simp only [$f:ident, padNil_zero]
    | succ k ih => intro h; simp only [$f:ident, L_add_nil, ih, padNil_succ]))

theorem setLGen_loop1_eq : ∀ (a n : Nat) (h : Heap), setLGen_loop1 a n h = (TF.padNil h a n, .ok ()) := by
  pad_loop setLGen_loop1
theorem setLGen_loop2_eq : ∀ (a n : Nat) (h : Heap), setLGen_loop2 a n h = (TF.padNil h a n, .ok ()) := by
  pad_loop setLGen_loop2
theorem setLGen_loop3_eq : ∀ (a n : Nat) (h : Heap), setLGen_loop3 a n h = (TF.padNil h a n, .ok ()) := by
  pad_loop setLGen_loop3

end TFGen
open TFGen

/- the character at a found position: for a source that finds the separator by one search and then looks it up -/
attribute [local simp] indexOf_get indexOf_get_pos

/-- closes a case once both sides are in the same branch of the model: the two decision trees are walked in lockstep where
they test the same condition and `split` where they part (the equation `split` leaves for a discriminant resolves the same
`match` on the other side); left are equal leaves, or paths that took different arms of one test written in two ways -/
local macro "gen_case" : tactic =>
  `(tactic| (repeat' first
      | rfl
      | refine ite_congr rfl (fun _ => ?_) (fun _ => ?_)
      | (split <;> try simp only [*])) <;> first | omega | simp_all)

theorem getGen_eq_aux (fuel : Nat) :
    (∀ h a tf, getLGen fuel h a tf = TF.getL fuel h a tf) ∧
    (∀ h a tf, getOGen fuel h a tf = TF.getO fuel h a tf) := by
  induction fuel with
  | zero => exact ⟨fun _ _ _ => rfl, fun _ _ _ => rfl⟩
  | succ n ih =>
    constructor <;> intro h a tf <;>
      simp only [getLGen, TF.getL, getOGen, TF.getO, TF.parseIdx, indexAny2_eq, Char.reduceBEq, ih.1, ih.2] <;>
      generalize TF.strip _ tf = s <;> rcases s with _ | t <;> try rfl
    all_goals rcases split_cases t with hs | hs | hs <;> simp only [hs, ↓reduceIte, Bool.false_eq_true] <;> gen_case

theorem typeGen_eq_aux (fuel : Nat) :
    (∀ h a tf, typeLGen fuel h a tf = .ok (TF.typeL fuel h a tf)) ∧
    (∀ h a tf, typeOGen fuel h a tf = .ok (TF.typeO fuel h a tf)) := by
  induction fuel with
  | zero => exact ⟨fun _ _ _ => rfl, fun _ _ _ => rfl⟩
  | succ n ih =>
    refine ⟨fun h a tf => ?_, fun h a tf => ?_⟩
    · simp only [typeLGen, TF.typeL, TF.parseIdx, indexAny2_eq, Char.reduceBEq, ih.1, ih.2]
      cases TF.strip '#' tf with
      | none => rfl
      | some t =>
        rcases split_cases t with hs | hs | hs <;> simp only [hs, ↓reduceIte, Bool.false_eq_true] <;>
          generalize parseIntBase0 _ = o <;> rcases o with _ | i <;> try rfl
        all_goals
          simp only []
          generalize hg : L.getK h a _ i = g
          rcases L_getRef hg with ⟨r, -, et, rfl⟩ | ⟨et, p, rfl⟩ <;> simp [et]
    · simp only [typeOGen, TF.typeO, indexAny2_eq, Char.reduceBEq, ih.1, ih.2]
      cases TF.strip '.' tf with
      | none => rfl
      | some t =>
        rcases split_cases t with hs | hs | hs <;> simp only [hs, ↓reduceIte, Bool.false_eq_true]
        rotate_right
        · gen_case
        all_goals
          generalize hg : O.getK h a _ _ = g
          rcases O_getRef hg with ⟨r, e1, et, rfl⟩ | ⟨et, p, rfl⟩ <;> simp [O.keyExists, et, *]

theorem unsetGen_eq_aux (fuel : Nat) :
    (∀ h a tf, unsetLGen fuel h a tf = TF.unsetL fuel h a tf) ∧
    (∀ h a tf, unsetOGen fuel h a tf = TF.unsetO fuel h a tf) := by
  induction fuel with
  | zero => exact ⟨fun _ _ _ => rfl, fun _ _ _ => rfl⟩
  | succ n ih =>
    constructor <;> intro h a tf <;>
      simp only [unsetLGen, TF.unsetL, unsetOGen, TF.unsetO, O.unset, TF.parseIdx, indexAny2_eq, Char.reduceBEq, ih.1, ih.2] <;>
      generalize TF.strip _ tf = s <;> rcases s with _ | t <;> try rfl
    all_goals rcases split_cases t with hs | hs | hs <;> simp only [hs, ↓reduceIte, Bool.false_eq_true] <;> gen_case

theorem setGen_eq_aux (fuel : Nat) :
    (∀ h a tf g, setLGen fuel h a tf g = TF.setL fuel h a tf g) ∧
    (∀ h a tf g, setOGen fuel h a tf g = TF.setO fuel h a tf g) := by
  induction fuel with
  | zero => exact ⟨fun _ _ _ _ => rfl, fun _ _ _ _ => rfl⟩
  | succ n ih =>
    refine ⟨fun h a tf g => ?_, fun h a tf g => ?_⟩
    · simp only [setLGen, TF.setL, TF.parseIdx, indexAny2_eq, Char.reduceBEq, ih.1, ih.2, setLGen_loop1_eq, setLGen_loop2_eq, setLGen_loop3_eq]
      cases TF.strip '#' tf with
      | none => rfl
      | some t =>
        rcases split_cases t with hs | hs | hs <;> simp only [hs, ↓reduceIte, Bool.false_eq_true] <;>
          generalize parseIntBase0 _ = o <;> rcases o with _ | i <;> try rfl
        rotate_right
        · simp only []
          gen_case
        -- into an object or a list: the container is appended behind the padding, reused, or replaces an element
        all_goals
          simp only []
          by_cases hc : i ≥ L.count h a
          · simp only [TF.stepL, hc, ↓reduceIte, Bool.false_eq_true, O.new, O.set, O.setLoop, L.new, L.add, addEach, parseVal]
            gen_case
          · generalize hg : L.getK h a _ i = gk
            rcases L_getRef hg with ⟨r, e1, et, rfl⟩ | ⟨et, p, rfl⟩
            · simp only [TF.stepL, hc, ↓reduceIte, et, e1, beq_self_eq_true, Bool.false_eq_true]
              gen_case
            · simp only [TF.stepL, hc, ↓reduceIte, beq_iff_eq, et, Bool.false_eq_true, O.new, O.set, O.setLoop, L.new, addEach,
                L.replace, parseVal, count_append_fresh h (.inl rfl), count_append_fresh h (.inr rfl),
                items_append_fresh h (.inl rfl), items_append_fresh h (.inr rfl), decide_false, Bool.or_false,
                decide_eq_true_eq]
              by_cases h0 : i < 0 <;> simp only [h0, ↓reduceIte]
              gen_case
    · simp only [setOGen, TF.setO, indexAny2_eq, Char.reduceBEq, ih.1, ih.2]
      cases TF.strip '.' tf with
      | none => rfl
      | some t =>
        rcases split_cases t with hs | hs | hs <;> simp only [hs, ↓reduceIte, Bool.false_eq_true]
        rotate_right
        · gen_case
        all_goals
          generalize hg : O.getK h a _ _ = gk
          rcases O_getRef hg with ⟨r, e1, et, rfl⟩ | ⟨et, p, rfl⟩
          · simp only [TF.stepO, ↓reduceIte, et, e1, beq_self_eq_true, Bool.false_eq_true]
            gen_case
          · simp only [TF.stepO, ↓reduceIte, beq_iff_eq, et, Bool.false_eq_true, O.new, O.set, O.setLoop, L.new, addEach,
              parseVal, fields_append_fresh h (.inl rfl), fields_append_fresh h (.inr rfl)]
            gen_case

theorem getLGen_eq (fuel : Nat) (h : Heap) (a : Nat) (tf : Str) :
    getLGen fuel h a tf = TF.getL fuel h a tf := (getGen_eq_aux fuel).1 h a tf
theorem getOGen_eq (fuel : Nat) (h : Heap) (a : Nat) (tf : Str) :
    getOGen fuel h a tf = TF.getO fuel h a tf := (getGen_eq_aux fuel).2 h a tf
/-- the translated `TypeOfTF` never panics and returns the model's value -/
theorem typeLGen_eq (fuel : Nat) (h : Heap) (a : Nat) (tf : Str) :
    typeLGen fuel h a tf = .ok (TF.typeL fuel h a tf) := (typeGen_eq_aux fuel).1 h a tf
theorem typeOGen_eq (fuel : Nat) (h : Heap) (a : Nat) (tf : Str) :
    typeOGen fuel h a tf = .ok (TF.typeO fuel h a tf) := (typeGen_eq_aux fuel).2 h a tf
theorem setLGen_eq (fuel : Nat) (h : Heap) (a : Nat) (tf : Str) (g : GoVal) :
    setLGen fuel h a tf g = TF.setL fuel h a tf g := (setGen_eq_aux fuel).1 h a tf g
theorem setOGen_eq (fuel : Nat) (h : Heap) (a : Nat) (tf : Str) (g : GoVal) :
    setOGen fuel h a tf g = TF.setO fuel h a tf g := (setGen_eq_aux fuel).2 h a tf g
theorem unsetLGen_eq (fuel : Nat) (h : Heap) (a : Nat) (tf : Str) :
    unsetLGen fuel h a tf = TF.unsetL fuel h a tf := (unsetGen_eq_aux fuel).1 h a tf
theorem unsetOGen_eq (fuel : Nat) (h : Heap) (a : Nat) (tf : Str) :
    unsetOGen fuel h a tf = TF.unsetO fuel h a tf := (unsetGen_eq_aux fuel).2 h a tf

theorem serNilGen_eq : serNilGen = ser .null := by simp only [serNilGen, ser]
theorem serBoolGen_eq (b : Bool) : serBoolGen b = ser (.bool b) := by cases b <;> simp [serBoolGen, ser]
theorem serIntGen_eq (i : Int) : serIntGen i = ser (.int i) := by simp [serIntGen, ser]
theorem serStringGen_eq (s : Str) : serStringGen s = ser (.str s) := by simp [serStringGen, ser]

theorem serFGen_eq (f : F64) : serFGen f = serF f := by
  unfold serFGen serF goAbsGePow10 goAbsLeNegPow10 goAbsPos goEqTrunc
  cases f.isNaN <;> cases f.isInf <;> simp <;> (try (split_ifs <;> simp_all))

/-- the separator a loop writes between two elements: either behind every element but the last (the test
"there is a next element") or in front of every element but the first (the test "the index is positive") -/
def sepBefore (S : Str) (i : Nat) (isNil : Bool) : Str := if 0 < i ∧ isNil = false then S else []

/-- a generated loop over the elements satisfies the invariant stated in the goal: induction over the
elements, the recursive call by the induction hypothesis, the element by `hx` -/
local macro "ser_loop" f:ident g:ident : tactic =>
  `(tactic| (intro xs; induction xs with
    | nil => intro _ i acc; simp [$f:ident, $g:ident, sepBefore]
    | cons x rest ih =>
      intro hx i acc
      have hx0 := hx x (List.mem_cons_self ..)
      have ih' := ih (fun y hy => hx y (List.mem_cons_of_mem _ hy))
      simp only [$f:ident, ih', hx0]
      cases rest <;> cases i <;> simp [$g:ident, sepBefore]))

/-- the generated loop over the elements of a list is `serList`.  Two invariants are tried: nothing is
owed when an iteration starts (`S = []`), or the separator is (`S = [',']`). -/
theorem serGen_loop1_sound (xs : List JVal) (hx : ∀ x ∈ xs, serGen x = ser x) (acc : Str) :
    serGen_loop1 xs 0 acc = acc ++ serList xs := by
  have key : ∃ S : Str, ∀ (xs : List JVal), (∀ x ∈ xs, serGen x = ser x) → ∀ (i : Nat) (acc : Str),
      serGen_loop1 xs i acc = acc ++ sepBefore S i xs.isEmpty ++ serList xs := by
    first
    | refine ⟨[], ?_⟩; ser_loop serGen_loop1 serList
    | refine ⟨[','], ?_⟩; ser_loop serGen_loop1 serList
  obtain ⟨S, key⟩ := key
  simpa [sepBefore] using key xs hx 0 acc

theorem serGen_loop2_sound (kvs : List (Str × JVal)) (hx : ∀ p ∈ kvs, serGen p.2 = ser p.2) (acc : Str) :
    serGen_loop2 kvs 0 acc = acc ++ serFields kvs := by
  have key : ∃ S : Str, ∀ (kvs : List (Str × JVal)), (∀ p ∈ kvs, serGen p.2 = ser p.2) → ∀ (i : Nat) (acc : Str),
      serGen_loop2 kvs i acc = acc ++ sepBefore S i kvs.isEmpty ++ serFields kvs := by
    first
    | refine ⟨[], ?_⟩; ser_loop serGen_loop2 serFields
    | refine ⟨[','], ?_⟩; ser_loop serGen_loop2 serFields
  obtain ⟨S, key⟩ := key
  simpa [sepBefore] using key kvs hx 0 acc

mutual
theorem serGen_eq : ∀ v : JVal, serGen v = ser v
  | .null => by simp only [serGen, serNilGen_eq]
  | .bool b => by simp only [serGen, serBoolGen_eq]
  | .int i => by simp only [serGen, serIntGen_eq]
  | .float f => by simp only [serGen, serFGen_eq, ser]
  | .str s => by simp only [serGen, serStringGen_eq]
  | .list xs => by simp [serGen, ser, serGen_loop1_sound xs (serGen_all xs)]
  | .obj kvs => by simp [serGen, ser, serGen_loop2_sound kvs (serGen_allF kvs)]
theorem serGen_all : ∀ (xs : List JVal), ∀ x ∈ xs, serGen x = ser x
  | [], _, h => by cases h
  | y :: rest, x, h => by
    cases List.mem_cons.1 h with
    | inl e => rw [e]; exact serGen_eq y
    | inr h' => exact serGen_all rest x h'
theorem serGen_allF : ∀ (kvs : List (Str × JVal)), ∀ p ∈ kvs, serGen p.2 = ser p.2
  | [], _, h => by cases h
  | (k, y) :: rest, p, h => by
    cases List.mem_cons.1 h with
    | inl e => rw [e]; exact serGen_eq y
    | inr h' => exact serGen_allF rest p h'
end

theorem serGen_loop1_eq (xs : List JVal) (acc : Str) : serGen_loop1 xs 0 acc = acc ++ serList xs :=
  serGen_loop1_sound xs (fun x _ => serGen_eq x) acc
theorem serGen_loop2_eq (kvs : List (Str × JVal)) (acc : Str) : serGen_loop2 kvs 0 acc = acc ++ serFields kvs :=
  serGen_loop2_sound kvs (fun p _ => serGen_eq p.2) acc

theorem formatStringLGen_eq (indent : Int) (xs : List JVal) :
    formatStringLGen indent xs = formatString indent (.list xs) := by
  simp only [formatStringLGen, formatString, serGen_eq]
theorem formatStringOGen_eq (indent : Int) (kvs : List (Str × JVal)) :
    formatStringOGen indent kvs = formatString indent (.obj kvs) := by
  simp only [formatStringOGen, formatString, serGen_eq]

/-! ### unquoteJSON: the table of single-character escapes

Here only the `switch` behind a backslash, as a table.  The model's step on `\\ e …` is the dispatch through that table;
the whole function, with the `\u` case (hex4, surrogates) and the byte-indexed loop, is translated in `Generated/StrGen.lean`
and proved in `StrGenEq`, so for `.unicode` the statement is the identity. -/

theorem unquoteAux_backslash (fuel : Nat) (e : Char) (t acc : Str) :
    unquoteAux (fuel + 1) ('\\' :: e :: t) acc =
      (match unescGen e with
       | .write c => unquoteAux fuel t (acc ++ [c])
       | .fail => none
       | .unicode => unquoteAux (fuel + 1) ('\\' :: 'u' :: t) acc) := by
  by_cases hu : e = 'u'
  · subst hu; rfl
  · have hu' : (e == 'u') = false := by simpa using hu
    rw [unquoteAux, unescGen]
    simp only [bne_self_eq_false, hu', Bool.false_eq_true, ↓reduceIte]
    -- both sides are now the same cascade of tests on `e`: go down them together
    cases (e == '"' || e == '\\' || e == '/'); rotate_left; · rfl
    cases (e == 'b'); rotate_left; · rfl
    cases (e == 'f'); rotate_left; · rfl
    cases (e == 'n'); rotate_left; · rfl
    cases (e == 'r'); rotate_left; · rfl
    cases (e == 't') <;> rfl

end Anytype

#print axioms Anytype.getLGen_eq
#print axioms Anytype.getOGen_eq
#print axioms Anytype.typeLGen_eq
#print axioms Anytype.typeOGen_eq
#print axioms Anytype.setLGen_eq
#print axioms Anytype.setOGen_eq
#print axioms Anytype.unsetLGen_eq
#print axioms Anytype.unsetOGen_eq
#print axioms Anytype.serNilGen_eq
#print axioms Anytype.serBoolGen_eq
#print axioms Anytype.serIntGen_eq
#print axioms Anytype.serFGen_eq
#print axioms Anytype.serStringGen_eq
#print axioms Anytype.serGen_eq
#print axioms Anytype.serGen_loop1_eq
#print axioms Anytype.serGen_loop2_eq
#print axioms Anytype.formatStringLGen_eq
#print axioms Anytype.formatStringOGen_eq
#print axioms Anytype.unquoteAux_backslash
