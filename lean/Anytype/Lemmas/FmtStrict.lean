/-
The `strict` field of `FmtContract` (hence the whole contract, `Lemmas/ContractOne.lean`) from one
fact about the digit generator, `LoopOK`: the search loop of `F64.shortest` finds a candidate
(`Lemmas/Seventeen.lean` proves it). The file is core only (why that matters: see `DecBetween`); it
also holds what one precision attempt returns (`tryPrec_some`, `tryPrec_digits`) and what `decExp`
is (`decExp_spec`), for Seventeen too.

The candidate `c·10^k` rounds back to `|x|`, so `shortest x` is a digit list whose value rounds to
`|x|` (`shortest_digits`), and the reader of `Lemmas/FmtText.lean` returns `x` on each of the three
texts of `serF`. In the 'f' branch (`|x| < 10^6`) a whole `x` makes the loop stop at a precision
without fractional digit (`whole_prec`: the exact value is a candidate there), and `serF` appends
".0"; a non-whole `x` has a fractional digit, otherwise it would be the rounding of an integer
`< 10^7`; below 1 no value is whole.
-/
import Anytype.Lemmas.FmtText
namespace Anytype
open F64

/-- the digit generator finds a candidate among the precisions 1 … 17 (`shortestLoop_succeeds`) -/
def LoopOK : Prop := ∀ x : F64, x.isFinite = true → x.isZero = false →
    ∃ c p, 1 ≤ p ∧ p ≤ 17 ∧
      F64.shortestLoop x.abs.bits (F64.absRat x).1 (F64.absRat x).2
        (F64.decExp (F64.absRat x).1 (F64.absRat x).2) 17 1 = some (c, p) ∧
      F64.tryPrec x.abs.bits (F64.absRat x).1 (F64.absRat x).2
        (F64.decExp (F64.absRat x).1 (F64.absRat x).2) p = some c

namespace FmtS
open FmtT FmtR Strict

/-! ### one precision attempt

`k = E − (p−1)` is the decimal exponent of the last digit; `10^k` is written as the pair
`10^k.toNat / 10^(-k).toNat`, one of which is `1`. -/

/-- does the candidate `c · 10^k` round back to `target`? -/
def back (target : UInt64) (k : Int) (c : Nat) : Bool :=
  roundPos (c * 10 ^ k.toNat) (10 ^ (-k).toNat) == some target

/-- the choice between the neighbours `lo`, `lo + 1` of `a / b` (with `r = a % b`), given which of
them round back -/
def pick (lo r b : Nat) (okLo okHi : Bool) : Option Nat :=
  if r = 0 then (if okLo then some lo else none)
  else
    if okLo && okHi then
      (if 2 * r < b then some lo else if 2 * r > b then some (lo + 1)
        else (if lo % 2 = 0 then some lo else some (lo + 1)))
    else if okLo then some lo
    else if okHi then some (lo + 1)
    else none

theorem pick_some {lo r b : Nat} {okLo okHi : Bool} {c : Nat} (h : pick lo r b okLo okHi = some c) :
    (c = lo ∧ okLo = true) ∨ (c = lo + 1 ∧ okHi = true) := by
  have L : some lo = some c → (c = lo ∧ true = true) ∨ (c = lo + 1 ∧ okHi = true) :=
    fun h => Or.inl ⟨(Option.some.inj h).symm, rfl⟩
  have H : some (lo + 1) = some c → (c = lo ∧ okLo = true) ∨ (c = lo + 1 ∧ true = true) :=
    fun h => Or.inr ⟨(Option.some.inj h).symm, rfl⟩
  by_cases hr : r = 0
  · cases okLo <;> simp only [pick, hr, ↓reduceIte, Bool.false_eq_true, reduceCtorEq] at h
    exact L h
  · cases okLo <;> cases okHi <;>
      simp only [pick, hr, ↓reduceIte, Bool.and_true, Bool.and_false, Bool.false_eq_true,
        reduceCtorEq] at h
    · exact H h
    · exact L h
    · by_cases h1 : 2 * r < b
      · rw [if_pos h1] at h; exact L h
      · rw [if_neg h1] at h
        by_cases h2 : 2 * r > b
        · rw [if_pos h2] at h; exact H h
        · rw [if_neg h2] at h
          by_cases h3 : lo % 2 = 0
          · rw [if_pos h3] at h; exact L h
          · rw [if_neg h3] at h; exact H h

theorem pick_isSome {lo r b : Nat} {okLo okHi : Bool} (h : okLo = true ∨ (r ≠ 0 ∧ okHi = true)) :
    (pick lo r b okLo okHi).isSome = true := by
  unfold pick
  by_cases hr : r = 0
  · rw [if_pos hr]
    rcases h with rfl | ⟨h, _⟩
    · rfl
    · exact absurd hr h
  · rw [if_neg hr]
    cases okLo <;> cases okHi
    · simp at h
    · rfl
    · rfl
    · simp only [Bool.and_self, if_true, apply_ite Option.isSome, Option.isSome_some, ite_self]

/-- `tryPrec` without the case split on the sign of `k` -/
def tryPrecU (target : UInt64) (n d : Nat) (k : Int) : Option Nat :=
  let a := n * 10 ^ (-k).toNat
  let b := d * 10 ^ k.toNat
  pick (a / b) (a % b) b (back target k (a / b)) (back target k (a / b + 1))

theorem tryPrec_eq (target : UInt64) (n d : Nat) (E : Int) (p : Nat) :
    tryPrec target n d E p = tryPrecU target n d (E - ((p : Int) - 1)) := by
  unfold tryPrec tryPrecU pick back
  generalize E - ((p : Int) - 1) = k
  by_cases hk : k ≥ 0
  · have h0 : (-k).toNat = 0 := by omega
    simp only [hk, if_true, h0, Nat.pow_zero, Nat.mul_one]
  · have h0 : k.toNat = 0 := by omega
    simp only [hk, if_false, h0, Nat.pow_zero, Nat.mul_one]

theorem tryPrec_some (t : UInt64) (n d : Nat) (E : Int) (p c : Nat) (h : tryPrec t n d E p = some c) :
    let k := E - ((p : Int) - 1)
    roundPos (c * 10 ^ k.toNat) (10 ^ (-k).toNat) = some t ∧
      (c = n * 10 ^ (-k).toNat / (d * 10 ^ k.toNat) ∨
        c = n * 10 ^ (-k).toNat / (d * 10 ^ k.toNat) + 1) := by
  rw [tryPrec_eq] at h
  intro k
  rcases pick_some h with ⟨rfl, hb⟩ | ⟨rfl, hb⟩
  · exact ⟨beq_iff_eq.1 hb, Or.inl rfl⟩
  · exact ⟨beq_iff_eq.1 hb, Or.inr rfl⟩

theorem roundPos_decRat_zero (k : Int) : roundPos (decRat 0 k).1 (decRat 0 k).2 = some 0 := by
  unfold decRat; split <;> simp [roundPos]

theorem abs_bits_ne_zero (x : F64) (hz : x.isZero = false) : x.abs.bits ≠ 0 := by
  intro h
  have := (isZero_iff x).2 (by rw [h]; rfl)
  rw [hz] at this; cases this

/-- the first successful precision is returned -/
theorem shortestLoop_min (t : UInt64) (n d : Nat) (E : Int) :
    ∀ (fuel p p0 c0 : Nat), p ≤ p0 → p0 < p + fuel → tryPrec t n d E p0 = some c0 →
      ∃ c p', shortestLoop t n d E fuel p = some (c, p') ∧ p ≤ p' ∧ p' ≤ p0 ∧
        tryPrec t n d E p' = some c
  | 0, p, p0, c0, h1, h2, _ => by omega
  | fuel + 1, p, p0, c0, h1, h2, h => by
    simp only [shortestLoop]
    cases ht : tryPrec t n d E p with
    | some c => exact ⟨c, p, rfl, Nat.le_refl _, h1, ht⟩
    | none =>
      have hne : p ≠ p0 := by
        intro e; subst e; rw [ht] at h; cases h
      obtain ⟨c, p', a1, a2, a3, a4⟩ :=
        shortestLoop_min t n d E fuel (p + 1) p0 c0 (by omega) (by omega) h
      exact ⟨c, p', a1, by omega, a3, a4⟩

/-- strip trailing zeros, as `shortest` does -/
def rstrip (ds : List Nat) : List Nat := (ds.reverse.dropWhile (· == 0)).reverse

theorem rstrip_spec (ds : List Nat) : ∃ z, ds = rstrip ds ++ List.replicate z 0 := by
  refine ⟨(ds.reverse.takeWhile (· == 0)).length, ?_⟩
  have h2 : ds.reverse.takeWhile (· == 0) = List.replicate (ds.reverse.takeWhile (· == 0)).length 0 :=
    List.eq_replicate_iff.2 ⟨rfl, fun b hb => by
      simpa using List.all_eq_true.1 (List.all_takeWhile (l := ds.reverse) (p := (· == 0))) b hb⟩
  have := congrArg List.reverse (List.takeWhile_append_dropWhile (p := (· == 0)) (l := ds.reverse))
  rw [List.reverse_append, List.reverse_reverse, h2, List.reverse_replicate] at this
  exact this.symm

theorem natDigits_spec (c : Nat) (hc : 0 < c) :
    ∃ h t, natDigits c = h :: t ∧ h ≠ 0 ∧ (∀ d ∈ h :: t, d < 10) ∧ dvalN (h :: t) 0 = c := by
  obtain ⟨ch, ct, e, hne, h1, h2⟩ := toDigits_head c hc
  have hall : ∀ d ∈ natDigits c, d < 10 := by
    intro d hd
    unfold natDigits at hd
    obtain ⟨x, hx, rfl⟩ := List.mem_map.1 hd
    have := mem_toDigits_dig hx
    show x.toNat - 48 < 10
    omega
  have hval : dvalN (natDigits c) 0 = c := by
    have := digitsVal_toDigits c
    unfold digitsVal at this
    unfold dvalN natDigits
    rw [List.foldl_map]
    exact this
  have hcons : natDigits c = (ch.toNat - 48) :: ct.map (fun x => x.toNat - '0'.toNat) := by
    unfold natDigits; rw [e]; rfl
  refine ⟨_, _, hcons, ?_, by rw [← hcons]; exact hall, by rw [← hcons]; exact hval⟩
  intro h0
  apply hne
  rw [char_eq_iff]
  show ch.toNat = 48
  omega

/-- the digits `shortest` keeps of a candidate `c`: all but `z` trailing zeros -/
theorem digits_of_cand (c : Nat) (hc0 : 0 < c) :
    ∃ (h : Nat) (tl : List Nat) (z : Nat), rstrip (natDigits c) = h :: tl ∧ h ≠ 0 ∧ h < 10 ∧
      (∀ d ∈ tl, d < 10) ∧ dvalN (h :: tl) 0 * 10 ^ z = c ∧
      (natDigits c).length = tl.length + 1 + z := by
  obtain ⟨h, t, hnd, hh0, hall, hval⟩ := natDigits_spec c hc0
  obtain ⟨z, hz⟩ := rstrip_spec (natDigits c)
  cases hs : rstrip (natDigits c) with
  | nil =>
    rw [hs, hnd, List.nil_append] at hz
    have : h ∈ List.replicate z 0 := hz ▸ List.mem_cons_self
    exact absurd (List.mem_replicate.1 this).2 hh0
  | cons h' tl =>
    rw [hs, hnd, List.cons_append] at hz
    injection hz with hz1 hz2
    subst hz1
    refine ⟨h, tl, z, rfl, hh0, hall h List.mem_cons_self,
      fun d hd => hall d (hz2 ▸ List.mem_cons_of_mem _ (List.mem_append_left _ hd)), ?_, ?_⟩
    · rw [← hval, hz2, ← List.cons_append, dvalN_append, dvalN_zeros]
    · rw [hnd, hz2, List.length_cons, List.length_append, List.length_replicate, Nat.add_right_comm]

theorem natDigits_length_cand (c p : Nat) (hp : 1 ≤ p) (hc1 : 10 ^ (p - 1) ≤ c) (hc2 : c ≤ 10 ^ p) :
    (natDigits c).length = p ∨ (natDigits c).length = p + 1 := by
  rw [COne.natDigits_length]
  obtain ⟨q, rfl⟩ : ∃ q, p = q + 1 := ⟨p - 1, by omega⟩
  rcases Nat.lt_or_ge c (10 ^ (q + 1)) with hlt | hge
  · exact Or.inl (decLen_eq q c hc1 hlt)
  · refine Or.inr (decLen_eq (q + 1) c hge ?_)
    rw [Nat.le_antisymm hc2 hge]; exact Nat.pow_lt_pow_right (by decide) (Nat.lt_succ_self _)

/-- the decimal exponent of `|x|` -/
abbrev dexp (x : F64) : Int := decExp (absRat x).1 (absRat x).2

/-- the loop of `shortest x` stops at precision `p` with the candidate `c` -/
abbrev Stops (x : F64) (c p : Nat) : Prop :=
  shortestLoop x.abs.bits (absRat x).1 (absRat x).2 (dexp x) 17 1 = some (c, p)

theorem decExp_bounds_fin (x : F64) (hf : x.isFinite = true) (hz : x.isZero = false) :
    -360 ≤ dexp x ∧ dexp x ≤ 342 := by
  unfold dexp
  obtain ⟨_, m2, e1, e2, _⟩ := mant_exp_cases x hf hz
  -- `|x| = n / d` with `n < 2^(53+971) ≤ 10^342`, `d ≤ 2^1074 ≤ 10^358`; the exponents are kept
  -- symbolic so that nothing tries to evaluate the powers
  obtain ⟨N, hN⟩ : ∃ N, N = 342 := ⟨_, rfl⟩
  obtain ⟨D, hD⟩ : ∃ D, D = 358 := ⟨_, rfl⟩
  have h1 : (absRat x).1 < 10 ^ N := by
    rw [absRat_eq]
    calc x.mant * 2 ^ x.exp2.toNat < 2 ^ 53 * 2 ^ x.exp2.toNat :=
          Nat.mul_lt_mul_of_pos_right m2 (Nat.two_pow_pos _)
      _ = 2 ^ (53 + x.exp2.toNat) := (Nat.pow_add ..).symm
      _ ≤ 2 ^ (3 * N) := Nat.pow_le_pow_right (by decide) (by omega)
      _ ≤ 10 ^ N := SVP.pow_bound _
  have h2 : (absRat x).2 < 10 ^ (D + 1) := by
    rw [absRat_eq]
    calc 2 ^ (-x.exp2).toNat ≤ 2 ^ (3 * D) := Nat.pow_le_pow_right (by decide) (by omega)
      _ ≤ 10 ^ D := SVP.pow_bound _
      _ < 10 ^ (D + 1) := Nat.pow_lt_pow_right (by decide) (Nat.lt_succ_self _)
  have := COne.decExp_bounds _ _ N (D + 1) h1 h2 (by omega) (by omega)
  omega

theorem absGePow10_iff (x : F64) (k : Nat) :
    absGePow10 x k = true ↔ 10 ^ k * (absRat x).2 ≤ (absRat x).1 := by
  unfold absGePow10 absRat
  by_cases hp : x.exp2 ≥ 0 <;>
    simp only [hp, ↓reduceIte, decide_eq_true_eq, ge_iff_le, Nat.mul_one]

theorem decExp_neg (n d : Nat) (h : decExp n d < 0) : n < d := by
  apply Nat.lt_of_not_ge
  intro hge
  unfold decExp at h
  rw [if_pos hge] at h
  have := SVP.decLen_pos (n / d)
  omega

theorem decExp_le_of_lt (n d k : Nat) (hd : 0 < d) (h : n < 10 ^ (k + 1) * d) : decExp n d ≤ k := by
  unfold decExp
  by_cases hge : n ≥ d
  · have := SVP.decLen_le k _ ((Nat.div_lt_iff_lt_mul hd).2 h)
    rw [if_pos hge]; omega
  · rw [if_neg hge]
    exact Int.le_trans (Int.neg_nonpos_of_nonneg (Int.natCast_nonneg _)) (Int.natCast_nonneg k)

theorem decLen_spec (m : Nat) (hm : 0 < m) : ∃ k, decLen m = k + 1 ∧ 10 ^ k ≤ m ∧ m < 10 ^ (k + 1) := by
  obtain ⟨k, hk⟩ : ∃ k, decLen m = k + 1 := ⟨decLen m - 1, by have := SVP.decLen_pos m; omega⟩
  refine ⟨k, hk, Nat.le_of_not_lt fun hlt => ?_, Nat.lt_of_not_ge fun hge => ?_⟩
  · rcases k with _ | k
    · omega
    · have := SVP.decLen_le _ _ hlt; omega
  · have := decLen_ge _ _ hge; omega

/-- `decExp n d` is the decimal exponent of `n / d` -/
theorem decExp_spec (n d : Nat) (hn : 0 < n) (hd : 0 < d) :
    (∃ e : Nat, decExp n d = (e : Int) ∧ d * 10 ^ e ≤ n ∧ n < d * 10 ^ (e + 1)) ∨
    (∃ j : Nat, 0 < j ∧ decExp n d = -(j : Int) ∧ d ≤ n * 10 ^ j ∧ n * 10 ^ (j - 1) < d) := by
  unfold decExp
  by_cases hge : n ≥ d
  · obtain ⟨k, hk, s1, s2⟩ := decLen_spec (n / d) (Nat.div_pos hge hd)
    rw [if_pos hge, hk]
    refine Or.inl ⟨k, by omega, Nat.le_trans (Nat.mul_le_mul_left _ s1) (Nat.mul_div_le n d), ?_⟩
    rw [Nat.mul_comm]; exact (Nat.div_lt_iff_lt_mul hd).1 s2
  · obtain ⟨k, hk, s1, s2⟩ := decLen_spec (d / n) (Nat.div_pos (by omega) hn)
    -- `d / n` has `k + 1` digits: `n·10^k ≤ d < n·10^(k+1)`
    have t1 : n * 10 ^ k ≤ d := Nat.le_trans (Nat.mul_le_mul_left _ s1) (Nat.mul_div_le d n)
    have t2 : d < n * 10 ^ (k + 1) := by rw [Nat.mul_comm]; exact (Nat.div_lt_iff_lt_mul hn).1 s2
    rw [if_neg hge, hk]
    simp only [Nat.add_sub_cancel]
    refine Or.inr ?_
    by_cases c1 : n * 10 ^ k ≥ d
    · rw [if_pos c1]
      obtain ⟨i, rfl⟩ : ∃ i, k = i + 1 := by
        rcases k with _ | k
        · rw [Nat.pow_zero, Nat.mul_one] at c1; omega
        · exact ⟨k, rfl⟩
      have : n * 10 ^ i < n * 10 ^ (i + 1) :=
        Nat.mul_lt_mul_of_pos_left (Nat.pow_lt_pow_right (by decide) (Nat.lt_succ_self _)) hn
      exact ⟨i + 1, Nat.succ_pos _, rfl, c1, Nat.lt_of_lt_of_le this t1⟩
    · rw [if_neg c1, if_pos (Nat.le_of_lt t2)]
      exact ⟨k + 1, Nat.succ_pos _, rfl, Nat.le_of_lt t2, Nat.lt_of_not_ge c1⟩

/-- `10^E ≤ n/d < 10^(E+1)`, cross-multiplied; `10^z` is written `10^z.toNat / 10^(-z).toNat`.
`F64.Sev.DecBetween` has the same text, but under the Mathlib imports of `Lemmas/Seventeen.lean` its
`^` elaborates to `Monoid.npow`, here to `Nat.pow`: two constants, equal by unfolding. -/
def DecBetween (n d : Nat) (E : Int) : Prop :=
  d * 10 ^ E.toNat ≤ n * 10 ^ (-E).toNat ∧ n * 10 ^ (-(E + 1)).toNat < d * 10 ^ (E + 1).toNat

theorem decBetween_decExp (n d : Nat) (hn : 0 < n) (hd : 0 < d) : DecBetween n d (decExp n d) := by
  unfold DecBetween
  rcases decExp_spec n d hn hd with ⟨e, he, s1, s2⟩ | ⟨j, hj, he, s1, s2⟩
  · rw [he]
    have a1 : ((e : Int) + 1).toNat = e + 1 := rfl
    have a2 : (-((e : Int) + 1)).toNat = 0 := rfl
    simp only [Int.toNat_natCast, Int.toNat_neg_natCast, a1, a2, Nat.pow_zero, Nat.mul_one]
    exact ⟨s1, s2⟩
  · obtain ⟨i, rfl⟩ : ∃ i, j = i + 1 := ⟨j - 1, by omega⟩
    rw [he]
    have a1 : (-((i + 1 : Nat) : Int) + 1).toNat = 0 := by omega
    have a2 : (-(-((i + 1 : Nat) : Int) + 1)).toNat = i := by omega
    simp only [Int.toNat_natCast, Int.toNat_neg_natCast, Int.neg_neg, a1, a2, Nat.pow_zero, Nat.mul_one]
    exact ⟨s1, s2⟩

/-- multiplying or cancelling a power of `B` on both sides of a comparison -/
theorem pow_cross_le {B : Nat} (hB : 0 < B) {x y a b a' b' : Nat} (h : (a : Int) - b = (a' : Int) - b') :
    x * B ^ a ≤ y * B ^ b ↔ x * B ^ a' ≤ y * B ^ b' := by
  have e1 : x * B ^ a * B ^ b' = x * B ^ a' * B ^ b := by
    rw [Nat.mul_assoc, Nat.mul_assoc, ← Nat.pow_add, ← Nat.pow_add, show a + b' = a' + b by omega]
  refine (Nat.mul_le_mul_right_iff (Nat.pow_pos hB : 0 < B ^ b')).symm.trans ?_
  rw [e1, Nat.mul_right_comm y]
  exact Nat.mul_le_mul_right_iff (Nat.pow_pos hB)

theorem pow_cross_lt {B : Nat} (hB : 0 < B) {x y a b a' b' : Nat} (h : (a : Int) - b = (a' : Int) - b') :
    y * B ^ b < x * B ^ a ↔ y * B ^ b' < x * B ^ a' := by
  rw [← Nat.not_le, ← Nat.not_le, pow_cross_le hB h]

/-- with `k = E - (p-1)` the scaled value `(n/d) / 10^k` lies in `[10^(p-1), 10^p)` -/
theorem scaled10_bounds (n d : Nat) (E : Int) (p : Nat) (hp : 1 ≤ p) (k : Int)
    (hk : k = E - ((p : Int) - 1)) (hE : DecBetween n d E) :
    10 ^ (p - 1) * (d * 10 ^ k.toNat) ≤ n * 10 ^ (-k).toNat ∧
      n * 10 ^ (-k).toNat < 10 ^ p * (d * 10 ^ k.toNat) := by
  rw [Nat.mul_left_comm, Nat.mul_left_comm (10 ^ p), ← Nat.pow_add, ← Nat.pow_add]
  refine ⟨(pow_cross_le (by decide) ?_).1 hE.1, (pow_cross_lt (by decide) ?_).1 hE.2⟩ <;>
    rw [Int.toNat_sub_toNat_neg, Int.natCast_add, Int.add_sub_assoc, Int.toNat_sub_toNat_neg] <;>
    omega

theorem tryPrec_digits (t : UInt64) (n d : Nat) (E : Int) (p c : Nat) (hd : 0 < d) (hp : 1 ≤ p)
    (hE : DecBetween n d E) (h : tryPrec t n d E p = some c) :
    10 ^ (p - 1) ≤ c ∧ c ≤ 10 ^ p := by
  have hc := (tryPrec_some t n d E p c h).2
  obtain ⟨b1, b2⟩ := scaled10_bounds n d E p hp _ rfl hE
  generalize E - ((p : Int) - 1) = k at *
  have hb : 0 < d * 10 ^ k.toNat := Nat.mul_pos hd (SVP.pow10_pos _)
  rw [← Nat.le_div_iff_mul_le hb] at b1
  rw [← Nat.div_lt_iff_lt_mul hb] at b2
  omega

theorem absRat_pos (x : F64) (hf : x.isFinite = true) (hz : x.isZero = false) :
    0 < (absRat x).1 ∧ 0 < (absRat x).2 := by
  obtain ⟨m1, _⟩ := mant_exp_cases x hf hz
  rw [absRat_eq]
  exact ⟨Nat.mul_pos m1 (Nat.two_pow_pos _), Nat.two_pow_pos _⟩

theorem decExp_absRat (x : F64) (hf : x.isFinite = true) (hz : x.isZero = false) :
    DecBetween (absRat x).1 (absRat x).2 (dexp x) :=
  decBetween_decExp _ _ (absRat_pos x hf hz).1 (absRat_pos x hf hz).2

/-- a whole value is an integer: the denominator of `|x|` divides the numerator -/
theorem absRat_mod_of_whole (x : F64) (hw : x.isWhole = true) : (absRat x).1 % (absRat x).2 = 0 := by
  unfold absRat
  by_cases hp : x.exp2 ≥ 0
  · simp only [hp, ↓reduceIte, Nat.mod_one]
  · simp only [isWhole, hp, ↓reduceIte, Bool.and_eq_true, beq_iff_eq] at hw
    simp only [hp, ↓reduceIte, hw.2]

/-- a non-zero value below 1 is not whole -/
theorem not_whole_of_small (x : F64) (hf : x.isFinite = true) (hz : x.isZero = false)
    (h : dexp x < 0) : x.isWhole = false := by
  cases hw : x.isWhole
  · rfl
  · have := absRat_mod_of_whole x hw
    rw [Nat.mod_eq_of_lt (decExp_neg _ _ h)] at this
    exact absurd this (Nat.ne_of_gt (absRat_pos x hf hz).1)

/-- for the integer `N = (N·T)/T` the attempt at precision `decLen N` finds `N` itself, so the loop
stops at a precision with non-negative scale -/
theorem loop_prec_of_int (t : UInt64) (N T : Nat) (hN0 : 0 < N) (hT0 : 0 < T) (hN : decLen N ≤ 17)
    (hexact : roundPos (N * T) T = some t) (c p : Nat)
    (hloop : shortestLoop t (N * T) T (decExp (N * T) T) 17 1 = some (c, p)) :
    (p : Int) ≤ decExp (N * T) T + 1 := by
  have hdiv : N * T / T = N := Nat.mul_div_cancel _ hT0
  have hE : decExp (N * T) T = (decLen N : Int) - 1 := by
    unfold decExp; rw [if_pos (Nat.le_mul_of_pos_left T hN0), hdiv]
  have hL1 := SVP.decLen_pos N
  have htry : tryPrec t (N * T) T ((decLen N : Int) - 1) (decLen N) = some N := by
    have hb : back t 0 N = true := by
      rw [back, beq_iff_eq, ← hexact]
      exact roundPos_ratio _ _ _ _ Nat.one_pos hT0 (by simp)
    rw [tryPrec_eq, show (decLen N : Int) - 1 - (((decLen N : Nat) : Int) - 1) = 0 by omega]
    simp only [tryPrecU, Int.toNat_zero, Int.neg_zero, Nat.pow_zero, Nat.mul_one, hdiv,
      Nat.mul_mod_left, hb]
    rfl
  obtain ⟨c', p', hl, _, hle, _⟩ := shortestLoop_min t (N * T) T _ 17 1 (decLen N) N hL1 (by omega) htry
  rw [hE] at hloop ⊢
  rw [hl] at hloop
  have := (Prod.mk.inj (Option.some.inj hloop)).2
  omega

/-- for a whole value below `10^6` the loop stops at a precision with non-negative scale -/
theorem whole_prec (x : F64) (hf : x.isFinite = true) (hz : x.isZero = false)
    (hw : x.isWhole = true) (hsmall : absGePow10 x 6 = false) (c p : Nat)
    (hloop : Stops x c p) : (p : Int) ≤ dexp x + 1 := by
  unfold Stops dexp at *
  obtain ⟨hn, hT0⟩ := absRat_pos x hf hz
  have hexact := roundPos_absRat x hf hz
  have hsm : ¬ (10 ^ 6 * (absRat x).2 ≤ (absRat x).1) := by
    rw [← absGePow10_iff, hsmall]; exact Bool.false_ne_true
  have hmod := absRat_mod_of_whole x hw
  generalize (absRat x).1 = n at *
  generalize (absRat x).2 = T at *
  obtain ⟨N, rfl⟩ : ∃ N, n = N * T := ⟨n / T, by
    have := Nat.div_add_mod n T
    rw [hmod, Nat.add_zero, Nat.mul_comm] at this; exact this.symm⟩
  have hN6 : N < 10 ^ 6 := Nat.lt_of_not_ge fun hge => hsm (Nat.mul_le_mul_right _ hge)
  have hL6 : decLen N ≤ 6 := SVP.decLen_le 5 N hN6
  exact loop_prec_of_int _ N T (Nat.pos_of_mul_pos_right hn) hT0 (by omega) hexact c p hloop

theorem fmtE_eq (x : F64) (hf : x.isFinite = true) (hz : x.isZero = false) (h : Nat) (tl : List Nat)
    (E : Int) (hs : shortest x = (h :: tl, E)) :
    fmtE x = eText x.signBit h tl E := by
  obtain ⟨h1, h2⟩ := not_nan_inf x hf
  unfold fmtE eText expText
  simp only [h1, h2, hz, hs, Bool.false_eq_true, if_false, List.drop_succ_cons, List.drop_zero,
    List.append_assoc]

theorem fmtF_eq_pos (x : F64) (hf : x.isFinite = true) (hz : x.isZero = false) (ds : List Nat)
    (E : Int) (hs : shortest x = (ds, E)) (hE : E ≥ 0) :
    fmtF x = fTextPos x.signBit ds E := by
  obtain ⟨h1, h2⟩ := not_nan_inf x hf
  unfold fmtF fTextPos
  simp only [h1, h2, hz, hs, Bool.false_eq_true, if_false, hE, if_true]

theorem fmtF_eq_neg (x : F64) (hf : x.isFinite = true) (hz : x.isZero = false) (ds : List Nat)
    (E : Int) (hs : shortest x = (ds, E)) (hE : ¬ E ≥ 0) :
    fmtF x = fTextNeg x.signBit ds E := by
  obtain ⟨h1, h2⟩ := not_nan_inf x hf
  unfold fmtF fTextNeg
  simp only [h1, h2, hz, hs, Bool.false_eq_true, if_false, hE]

theorem strict_zero (x : F64) (hz : x.isZero = true) :
    Strict.number (serF x) = some (some (.float x), []) := by
  have hab : x.abs.bits.toNat = 0 := (isZero_iff x).1 hz
  have ha : x.abs = posZero := by
    cases hx : x.abs with
    | mk b =>
      rw [hx] at hab
      show F64.mk b = F64.mk 0
      congr 1
      exact UInt64.toNat_inj.1 hab
  have hx := withSign_abs x
  rw [ha] at hx
  cases hs : x.signBit
  · rw [hs] at hx
    rw [← hx]
    have e : serF (withSign false posZero) = ['0', '.', '0'] := by decide +kernel
    rw [e]; rfl
  · rw [hs] at hx
    rw [← hx]
    have e : serF (withSign true posZero) = ['-', '0', '.', '0'] := by decide +kernel
    rw [e]; rfl

/-- a candidate of `L = p` or `p + 1` digits, `t + 1` of them kept and `z` trailing zeros stripped:
the exponent `shortest` returns is `E' = E + L - p`, which is `E` or `E + 1`; at most `p + (E' - E)`
digits are kept, and the last of them has the decimal exponent `E - (p - 1) + z` -/
theorem shortest_exp {E : Int} {p L t z : Nat} (hL : L = t + 1 + z) (hlen : L = p ∨ L = p + 1) :
    (if L > p then E + 1 else E) = E + L - p ∧ E ≤ E + L - p ∧ E + L - p ≤ E + 1 ∧
      (t : Int) + 1 ≤ p + (E + L - p - E) ∧ E + L - p - t = E - ((p : Int) - 1) + z := by
  rcases hlen with hl | hl
  · rw [if_neg (by omega)]; omega
  · rw [if_pos (by omega)]; omega

/-- digits `h :: tl` that all stand before the point, with exponent `E' ≤ 6`: the value is an
integer below `10^7 < 2^53`, so what it rounds to is whole -/
theorem isWhole_of_digits (x : F64) (h : Nat) (tl : List Nat) (E' : Int) (hh0 : h ≠ 0) (hh : h < 10)
    (htl : ∀ d ∈ tl, d < 10) (hle : (tl.length : Int) ≤ E') (hE6 : E' ≤ 6)
    (hr : roundDec (dvalN (h :: tl) 0) (E' - tl.length) = some x.abs.bits) : x.isWhole = true := by
  unfold roundDec at hr
  obtain ⟨j, hj⟩ : ∃ j : Nat, E' - (tl.length : Int) = j := ⟨(E' - tl.length).toNat, by omega⟩
  rw [hj, decRat_eq, Int.toNat_natCast, show (-(j : Int)).toNat = 0 by omega, Nat.pow_zero] at hr
  have hb := dvalN_bounds h tl hh0 hh htl
  have hlt : dvalN (h :: tl) 0 * 10 ^ j < 10 ^ 7 :=
    calc dvalN (h :: tl) 0 * 10 ^ j < 10 ^ (tl.length + 1) * 10 ^ j :=
          Nat.mul_lt_mul_of_pos_right hb.2 (SVP.pow10_pos _)
      _ = 10 ^ (tl.length + 1 + j) := (Nat.pow_add ..).symm
      _ ≤ 10 ^ 7 := Nat.pow_le_pow_right (by decide) (by omega)
  exact isWhole_of_roundPos_int x _
    (Nat.ne_of_gt (Nat.mul_pos (Nat.lt_of_lt_of_le (SVP.pow10_pos _) hb.1) (SVP.pow10_pos _)))
    (Nat.lt_trans hlt (by decide)) hr

/-- what `shortest` returns for the pair `(c, p)` the loop stops at: digits `h :: tl` with `h ≠ 0`
and their exponent `E'` (`decExp` or one more, when `c = 10^p`), at most `p + (E' - decExp)` of them,
and the value `h.tl · 10^E'` rounds to `|x|` -/
theorem shortest_digits (x : F64) (hf : x.isFinite = true) (hz : x.isZero = false) (c p : Nat)
    (hloop : Stops x c p) :
    ∃ (h : Nat) (tl : List Nat) (E' : Int), shortest x = (h :: tl, E') ∧ h ≠ 0 ∧ h < 10 ∧
      (∀ d ∈ tl, d < 10) ∧ dexp x ≤ E' ∧ E' ≤ dexp x + 1 ∧
      (tl.length : Int) + 1 ≤ p + (E' - dexp x) ∧
      roundDec (dvalN (h :: tl) 0) (E' - tl.length) = some x.abs.bits := by
  unfold Stops dexp at *
  obtain ⟨hp1, _, htry⟩ := COne.shortestLoop_some _ _ _ _ _ _ _ _ hloop
  obtain ⟨hc1, hc2⟩ := tryPrec_digits _ _ _ _ p c (absRat_pos x hf hz).2 hp1 (decExp_absRat x hf hz) htry
  have hback := (tryPrec_some _ _ _ _ _ _ htry).1
  obtain ⟨h, tl, z, hds, hh0, hh, htl, hval, hlenEq⟩ :=
    digits_of_cand c (Nat.lt_of_lt_of_le (SVP.pow10_pos _) hc1)
  have hlen := natDigits_length_cand c p hp1 hc1 hc2
  generalize hE : decExp (absRat x).1 (absRat x).2 = E at *
  obtain ⟨hE', e1, e2, e3, e4⟩ := shortest_exp (E := E) hlenEq hlen
  refine ⟨h, tl, E + (natDigits c).length - p, ?_, hh0, hh, htl, e1, e2, e3, ?_⟩
  · unfold shortest
    simp only [hloop, hE, hE']
    rw [← hds]; rfl
  · rw [e4, roundPos_decRat_shift _ z c _ hval, roundDec, decRat_eq]; exact hback

theorem strict_nonzero (x : F64) (hf : x.isFinite = true) (hz : x.isZero = false) (c p : Nat)
    (hloop : Stops x c p) : Strict.number (serF x) = some (some (.float x), []) := by
  obtain ⟨h, tl, E', hsh, hh0, hh, htl, hE1, hE2, hlen, hr⟩ := shortest_digits x hf hz c p hloop
  obtain ⟨hEb1, hEb2⟩ := decExp_bounds_fin x hf hz
  have b1 : -399 ≤ E' := by omega
  have b2 : E' ≤ 398 := by omega
  have hres : withSign x.signBit ⟨x.abs.bits⟩ = x := withSign_abs x
  obtain ⟨hnan, hinf⟩ := not_nan_inf x hf
  unfold serF
  simp only [hnan, hinf, Bool.false_eq_true, if_false]
  by_cases hcond : (absGePow10 x 6 || (!x.isZero && absLeNegPow10 x 6)) = true
  · -- 'e' form
    rw [if_pos hcond, fmtE_eq x hf hz h tl E' hsh,
      eForm x.signBit h tl E' hh0 hh htl b1 b2 x.abs.bits hr, hres]
  · rw [if_neg hcond]
    simp only [hz, Bool.not_false, Bool.true_and, Bool.or_eq_true, not_or, Bool.not_eq_true] at hcond
    have hsmall := hcond.1
    by_cases hE0 : E' ≥ 0
    · rw [fmtF_eq_pos x hf hz _ E' hsh hE0]
      have hE5 : dexp x ≤ 5 := by
        apply decExp_le_of_lt _ _ 5 (absRat_pos x hf hz).2
        apply Nat.lt_of_not_ge
        intro hge
        rw [(absGePow10_iff x 6).2 hge] at hsmall; cases hsmall
      by_cases hw : x.isWhole = true
      · simp only [hw, if_true]
        have hp := whole_prec x hf hz hw hsmall c p hloop
        rw [fFormWhole x.signBit h tl E' hh0 hh htl hE0 b2
          (by simp only [List.length_cons]; omega) x.abs.bits hr, hres]
      · simp only [hw, Bool.false_eq_true, if_false]
        have hlong : E'.toNat + 1 < (h :: tl).length :=
          Nat.lt_of_not_ge fun hle => by
            simp only [List.length_cons] at hle
            exact hw (isWhole_of_digits x h tl E' hh0 hh htl (by omega) (by omega) hr)
        rw [fFormFrac x.signBit h tl E' hh0 hh htl hE0 b2 hlong x.abs.bits hr, hres]
    · rw [fmtF_eq_neg x hf hz _ E' hsh hE0]
      have hnw : x.isWhole = false := not_whole_of_small x hf hz (by omega)
      simp only [hnw, Bool.false_eq_true, if_false]
      rw [fFormSmall x.signBit h tl E' hh0 hh htl (Int.lt_of_not_ge hE0) b1 x.abs.bits hr, hres]

end FmtS

/-- the `strict` field of the float-formatting contract, from the success of the digit search -/
theorem strict_of_loopOK (h : LoopOK) :
    ∀ x : F64, x.isFinite = true → Strict.number (serF x) = some (some (.float x), []) := by
  intro x hf
  cases hz : x.isZero
  · obtain ⟨c, p, _, _, hloop, _⟩ := h x hf hz
    exact FmtS.strict_nonzero x hf hz c p hloop
  · exact FmtS.strict_zero x hz

/-- the whole contract (`parse_back` follows from `strict`, `Lemmas/ContractOne.lean`) -/
theorem fmtContract_of_loopOK (h : LoopOK) : FmtContract :=
  FmtContract.of_strict (strict_of_loopOK h)

/-! ### non-vacuity

`LoopOK` is proved downstream, in `Lemmas/Seventeen.lean`; here its body is checked by evaluation at
sample points: 1.0, 0.1, 1e21, 1e-7, 123456.789,
999999.9999999999, 2^53, the largest finite value, the smallest subnormal, the smallest normal, -123456.789. -/

/-- executable form of the body of `LoopOK` at one float -/
def loopOKAt (x : F64) : Bool :=
  match F64.shortestLoop x.abs.bits (F64.absRat x).1 (F64.absRat x).2
      (F64.decExp (F64.absRat x).1 (F64.absRat x).2) 17 1 with
  | some (c, p) => decide (1 ≤ p) && decide (p ≤ 17) &&
      F64.tryPrec x.abs.bits (F64.absRat x).1 (F64.absRat x).2
        (F64.decExp (F64.absRat x).1 (F64.absRat x).2) p == some c
  | none => false

example : ([F64.one, ⟨0x3FB999999999999A⟩, ⟨0x444B1AE4D6E2EF50⟩, ⟨0x3E7AD7F29ABCAF48⟩,
    ⟨0x40FE240C9FBE76C9⟩, ⟨0x412E847FFFFFFFFF⟩, ⟨0x4340000000000000⟩, F64.maxFinite, ⟨1⟩,
    ⟨0x0010000000000000⟩, ⟨0xC0FE240C9FBE76C9⟩] : List F64).all loopOKAt = true := by
  decide +kernel

end Anytype

#print axioms Anytype.strict_of_loopOK
#print axioms Anytype.fmtContract_of_loopOK
