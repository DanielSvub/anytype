/-
Line numbers cited by syntax errors: the error is detected at a well-formed character `e` at some
position `pos`, everything before it is well-formed, and the cited line is the initial line counter
plus the number of newline characters before `pos`.
-/
import Anytype.Lemmas.ParserPrefix
namespace Anytype

/-- an error of kind `k` citing line `L`, for a machine started on `items` with line counter `line` -/
def DetectedAt (items : List Item) (line : Nat) (k : PErrKind) (L : Nat) : Prop :=
  ∃ (pos : Nat) (e : Char), items[pos]? = some (some e) ∧ (∀ it ∈ items.take pos, it ≠ none) ∧
    L = line + nlCount (items.take pos) ∧ ErrAt k e

theorem DetectedAt.cons {t : List Item} {ch : Char} {line k L}
    (h : DetectedAt t (bumpLine ch line) k L) : DetectedAt (some ch :: t) line k L := by
  obtain ⟨pos, e, h1, h2, h3, h4⟩ := h
  refine ⟨pos + 1, e, by rw [List.getElem?_cons_succ]; exact h1, ?_, ?_, h4⟩
  · intro it hit
    rw [List.take_succ_cons] at hit
    rcases List.mem_cons.1 hit with rfl | hit
    · exact Option.some_ne_none _
    · exact h2 it hit
  · rw [List.take_succ_cons, h3]; exact nlCount_cons_some ch _ line

theorem DetectedAt.append {c r : List Item} {line k L} (hc : ∀ it ∈ c, it ≠ none)
    (h : DetectedAt r (line + nlCount c) k L) : DetectedAt (c ++ r) line k L := by
  induction c generalizing line with
  | nil => exact h
  | cons it c ih =>
    cases it with
    | none => exact absurd rfl (hc none List.mem_cons_self)
    | some ch =>
      rw [← nlCount_cons_some] at h
      exact (ih (fun i hi => hc i (List.mem_cons_of_mem _ hi)) h).cons

theorem nlCount_take_succ {items : List Item} {pos : Nat} {e : Char}
    (h : items[pos]? = some (some e)) (he : e ≠ '\n') :
    nlCount (items.take (pos + 1)) = nlCount (items.take pos) := by
  rw [List.take_add_one, nlCount_append, h]
  exact congrArg _ (List.count_cons_of_ne fun h => he (Option.some.inj h))

/- the cases of `exec` are listed at `exec_ok_run` -/
theorem exec_err_line (f : Nat) {items σ line} : ∀ {k L},
    exec f items σ line = .err ⟨k, some L⟩ → DetectedAt items line k L := by
  fun_induction exec f items σ line with
  | case1 | case2 | case3 | case5 => nofun
  | case4 _ _ _ _ _ _ _ ih => exact fun h => (ih h).cons
  | case6 _ ch _ _ line _ hs =>
    intro k L h
    cases h
    obtain ⟨h1, h2⟩ := step_fail hs
    refine ⟨0, ch, rfl, fun _ h => absurd h List.not_mem_nil, ?_, h2⟩
    rw [Option.some.inj h1, bumpLine_of_ne h2.1]; rfl
  | case7 _ _ _ _ _ _ _ _ _ hi ih => intro k L h; cases h; exact (ih hi).cons
  | case8 _ _ _ _ _ _ _ _ _ _ _ hi _ ih₂ =>
    intro k L h
    obtain ⟨c₁, rfl, hc₁⟩ := exec_ok_run _ hi
    have hd := ih₂ h
    rw [hc₁.line_eq] at hd
    exact (hd.append hc₁.all_some).cons

theorem exec_err_noline (f : Nat) {items σ line} : ∀ {k},
    exec f items σ line = .err ⟨k, none⟩ → k = .notUtf8 ∨ k = .unexpectedEnd ∨ k = .fuel := by
  fun_induction exec f items σ line with
  | case1 => intro k h; cases h; exact .inr (.inr rfl)
  | case2 => intro k h; cases h; exact .inr (.inl rfl)
  | case3 => intro k h; cases h; exact .inl rfl
  | case4 _ _ _ _ _ _ _ ih => exact ih
  | case5 => nofun
  | case6 _ _ _ _ _ _ hs => intro k h; cases h; exact nomatch (step_fail hs).1
  | case7 _ _ _ _ _ _ _ _ _ hi ih => intro k h; cases h; exact ih hi
  | case8 _ _ _ _ _ _ _ _ _ _ _ _ _ ih₂ => exact ih₂

end Anytype
