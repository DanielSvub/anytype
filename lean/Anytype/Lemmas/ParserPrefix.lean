/-
The region a parser machine consumes.

An ok result of `exec` gives a `Run` over a prefix of the input (`exec_ok_run`, `Lemmas/ParserFuel`);
a `Run` is made of well-formed characters only, counts the newlines, can be replayed in front of
any tail (locality) and none of its proper prefixes — alone or followed by an ill-formed item — is
accepted.
-/
import Anytype.Lemmas.ParserFuel
namespace Anytype

def nlCount (c : List Item) : Nat := c.count (some '\n')

theorem nlCount_nil : nlCount [] = 0 := rfl

theorem nlCount_cons_some (ch : Char) (c : List Item) (line : Nat) :
    bumpLine ch line + nlCount c = line + nlCount (some ch :: c) := by
  by_cases h : ch = '\n'
  · subst h; rw [nlCount, nlCount, List.count_cons_self]; exact Nat.add_right_comm line 1 _
  · rw [bumpLine_of_ne h, nlCount, nlCount, List.count_cons_of_ne fun e => h (Option.some.inj e)]

theorem nlCount_append (a b : List Item) : nlCount (a ++ b) = nlCount a + nlCount b := by
  simp only [nlCount, List.count_append]

theorem Run.all_some {σ line c v l'} (h : Run σ line c v l') : ∀ it ∈ c, it ≠ none := by
  induction h with
  | ret _ => intro it hit; simp only [List.mem_singleton] at hit; subst hit; exact Option.some_ne_none _
  | goto _ _ ih =>
    intro it hit
    rcases List.mem_cons.1 hit with rfl | hit
    · exact Option.some_ne_none _
    · exact ih it hit
  | call _ _ _ ih₁ ih₂ =>
    intro it hit
    rcases List.mem_cons.1 hit with rfl | hit
    · exact Option.some_ne_none _
    · rcases List.mem_append.1 hit with hit | hit
      · exact ih₁ it hit
      · exact ih₂ it hit

theorem Run.line_eq {σ line c v l'} (h : Run σ line c v l') : l' = line + nlCount c := by
  induction h with
  | @ret σ ch line v _ => have := nlCount_cons_some ch [] line; simp only [nlCount_nil] at this; omega
  | @goto σ ch line σ' c v line' _ _ ih => rw [ih]; exact nlCount_cons_some ch c line
  | @call σ ch line σc k c₁ o l₁ c₂ v line' _ _ _ ih₁ ih₂ =>
    rw [ih₂, ih₁, ← nlCount_cons_some ch (c₁ ++ c₂) line, nlCount_append]; omega

/-- locality: a run can be replayed in front of any tail, with any fuel exceeding its length -/
theorem Run.replay {σ line c v l'} (h : Run σ line c v l') :
    ∀ (t : List Item) (f : Nat), c.length < f → exec f (c ++ t) σ line = .ok v t l' := by
  induction h with
  | ret hs =>
    intro t f hf
    obtain ⟨f', rfl⟩ := Nat.exists_eq_add_one_of_ne_zero (Nat.ne_zero_of_lt hf)
    exact exec_ret hs f' t
  | goto hs _ ih =>
    intro t f hf
    obtain ⟨f', rfl⟩ := Nat.exists_eq_add_one_of_ne_zero (Nat.ne_zero_of_lt hf)
    rw [List.cons_append, exec_goto hs]
    exact ih t f' (Nat.lt_of_succ_lt_succ hf)
  | @call _ _ _ _ _ c₁ _ _ c₂ _ _ hs _ _ ih₁ ih₂ =>
    intro t f hf
    obtain ⟨f', rfl⟩ := Nat.exists_eq_add_one_of_ne_zero (Nat.ne_zero_of_lt hf)
    have hf' : c₁.length + c₂.length < f' := List.length_append ▸ Nat.lt_of_succ_lt_succ hf
    rw [List.cons_append, exec_call hs, List.append_assoc, ih₁ _ f' (by omega)]
    exact ih₂ t f' (by omega)

/-- what is read from a configuration is determined by the input: of two runs from the same
configuration none is a proper prefix of the other (replay both on the longer one) -/
theorem Run.eq_of_prefix {σ line c₁ c₂ v₁ v₂ l₁ l₂} (h₁ : Run σ line c₁ v₁ l₁)
    (h₂ : Run σ line c₂ v₂ l₂) (hp : c₁ <+: c₂) : c₁ = c₂ := by
  obtain ⟨t, rfl⟩ := hp
  have e₁ := h₁.replay t _ (Nat.lt_succ_self (c₁ ++ t).length |> Nat.lt_of_le_of_lt (by simp))
  have e₂ := h₂.replay [] _ (Nat.lt_succ_self _)
  rw [List.append_nil, e₁] at e₂
  injection e₂ with _ ht _
  rw [ht, List.append_nil]

/-- no proper prefix of a run, alone or followed by an ill-formed item, is accepted: what would be
accepted is a run within that prefix -/
theorem Run.prefix_fails {σ line c v l'} (h : Run σ line c v l') :
    ∀ (p q : List Item), c = p ++ q → q ≠ [] →
      ∀ (f : Nat) (tail : List Item), (tail = [] ∨ tail.head? = some none) →
        ∀ v' r' l'', exec f (p ++ tail) σ line ≠ .ok v' r' l'' := by
  intro p q hpq hq f tail ht v' r' l'' he
  obtain ⟨c', hc', h'⟩ := exec_ok_run f he
  have hp : c' <+: p := by
    rcases List.append_eq_append_iff.1 hc' with ⟨a, rfl, rfl⟩ | ⟨a, rfl, _⟩
    · cases a with
      | nil => exact (List.append_nil p).symm ▸ List.prefix_refl p
      | cons x a =>
        rcases ht with ht | ht
        · cases ht
        · cases Option.some.inj ht
          exact absurd rfl (h'.all_some none (List.mem_append_right _ List.mem_cons_self))
    · exact ⟨a, rfl⟩
  have := h'.eq_of_prefix h (hpq ▸ hp.trans (List.prefix_append p q))
  subst this
  obtain ⟨t, rfl⟩ := hp
  rw [List.append_assoc] at hpq
  exact hq (List.append_eq_nil_iff.1 (List.append_cancel_left (hpq.symm.trans (List.append_nil _).symm))).2

theorem exec_master {f items σ line v rest l'} (h : exec f items σ line = .ok v rest l') :
    ∃ c, items = c ++ rest ∧ c ≠ [] ∧ (∀ it ∈ c, it ≠ none) ∧ l' = line + nlCount c ∧
      (∀ (t : List Item) (f' : Nat), c.length < f' → exec f' (c ++ t) σ line = .ok v t l') ∧
      (∀ (p q : List Item), c = p ++ q → q ≠ [] →
        ∀ (f' : Nat) (tail : List Item), (tail = [] ∨ tail.head? = some none) →
          ∀ v' r' l'', exec f' (p ++ tail) σ line ≠ .ok v' r' l'') := by
  obtain ⟨c, hc, hrun⟩ := exec_ok_run f h
  exact ⟨c, hc, hrun.ne_nil, hrun.all_some, hrun.line_eq, hrun.replay, hrun.prefix_fails⟩

end Anytype
