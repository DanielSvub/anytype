/-
The definitions that `vextract` (vextract/listgen2.go) translates from the Go source of the Filter
family, of IntMin / IntMax / Min / Max and of NewListFrom (`Anytype/Generated/ListGen2.lean`,
regenerated on every run) are equal to the hand-written model (`Model/ListOps.lean`,
`Model/Aggregates.lean`) that the list theorems are about.

* aggregates: the function literal handed to `ReduceInts` / `Reduce`, translated as a function on the
  state (accumulator, present), folds to the model's `Agg.…Loop`; equality is unconditional.
* `NewListFrom`: unconditional.
* Filter family: the Go code hands the kept values to `Add`, i.e. to `parseVal`, which wraps an `int`
  to 64 bits again (`rewrap`); the model keeps the value.  The exact, unconditional statement is
  `…Gen_eq_rewrap` (the model's result with `rewrap` mapped over it); `FilterObjects`, `FilterLists`,
  `FilterStrings`, `FilterFloats` never keep an int and are equal to the model unconditionally;
  `Filter` and `FilterInts` are equal to the model when the ints stored in the receiver are in the
  int64 range (`IntsOK h a`), which `parseVal` / `addEach` establish for everything that enters a
  list through the API (`parseVal_intsOK`, `addEach_intsOK`).

The scripts stay generic in the generated side: a translated definition is unfolded by its name only,
the calls of other translated functions are rewritten with their equalities, and the tests that are
left are split and compared by `simp`.  What a script mentions of the generated side are the names of
the translated definitions (the seven loops of `NewListFrom` among them), never a local name or the
order of the tests.
A loop is one induction over the list, one macro per loop shape with the translated loop as its
argument.  The literals of `Min` / `Max` are identified by their steps: a literal that treats an int,
a float and anything else as the model loop does folds to it (`floatFold`).
-/
import Anytype.Generated.ListGen2
import Anytype.Lemmas.ListGenEq
set_option linter.unusedSimpArgs false  -- a script hands every case of a loop the same simp set
namespace Anytype
namespace L2Eq

open Generated Generated.L2

/-- one fold of a translated literal over the ints against the model's loop -/
local macro "int_fold" f:ident m:ident : tactic =>
  `(tactic| (intro xs; induction xs with
    | nil => intro m p; simp only [L.reduceKLoop, $m:ident, List.map_nil]
    | cons x xs ih =>
      intro m p
      cases x <;>
        simp only [L.reduceKLoop, L.sel, $m:ident, List.map_cons, Val.toNum, Heap.getVal, Val.kind, $f:ident, intOf,
          beq_self_eq_true, if_true, if_false, reduceCtorEq, beq_iff_eq] <;>
        first | exact ih _ _ | ((repeat' split) <;> first | exact ih _ _ | (simp [*]; done) | (simp_all; done))))

theorem intMinFn_fold (h : Heap) : ∀ xs m p,
    L.reduceKLoop h .int intMinFnGen xs (m, p) = Agg.intMinLoop (F := F64) (xs.map Val.toNum) m p := by
  int_fold intMinFnGen Agg.intMinLoop

theorem intMaxFn_fold (h : Heap) : ∀ xs m p,
    L.reduceKLoop h .int intMaxFnGen xs (m, p) = Agg.intMaxLoop (F := F64) (xs.map Val.toNum) m p := by
  int_fold intMaxFnGen Agg.intMaxLoop

theorem intMinGen_eq (h : Heap) (a : Nat) : intMinGen h a = Agg.intMin (numsOf h a) := by
  simp only [intMinGen, Agg.intMin, numsOf, reduceIntsGen_eq, L.reduceK, intMinFn_fold]
  first | rfl | ((repeat' split) <;> first | rfl | (simp_all; done))

theorem intMaxGen_eq (h : Heap) (a : Nat) : intMaxGen h a = Agg.intMax (numsOf h a) := by
  simp only [intMaxGen, Agg.intMax, numsOf, reduceIntsGen_eq, L.reduceK, intMaxFn_fold]
  first | rfl | ((repeat' split) <;> first | rfl | (simp_all; done))

/-- a `none` of the model's loop is the run-time panic of `item.(float64)` -/
def outOfOpt : Option (F64 × Bool) → Out (Val × Bool)
  | none => .panic .runtime
  | some (m, p) => .ok (.float m, p)

/-- the number an element stands for in `Min` / `Max` (`float64(val)` for an int), if it is one -/
def numOf : Num F64 → Option F64
  | .int v => some (FloatArith.ofInt v)
  | .float v => some v
  | .other => none

theorem toNum_getVal (h : Heap) (x : Val) : (h.getVal x).toNum = x.toNum := by cases x <;> rfl

/-- a literal `f` for `Reduce` that keeps a float accumulator `m`, replaces it by a number `v` when `t v m`, panics at
anything else and stays panicked folds to a model loop `M` with the same steps -/
theorem floatFold (h : Heap) {f : Out (Val × Bool) → Val → Out (Val × Bool)} {t : F64 → F64 → Bool}
    {M : List (Num F64) → F64 → Bool → Option (F64 × Bool)}
    (f_panic : ∀ k x, f (.panic k) x = .panic k)
    (f_ok : ∀ m p x, f (.ok (.float m, p)) x = match numOf x.toNum with
      | some v => if t v m then .ok (.float v, true) else .ok (.float m, true)
      | none => .panic .runtime)
    (M0 : ∀ m p, M [] m p = some (m, p))
    (M1 : ∀ n r m p, M (n :: r) m p = match numOf n with
      | some v => M r (if t v m then v else m) true
      | none => none) :
    ∀ xs m p, L.reduceLoop h f xs (.ok (.float m, p)) = outOfOpt (M (xs.map Val.toNum) m p) := by
  have panic : ∀ xs k, L.reduceLoop h f xs (.panic k) = .panic k := by
    intro xs k
    induction xs with
    | nil => rfl
    | cons x xs ih => rw [L.reduceLoop, f_panic, ih]
  intro xs
  induction xs with
  | nil => intro m p; rw [List.map_nil, M0]; rfl
  | cons x xs ih =>
    intro m p
    rw [L.reduceLoop, List.map_cons, M1, f_ok, toNum_getVal]
    cases numOf x.toNum with
    | none => exact panic xs _
    | some v => dsimp only; cases t v m <;> exact ih _ _

theorem minFn_fold (h : Heap) : ∀ xs m p,
    L.reduceLoop h minFnGen xs (.ok (.float m, p)) = outOfOpt (Agg.minLoop (xs.map Val.toNum) m p) :=
  floatFold h (t := FloatArith.lt) (fun _ _ => rfl) (fun _ _ x => by cases x <;> rfl) (fun _ _ => rfl)
    (fun n _ _ _ => by cases n <;> rfl)
theorem maxFn_fold (h : Heap) : ∀ xs m p,
    L.reduceLoop h maxFnGen xs (.ok (.float m, p)) = outOfOpt (Agg.maxLoop (xs.map Val.toNum) m p) :=
  floatFold h (t := fun v m => FloatArith.lt m v) (fun _ _ => rfl) (fun _ _ x => by cases x <;> rfl) (fun _ _ => rfl)
    (fun n _ _ _ => by cases n <;> rfl)

/-- `Agg.min` / `Agg.max` return `none` where the Go code panics -/
def outOfOptF : Option F64 → Out F64
  | none => .panic .runtime
  | some f => .ok f

theorem minGen_eq (h : Heap) (a : Nat) : minGen h a = outOfOptF (Agg.min (numsOf h a)) := by
  simp only [minGen, Agg.min, numsOf, reduceGen_eq, L.reduce, minFn_fold]
  generalize Agg.minLoop (F := F64) _ _ _ = r
  rcases r with _ | ⟨m, _ | _⟩ <;> rfl

theorem maxGen_eq (h : Heap) (a : Nat) : maxGen h a = outOfOptF (Agg.max (numsOf h a)) := by
  simp only [maxGen, Agg.max, numsOf, reduceGen_eq, L.reduce, maxFn_fold]
  generalize Agg.maxLoop (F := F64) _ _ _ = r
  rcases r with _ | ⟨m, _ | _⟩ <;> rfl

/-- a loop `for _, item := range s { ego.Add(item) }` is `addEach` -/
local macro "add_loop" d:ident : tactic =>
  `(tactic| (intro xs; induction xs with
    | nil => intro h; simp only [$d:ident, addEach]
    | cons x xs ih =>
      intro h
      simp only [$d:ident, addEach, addGen_eq, L.add, ih]
      cases parseVal h x with
      | mk h1 r => cases r <;> rfl))

theorem newListFromLoopGen_eq (n : Nat) : ∀ xs h, newListFromLoopGen n h xs = addEach h n xs := by add_loop newListFromLoopGen
theorem newListFromLoop2Gen_eq (n : Nat) : ∀ xs h, newListFromLoop2Gen n h xs = addEach h n xs := by add_loop newListFromLoop2Gen
theorem newListFromLoop3Gen_eq (n : Nat) : ∀ xs h, newListFromLoop3Gen n h xs = addEach h n xs := by add_loop newListFromLoop3Gen
theorem newListFromLoop4Gen_eq (n : Nat) : ∀ xs h, newListFromLoop4Gen n h xs = addEach h n xs := by add_loop newListFromLoop4Gen
theorem newListFromLoop5Gen_eq (n : Nat) : ∀ xs h, newListFromLoop5Gen n h xs = addEach h n xs := by add_loop newListFromLoop5Gen
theorem newListFromLoop6Gen_eq (n : Nat) : ∀ xs h, newListFromLoop6Gen n h xs = addEach h n xs := by add_loop newListFromLoop6Gen
theorem newListFromLoop7Gen_eq (n : Nat) : ∀ xs h, newListFromLoop7Gen n h xs = addEach h n xs := by add_loop newListFromLoop7Gen

theorem newListFromGen_eq (h : Heap) (g : GoVal) : newListFromGen h g = L.newFrom h g := by
  cases g with
  | slice fl xs =>
    simp only [L.newFrom, parseVal]
    unfold newListFromGen
    generalize hr : addEach (h ++ [Cell.list [] 0]) h.length xs = r
    rcases r with ⟨h1, _ | k⟩ <;> cases fl <;>
      simp only [newListFromLoopGen_eq, newListFromLoop2Gen_eq, newListFromLoop3Gen_eq, newListFromLoop4Gen_eq,
        newListFromLoop5Gen_eq, newListFromLoop6Gen_eq, newListFromLoop7Gen_eq, hr]
  | _ => rfl

/-- what `parseVal` makes of a stored value handed back to `Add`: an int is wrapped to 64 bits again -/
def rewrap : Val → Val
  | .int i => .int (wrap64 i)
  | v => v

/-- what `parseVal` returns: an int only within the int64 range -/
def IntOK : Val → Prop
  | .int i => InRange i
  | _ => True

/-- the hypothesis of `filterGen_eq` / `filterIntsGen_eq` on the receiver `a` -/
def IntsOK (h : Heap) (a : Nat) : Prop := ∀ v ∈ h.items a, IntOK v

theorem wrap64_of_inRange' {i : Int} (hi : InRange i) : wrap64 i = i := by
  unfold InRange at hi; unfold wrap64; simp only []; omega

theorem wrap64_inRange' (i : Int) : InRange (wrap64 i) := by
  unfold wrap64 InRange; simp only []; omega

theorem rewrap_of_ok {v : Val} (hv : IntOK v) : rewrap v = v := by
  cases v <;> simp_all [rewrap, IntOK, wrap64_of_inRange']

theorem rewrap_of_kind {v : Val} (hk : v.kind ≠ .int) : rewrap v = v := by
  cases v <;> simp_all [rewrap, Val.kind]

theorem intOK_getVal (h : Heap) {v : Val} (hv : IntOK v) : IntOK (h.getVal v) := by
  cases v <;> simp_all [IntOK, Heap.getVal]

theorem parseVal_toGo (h : Heap) (v : Val) : parseVal h v.toGo = (h, .ok (rewrap v)) := by
  cases v <;> rfl

theorem add_result (h : Heap) (acc : List Val) (v : Val) :
    addGen (h ++ [Cell.list acc 0]) h.length [v.toGo] =
      (h ++ [Cell.list (acc ++ [rewrap v]) 0], .ok ⟨h.length, 0⟩) := by
  simp [addGen_eq, L.add, addEach, parseVal_toGo, Heap.setItems, Heap.egoRef]

/-- the translated loop `g`, run on `h` with the result cell appended, leaves in that cell what the model's loop `m` returns,
each value wrapped once more by `Add` -/
def FilterLoop (h : Heap) (g : Heap → List Val → Heap × Out Unit) (m : List Val → List Val → List Val) : Prop :=
  ∀ xs acc, g (h ++ [Cell.list (acc.map rewrap) 0]) xs = (h ++ [Cell.list ((m xs acc).map rewrap) 0], .ok ())

theorem getVal_append_list0 (h : Heap) (acc : List Val) (v : Val) : (h ++ [Cell.list acc 0]).getVal v = h.getVal v :=
  Heap.getVal_append_list h acc v

theorem filterLoopGen_eq (h : Heap) (p : Val → Bool) : FilterLoop h (filterLoopGen p h.length) (L.filterLoop h p) := by
  intro xs
  induction xs with
  | nil => intro acc; simp only [filterLoopGen, L.filterLoop]
  | cons x xs ih =>
    intro acc
    simp only [filterLoopGen, L.filterLoop, getVal_append_list0, add_result]
    split
    · simpa using ih (acc ++ [h.getVal x])
    · exact ih acc

/-- the typed loop `d` for the kind `k` against `filterKLoop`, over the heap `h`: an element of another kind is skipped, one of
kind `k` is tested and kept as it is stored (`x`: objects, lists) or as `getVal` returns it (`Heap.getVal h x`: scalars) -/
local macro "filterk_loop" d:ident k:term "," h:term : tactic =>
  `(tactic| (intro xs; induction xs with
    | nil => intro acc; simp only [$d:ident, L.filterKLoop]
    | cons x xs ih =>
      intro acc
      simp only [$d:ident, L.filterKLoop, L.sel, L.viaGetValL, getVal_append_list0, add_result, genGetVal_kind]
      by_cases hk : x.kind = $k <;>
        simp [hk] <;>
        first
        | exact ih _
        | (split <;> first | exact ih _ | (simpa using ih (acc ++ [x])) | (simpa using ih (acc ++ [Heap.getVal $h x])))))

theorem filterObjectsLoopGen_eq (h : Heap) (p : Val → Bool) :
    FilterLoop h (filterObjectsLoopGen p h.length) (L.filterKLoop h .object p) := by
  filterk_loop filterObjectsLoopGen Kind.object, h
theorem filterListsLoopGen_eq (h : Heap) (p : Val → Bool) :
    FilterLoop h (filterListsLoopGen p h.length) (L.filterKLoop h .list p) := by
  filterk_loop filterListsLoopGen Kind.list, h
theorem filterStringsLoopGen_eq (h : Heap) (p : Val → Bool) :
    FilterLoop h (filterStringsLoopGen p h.length) (L.filterKLoop h .string p) := by
  filterk_loop filterStringsLoopGen Kind.string, h
theorem filterIntsLoopGen_eq (h : Heap) (p : Val → Bool) :
    FilterLoop h (filterIntsLoopGen p h.length) (L.filterKLoop h .int p) := by
  filterk_loop filterIntsLoopGen Kind.int, h
theorem filterFloatsLoopGen_eq (h : Heap) (p : Val → Bool) :
    FilterLoop h (filterFloatsLoopGen p h.length) (L.filterKLoop h .float p) := by
  filterk_loop filterFloatsLoopGen Kind.float, h

/-- the model's result (`Heap × Ref`) as the result of a function that may panic -/
def okOf (r : Heap × Ref) : Heap × Out Ref := (r.1, .ok r.2)

/-- the model's `Filter` / `FilterX` with the kept values passed through `parseVal` again -/
def filterRewrap (h : Heap) (a : Nat) (p : Val → Bool) : Heap × Out Ref :=
  (h ++ [Cell.list ((L.filterLoop h p (h.items a) []).map rewrap) 0], .ok ⟨h.length, 0⟩)
def filterKRewrap (h : Heap) (a : Nat) (k : Kind) (p : Val → Bool) : Heap × Out Ref :=
  (h ++ [Cell.list ((L.filterKLoop h k p (h.items a) []).map rewrap) 0], .ok ⟨h.length, 0⟩)

/-- `filter_fn d l r, h, a, p`: the translated function `d` (`NewList()`, the loop, `return result`) is the model's `r`, by the
lemma `l` about its loop, for the heap `h`, the receiver `a` and the predicate `p` -/
local macro "filter_fn" d:ident l:ident r:ident "," h:term "," a:term "," p:term : tactic =>
  `(tactic| (
    simp only [$d:ident, $r:ident, newListGen_eq, L.new, addEach, items_append_empty_list]
    have hl := $l:ident $h $p (Heap.items $h $a) []
    simp only [List.map_nil] at hl
    simp only [hl]))

theorem filterGen_eq_rewrap (h : Heap) (a : Nat) (p : Val → Bool) : filterGen h a p = filterRewrap h a p := by
  filter_fn filterGen filterLoopGen_eq filterRewrap, h, a, p
theorem filterObjectsGen_eq_rewrap (h : Heap) (a : Nat) (p : Val → Bool) :
    filterObjectsGen h a p = filterKRewrap h a .object p := by
  filter_fn filterObjectsGen filterObjectsLoopGen_eq filterKRewrap, h, a, p
theorem filterListsGen_eq_rewrap (h : Heap) (a : Nat) (p : Val → Bool) :
    filterListsGen h a p = filterKRewrap h a .list p := by
  filter_fn filterListsGen filterListsLoopGen_eq filterKRewrap, h, a, p
theorem filterStringsGen_eq_rewrap (h : Heap) (a : Nat) (p : Val → Bool) :
    filterStringsGen h a p = filterKRewrap h a .string p := by
  filter_fn filterStringsGen filterStringsLoopGen_eq filterKRewrap, h, a, p
theorem filterIntsGen_eq_rewrap (h : Heap) (a : Nat) (p : Val → Bool) :
    filterIntsGen h a p = filterKRewrap h a .int p := by
  filter_fn filterIntsGen filterIntsLoopGen_eq filterKRewrap, h, a, p
theorem filterFloatsGen_eq_rewrap (h : Heap) (a : Nat) (p : Val → Bool) :
    filterFloatsGen h a p = filterKRewrap h a .float p := by
  filter_fn filterFloatsGen filterFloatsLoopGen_eq filterKRewrap, h, a, p

/-! where `rewrap` is the identity on what is kept -/

theorem condLoop_eq {α β} {t : α → Bool} {u : α → β} {m : List α → List β → List β} (m0 : ∀ acc, m [] acc = acc)
    (m1 : ∀ x r acc, m (x :: r) acc = if t x then m r (acc ++ [u x]) else m r acc) :
    ∀ xs acc, m xs acc = acc ++ (xs.filter t).map u := by
  intro xs
  induction xs with
  | nil => intro acc; simp [m0]
  | cons x xs ih => intro acc; rw [m1]; cases ht : t x <;> simp [ih, ht]

theorem mem_filterLoop (h : Heap) (p : Val → Bool) : ∀ xs acc v,
    v ∈ L.filterLoop h p xs acc → v ∈ acc ∨ ∃ x ∈ xs, v = h.getVal x := by
  intro xs acc v hv
  rw [condLoop_eq (m := L.filterLoop h p) (fun _ => rfl) (fun _ _ _ => rfl)] at hv
  simp only [List.mem_append, List.mem_map, List.mem_filter] at hv
  exact hv.imp_right fun ⟨x, hx, e⟩ => ⟨x, hx.1, e.symm⟩

theorem mem_filterKLoop (h : Heap) (k : Kind) (p : Val → Bool) : ∀ xs acc v,
    v ∈ L.filterKLoop h k p xs acc → v ∈ acc ∨ ∃ x ∈ xs, x.kind = k ∧ (v = x ∨ v = h.getVal x) := by
  intro xs acc v hv
  rw [condLoop_eq (m := L.filterKLoop h k p) (t := fun x => (L.pick h k x).kind == k && p (L.pick h k x)) (u := L.pick h k)
    (fun _ => rfl) (fun x r acc => by rw [L.filterKLoop, L.sel_eq]; cases (L.pick h k x).kind == k <;> rfl)] at hv
  simp only [List.mem_append, List.mem_map, List.mem_filter] at hv
  refine hv.imp_right fun ⟨x, ht, e⟩ => ⟨x, ht.1, ?_⟩
  have hk := (Bool.and_eq_true _ _ ▸ ht.2).1
  subst e
  revert hk
  unfold L.pick
  cases L.viaGetValL k <;> intro hk
  · exact ⟨beq_iff_eq.1 hk, Or.inl rfl⟩
  · exact ⟨(genGetVal_kind h x).symm.trans (beq_iff_eq.1 hk), Or.inr rfl⟩

theorem map_rewrap_of {l : List Val} (hl : ∀ v ∈ l, rewrap v = v) : l.map rewrap = l :=
  (List.map_congr_left hl).trans (List.map_id l)

theorem filterRewrap_eq {h : Heap} {a : Nat} (p : Val → Bool) (hr : IntsOK h a) :
    filterRewrap h a p = okOf (L.filter h a p) := by
  simp only [filterRewrap, okOf, L.filter]
  rw [map_rewrap_of]
  intro v hv
  rcases mem_filterLoop h p _ _ _ hv with hm | ⟨x, hx, e⟩
  · cases hm
  · exact e ▸ rewrap_of_ok (intOK_getVal h (hr x hx))

/-- only `FilterInts` keeps ints -/
theorem filterKRewrap_eq {h : Heap} {a : Nat} {k : Kind} (p : Val → Bool) (hr : k = .int → IntsOK h a) :
    filterKRewrap h a k p = okOf (L.filterK h a k p) := by
  simp only [filterKRewrap, okOf, L.filterK]
  rw [map_rewrap_of]
  intro v hv
  rcases mem_filterKLoop h k p _ _ _ hv with hm | ⟨x, hx, hk, e⟩
  · cases hm
  · by_cases hki : k = .int
    · rcases e with e | e <;> rw [e]
      · exact rewrap_of_ok (hr hki x hx)
      · exact rewrap_of_ok (intOK_getVal h (hr hki x hx))
    · rcases e with e | e <;> rw [e]
      · exact rewrap_of_kind (by rw [hk]; exact hki)
      · exact rewrap_of_kind (by rw [genGetVal_kind, hk]; exact hki)

theorem filterGen_eq (h : Heap) (a : Nat) (p : Val → Bool) (hr : IntsOK h a) :
    filterGen h a p = okOf (L.filter h a p) :=
  (filterGen_eq_rewrap h a p).trans (filterRewrap_eq p hr)

theorem filterIntsGen_eq (h : Heap) (a : Nat) (p : Val → Bool) (hr : IntsOK h a) :
    filterIntsGen h a p = okOf (L.filterK h a .int p) :=
  (filterIntsGen_eq_rewrap h a p).trans (filterKRewrap_eq p fun _ => hr)

theorem filterObjectsGen_eq (h : Heap) (a : Nat) (p : Val → Bool) :
    filterObjectsGen h a p = okOf (L.filterK h a .object p) :=
  (filterObjectsGen_eq_rewrap h a p).trans (filterKRewrap_eq p nofun)
theorem filterListsGen_eq (h : Heap) (a : Nat) (p : Val → Bool) :
    filterListsGen h a p = okOf (L.filterK h a .list p) :=
  (filterListsGen_eq_rewrap h a p).trans (filterKRewrap_eq p nofun)
theorem filterStringsGen_eq (h : Heap) (a : Nat) (p : Val → Bool) :
    filterStringsGen h a p = okOf (L.filterK h a .string p) :=
  (filterStringsGen_eq_rewrap h a p).trans (filterKRewrap_eq p nofun)
theorem filterFloatsGen_eq (h : Heap) (a : Nat) (p : Val → Bool) :
    filterFloatsGen h a p = okOf (L.filterK h a .float p) :=
  (filterFloatsGen_eq_rewrap h a p).trans (filterKRewrap_eq p nofun)

/-- the hypothesis is satisfiable (and not only by lists without ints) -/
example : IntsOK [Cell.list [.int 5, .str [], .int (-7)] 0] 0 := by
  intro v hv
  simp only [Heap.items, List.getElem?_cons_zero] at hv
  simp only [List.mem_cons, List.not_mem_nil, or_false] at hv
  rcases hv with rfl | rfl | rfl <;> simp [IntOK, InRange]

/-- the hypothesis cannot be dropped: an int outside the range is wrapped by the Go code, kept by the model -/
example : filterGen [Cell.list [.int (2^63)] 0] 0 (fun _ => true) ≠ okOf (L.filter [Cell.list [.int (2^63)] 0] 0 (fun _ => true)) := by
  rw [filterGen_eq_rewrap]
  simp [filterRewrap, okOf, L.filter, L.filterLoop, Heap.items, Heap.getVal, rewrap, wrap64]

/-! ### the hypothesis `IntsOK` holds for everything that enters a list through the API -/

/-- the invariant of the heap that gives `IntsOK` for every list -/
def HeapIntsOK (h : Heap) : Prop := ∀ a, IntsOK h a

theorem heapIntsOK_nil : HeapIntsOK [] := by
  intro a v hv; simp [Heap.items] at hv

theorem heapIntsOK_append_list (h : Heap) (ho : HeapIntsOK h) : HeapIntsOK (h ++ [Cell.list [] 0]) := by
  intro a v hv
  rw [items_append_empty_list] at hv
  exact ho a v hv

theorem heapIntsOK_append_obj (h : Heap) (kvs : List (Str × Val)) (e : Nat) (ho : HeapIntsOK h) :
    HeapIntsOK (h ++ [Cell.obj kvs e]) := by
  intro a v hv
  by_cases hlt : a < h.length
  · rw [Heap.items_append_old h _ hlt] at hv; exact ho a v hv
  · unfold Heap.items at hv
    rw [List.getElem?_append_right (Nat.le_of_not_lt hlt)] at hv
    generalize a - h.length = n at hv
    cases n <;> cases hv

theorem heapIntsOK_setItems_snoc (h : Heap) (a : Nat) (w : Val) (ho : HeapIntsOK h) (hw : IntOK w) :
    HeapIntsOK (h.setItems a (h.items a ++ [w])) := by
  intro b v hv
  rw [Heap.items_setItems] at hv
  split at hv
  · rcases List.mem_append.1 hv with hm | hm
    · exact ho a v hm
    · rw [List.mem_singleton.1 hm]; exact hw
  · exact ho b v hv

theorem heapIntsOK_setFields (h : Heap) (a : Nat) (kvs : List (Str × Val)) (ho : HeapIntsOK h) :
    HeapIntsOK (h.setFields a kvs) := by
  intro b v hv
  rw [Heap.items_setFields] at hv
  exact ho b v hv

theorem intsOK_of_scalar {h : Heap} {g : GoVal} {v : Val} (ho : HeapIntsOK h) (e : parseVal h g = (h, .ok v))
    (hv : IntOK v) : HeapIntsOK (parseVal h g).1 ∧ ∀ w, (parseVal h g).2 = .ok w → IntOK w := by
  rw [e]; exact ⟨ho, fun w ew => Out.ok.inj ew ▸ hv⟩

mutual
theorem parseVal_intsOK : ∀ (h : Heap) (g : GoVal), HeapIntsOK h →
    HeapIntsOK (parseVal h g).1 ∧ ∀ v, (parseVal h g).2 = .ok v → IntOK v
  | h, .nil, ho => intsOK_of_scalar ho rfl trivial
  | h, .bool _, ho => intsOK_of_scalar ho rfl trivial
  | h, .intw _ i, ho => intsOK_of_scalar ho rfl (wrap64_inRange' i)
  | h, .f64 _, ho => intsOK_of_scalar ho rfl trivial
  | h, .f32 _, ho => intsOK_of_scalar ho rfl trivial
  | h, .str _, ho => intsOK_of_scalar ho rfl trivial
  | h, .list _, ho => intsOK_of_scalar ho rfl trivial
  | h, .obj _, ho => intsOK_of_scalar ho rfl trivial
  | h, .unsupported, ho => ⟨ho, nofun⟩
  | h, .slice _ xs, ho => by
    -- the heap is the one the loop leaves, the value a reference
    have ih := addEach_intsOK (h ++ [.list [] 0]) h.length xs (heapIntsOK_append_list h ho)
    simp only [parseVal]
    generalize addEach _ _ _ = r at ih ⊢
    rcases r with ⟨h1, _ | k⟩ <;> exact ⟨ih, fun v e => by cases e <;> trivial⟩
  | h, .map _ kvs, ho => by
    have ih := setEach_intsOK (h ++ [.obj [] 0]) h.length kvs (heapIntsOK_append_obj h _ _ ho)
    simp only [parseVal]
    generalize setEach _ _ _ = r at ih ⊢
    rcases r with ⟨h1, _ | k⟩ <;> exact ⟨ih, fun v e => by cases e <;> trivial⟩
/-- `addEach` (the loop of `Add`, of `NewList`, of `NewListFrom`) keeps the invariant -/
theorem addEach_intsOK : ∀ (h : Heap) (a : Nat) (gs : List GoVal), HeapIntsOK h → HeapIntsOK (addEach h a gs).1
  | h, a, [], ho => ho
  | h, a, g :: gs, ho => by
    have ih1 := parseVal_intsOK h g ho
    simp only [addEach]
    generalize parseVal h g = r at ih1 ⊢
    rcases r with ⟨h1, v | k⟩
    · exact addEach_intsOK _ a gs (heapIntsOK_setItems_snoc h1 a v ih1.1 (ih1.2 v rfl))
    · exact ih1.1
/-- `setEach` (the loop of `NewObjectFrom`) keeps the invariant -/
theorem setEach_intsOK : ∀ (h : Heap) (a : Nat) (kvs : List (Str × GoVal)), HeapIntsOK h → HeapIntsOK (setEach h a kvs).1
  | h, a, [], ho => ho
  | h, a, (k, g) :: kvs, ho => by
    have ih1 := parseVal_intsOK h g ho
    simp only [setEach]
    generalize parseVal h g = r at ih1 ⊢
    rcases r with ⟨h1, v | k⟩
    · exact setEach_intsOK _ a kvs (heapIntsOK_setFields h1 a _ ih1.1)
    · exact ih1.1
end

/-- a list built by `NewList(values...)` on a heap that satisfies the invariant: `Filter` on it is the model's -/
theorem filterGen_eq_of_new (h : Heap) (gs : List GoVal) (ho : HeapIntsOK h) (p : Val → Bool) :
    filterGen (L.new h gs).1 h.length p = okOf (L.filter (L.new h gs).1 h.length p) := by
  apply filterGen_eq
  have e := addEach_intsOK (h ++ [.list [] 0]) h.length gs (heapIntsOK_append_list h ho)
  simp only [L.new]
  split <;> next h1 _ hp => rw [hp] at e; exact e _

/-! ### scripts for one literal at a time -/

/-- the state `.panic` of the translated literal `f` is absorbing -/
local macro "float_fold_panic" f:ident : tactic =>
  `(tactic| (intro xs; induction xs with
    | nil => intro k; simp only [L.reduceLoop]
    | cons x xs ih => intro k; simp only [L.reduceLoop, $f:ident, ih]))

/-- one fold of the translated literal `f` over the numbers against the model's loop `m`; `hp`: the state `.panic` is absorbing -/
local macro "float_fold" f:ident m:ident hp:ident : tactic =>
  `(tactic| (intro xs; induction xs with
    | nil => intro m p; simp only [L.reduceLoop, $m:ident, List.map_nil, outOfOpt]
    | cons x xs ih =>
      intro m p
      cases x <;>
        simp only [L.reduceLoop, $m:ident, List.map_cons, Val.toNum, Heap.getVal, Val.kind, $f:ident, intOf, floatOf,
          beq_self_eq_true, if_true, if_false, reduceCtorEq, beq_iff_eq, Bool.not_true, Bool.not_false, Bool.false_eq_true,
          $hp:ident] <;>
        first | exact ih _ _ | rfl |
          ((repeat' split) <;>
            first | exact ih _ _ | rfl | (simp only [*, $hp:ident, ih, if_true, if_false] <;> rfl) | (simp_all [$hp:ident, outOfOpt]; done))))

end L2Eq
end Anytype

#print axioms Anytype.L2Eq.filterGen_eq_rewrap
#print axioms Anytype.L2Eq.filterObjectsGen_eq_rewrap
#print axioms Anytype.L2Eq.filterListsGen_eq_rewrap
#print axioms Anytype.L2Eq.filterStringsGen_eq_rewrap
#print axioms Anytype.L2Eq.filterIntsGen_eq_rewrap
#print axioms Anytype.L2Eq.filterFloatsGen_eq_rewrap
#print axioms Anytype.L2Eq.filterGen_eq
#print axioms Anytype.L2Eq.filterObjectsGen_eq
#print axioms Anytype.L2Eq.filterListsGen_eq
#print axioms Anytype.L2Eq.filterStringsGen_eq
#print axioms Anytype.L2Eq.filterIntsGen_eq
#print axioms Anytype.L2Eq.filterFloatsGen_eq
#print axioms Anytype.L2Eq.intMinGen_eq
#print axioms Anytype.L2Eq.intMaxGen_eq
#print axioms Anytype.L2Eq.minGen_eq
#print axioms Anytype.L2Eq.maxGen_eq
#print axioms Anytype.L2Eq.newListFromGen_eq
#print axioms Anytype.L2Eq.parseVal_intsOK
#print axioms Anytype.L2Eq.addEach_intsOK
#print axioms Anytype.L2Eq.filterGen_eq_of_new
