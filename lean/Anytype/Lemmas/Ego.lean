/-
The registered embedding level (`ego`, C19): `Init` (`setEgo`) changes nothing else, and no
operation — `SetTF` / `UnsetTF` included — changes the level of an existing cell (`Mono`), so a
fluent method returns the receiver's registered outer value (`fluent_ok`). Also the accumulator
loops of the list views as `map` / `filterMap`, for the readers of C19.
-/
import Anytype.Lemmas.Mutators
import Anytype.Model.TreeForm
namespace Anytype
open Heap

theorem egoRef_mono {h h' : Heap} (m : Mono h h') {a : Nat} (ha : a < h.length) :
    h'.egoRef a = h.egoRef a := by
  simp only [egoRef, ego_of_shape (m.shape a ha)]

theorem ego_mono {h h' : Heap} (m : Mono h h') {a : Nat} (ha : a < h.length) : h'.ego a = h.ego a :=
  ego_of_shape (m.shape a ha)

/-- A fluent method answers with `Ego()` of the receiver in the heap `h1` it has reached; `h1` keeps
the level of every old cell, so that is the outer value registered before the call. -/
theorem fluent_ok {h h1 : Heap} {a : Nat} {r : Ref} (m : Mono h h1) (ha : a < h.length)
    (hr : Out.ok (h1.egoRef a) = Out.ok r) : r = h.egoRef a := by
  cases hr
  exact egoRef_mono m ha

theorem getElem?_setEgo_ne (h : Heap) {a b : Nat} (k : Nat) (hne : b ≠ a) : (h.setEgo a k)[b]? = h[b]? := by
  unfold setEgo
  split
  · exact List.getElem?_set_ne (Ne.symm hne)
  · exact List.getElem?_set_ne (Ne.symm hne)
  · rfl

theorem obs_setEgo_self (h : Heap) (a k : Nat) :
    (h.setEgo a k).items a = h.items a ∧ (h.setEgo a k).fields a = h.fields a ∧
    (a < h.length → (h.setEgo a k).ego a = k) := by
  unfold setEgo
  split
  · next xs e he =>
    have hs := List.getElem?_set_self (a := Cell.list xs k) (List.getElem?_eq_some_iff.1 he).1
    simp only [items, fields, ego, hs, he]
    exact ⟨trivial, trivial, fun _ => trivial⟩
  · next kvs e he =>
    have hs := List.getElem?_set_self (a := Cell.obj kvs k) (List.getElem?_eq_some_iff.1 he).1
    simp only [items, fields, ego, hs, he]
    exact ⟨trivial, trivial, fun _ => trivial⟩
  · next he => exact ⟨rfl, rfl, fun ha => absurd (List.getElem?_eq_none_iff.1 he) (Nat.not_le.2 ha)⟩

theorem ego_setEgo_self (h : Heap) (a k : Nat) (ha : a < h.length) : (h.setEgo a k).ego a = k :=
  (obs_setEgo_self h a k).2.2 ha

theorem items_setEgo (h : Heap) (a k b : Nat) : (h.setEgo a k).items b = h.items b := by
  by_cases hne : b = a
  · rw [hne]; exact (obs_setEgo_self h a k).1
  · exact items_congr (getElem?_setEgo_ne h k hne)

theorem fields_setEgo (h : Heap) (a k b : Nat) : (h.setEgo a k).fields b = h.fields b := by
  by_cases hne : b = a
  · rw [hne]; exact (obs_setEgo_self h a k).2.1
  · exact fields_congr (getElem?_setEgo_ne h k hne)

theorem length_setEgo (h : Heap) (a k : Nat) : (h.setEgo a k).length = h.length := by
  unfold setEgo; split <;> simp

namespace L

theorem forEachLoop_values (h : Heap) (xs : List Val) (i : Int) (log : List (Int × Val)) :
    (forEachLoop h xs i log).map (·.2) = log.map (·.2) ++ xs.map h.getVal := by
  induction xs generalizing i log with
  | nil => exact (List.append_nil _).symm
  | cons x xs ih => rw [forEachLoop, ih, List.map_append, List.append_assoc]; rfl

theorem forEachValue_eq (h : Heap) (a : Nat) : forEachValue h a = (h.items a).map h.getVal :=
  forEachLoop_values h _ 0 []

theorem filterLoop_eq (h : Heap) (p : Val → Bool) (xs acc : List Val) :
    filterLoop h p xs acc = acc ++ (xs.map h.getVal).filter p := by
  induction xs generalizing acc with
  | nil => exact (List.append_nil acc).symm
  | cons x xs ih =>
    rw [filterLoop, List.map_cons, List.filter_cons]
    cases p (h.getVal x) with
    | false => exact ih acc
    | true => exact (ih _).trans (List.append_assoc acc [_] _)

theorem sliceKLoop_eq (h : Heap) (k : Kind) (xs acc : List Val) :
    sliceKLoop h k xs acc = acc ++ xs.filterMap (sel h (viaGetValL k) k) := by
  induction xs generalizing acc with
  | nil => exact (List.append_nil acc).symm
  | cons x xs ih =>
    rw [sliceKLoop, List.filterMap_cons]
    cases sel h (viaGetValL k) k x with
    | none => exact ih acc
    | some v => exact (ih _).trans (List.append_assoc acc [v] _)

theorem forEachKLoop_eq (h : Heap) (k : Kind) (xs acc : List Val) :
    forEachKLoop h k xs acc = acc ++ xs.filterMap (sel h (viaGetValL k) k) := by
  induction xs generalizing acc with
  | nil => exact (List.append_nil acc).symm
  | cons x xs ih =>
    rw [forEachKLoop, List.filterMap_cons]
    cases sel h (viaGetValL k) k x with
    | none => exact ih acc
    | some v => exact (ih _).trans (List.append_assoc acc [v] _)

theorem filterKLoop_eq (h : Heap) (k : Kind) (p : Val → Bool) (xs acc : List Val) :
    filterKLoop h k p xs acc = acc ++ (xs.filterMap (sel h (viaGetValL k) k)).filter p := by
  induction xs generalizing acc with
  | nil => exact (List.append_nil acc).symm
  | cons x xs ih =>
    rw [filterKLoop, List.filterMap_cons]
    cases sel h (viaGetValL k) k x with
    | none => exact ih acc
    | some v =>
      dsimp only
      rw [List.filter_cons]
      cases p v with
      | false => exact ih acc
      | true => exact (ih _).trans (List.append_assoc acc [v] _)

end L

/-! ### SetTF / UnsetTF keep every existing cell's kind and ego -/

namespace TF

theorem padNil_mono (h : Heap) (a n : Nat) : Mono h (padNil h a n) := (Ext.setItems h a _).mono

theorem stepL_mono (h : Heap) (a : Nat) (i : Int) (w : Bool) : Mono h (stepL h a i w).1 := by
  unfold stepL
  simp only
  -- nothing below depends on which kind of container is wanted
  generalize (if w = true then Kind.object else Kind.list) = kd
  by_cases h1 : i ≥ L.count h a
  · rw [if_pos h1]
    exact (Ext0.append h _).mono.trans ((padNil_mono _ a _).trans (Ext.setItems _ a _).mono)
  · rw [if_neg h1]
    by_cases h2 : (L.typeOf h a i == kd) = true
    · rw [if_pos h2]
      split <;> exact Mono.refl h
    · rw [if_neg h2]
      by_cases h3 : i < 0
      · rw [if_pos h3]; exact (Ext0.append h _).mono
      · rw [if_neg h3]; exact (Ext0.append h _).mono.trans (Ext.setItems _ a _).mono

theorem stepO_mono (h : Heap) (a : Nat) (key : Str) (w : Bool) : Mono h (stepO h a key w).1 := by
  unfold stepO
  simp only
  generalize (if w = true then Kind.object else Kind.list) = kd
  split
  · split <;> exact Mono.refl h
  · exact (Ext0.append h _).mono.trans (Ext.setFields _ a _).mono

theorem set_mono : ∀ (n : Nat),
    (∀ h a tf g, Mono h (setL n h a tf g).1) ∧ (∀ h a tf g, Mono h (setO n h a tf g).1)
  | 0 => ⟨fun h _ _ _ => by rw [setL]; exact Mono.refl h,
          fun h _ _ _ => by rw [setO]; exact Mono.refl h⟩
  | n + 1 => by
    obtain ⟨ihL, ihO⟩ := set_mono n
    constructor
    · intro h a tf g
      rw [setL]
      split
      · exact Mono.refl h  -- not a `#` path
      · split
        -- `#i.rest`: step into the object at `i`; a non-numeric `i` stops every branch at `h`
        · split
          · exact Mono.refl h
          · next i _ =>
            have m := stepL_mono h a i true
            split
            · next hq => rw [hq] at m; exact m
            · next hq => rw [hq] at m; exact m.trans (ihO _ _ _ g)
        -- `#i#rest`: step into the list at `i`
        · split
          · exact Mono.refl h
          · next i _ =>
            have m := stepL_mono h a i false
            split
            · next hq => rw [hq] at m; exact m
            · next hq => rw [hq] at m; exact m.trans (ihL _ _ _ g)
        -- `#i`: pad and `Add` beyond the end, `Replace` inside
        · split
          · exact Mono.refl h
          · next i _ =>
            simp only
            split
            · have m := (padNil_mono h a (i - L.count h a).toNat).trans
                (L.add_ext (padNil h a (i - L.count h a).toNat) a [g]).mono
              split <;> next hq => rw [hq] at m; exact m
            · have m := (L.replace_ext h a i g).mono
              split <;> next hq => rw [hq] at m; exact m
    · intro h a tf g
      rw [setO]
      split
      · exact Mono.refl h  -- not a `.` path
      · split  -- `.key.rest`, `.key#rest`, `.key`
        · next key rest _ => exact (stepO_mono h a key true).trans (ihO _ _ rest g)
        · next key rest _ => exact (stepO_mono h a key false).trans (ihL _ _ rest g)
        · next key _ =>
          have m := (Rf.oset_ext h a [(some key, g)] false).mono
          split <;> next hq => rw [hq] at m; exact m

theorem unset_mono : ∀ (n : Nat),
    (∀ h a tf, Mono h (unsetL n h a tf).1) ∧ (∀ h a tf, Mono h (unsetO n h a tf).1)
  | 0 => ⟨fun h _ _ => by rw [unsetL]; exact Mono.refl h,
          fun h _ _ => by rw [unsetO]; exact Mono.refl h⟩
  | n + 1 => by
    obtain ⟨ihL, ihO⟩ := unset_mono n
    constructor
    · intro h a tf
      rw [unsetL]
      split
      · exact Mono.refl h  -- not a `#` path
      · split
        -- `#i.rest`: recurse if an object is stored at `i`, else stop at `h`
        · split
          · exact Mono.refl h
          · split
            · exact ihO _ _ _
            · exact Mono.refl h
            · exact Mono.refl h
        -- `#i#rest`: the same for a list
        · split
          · exact Mono.refl h
          · split
            · exact ihL _ _ _
            · exact Mono.refl h
            · exact Mono.refl h
        -- `#i`: `Delete(i)`
        · split
          · exact Mono.refl h
          · next i _ =>
            have m := (L.delete_ext h a [i]).mono
            split <;> next hq => rw [hq] at m; exact m
    · intro h a tf
      rw [unsetO]
      split
      · exact Mono.refl h  -- not a `.` path
      · split  -- `.key.rest`, `.key#rest`, `.key`
        · split
          · exact ihO _ _ _
          · exact Mono.refl h
          · exact Mono.refl h
        · split
          · exact ihL _ _ _
          · exact Mono.refl h
          · exact Mono.refl h
        · next key _ => exact (Rf.ounset_ext h a [key]).mono

end TF

end Anytype
