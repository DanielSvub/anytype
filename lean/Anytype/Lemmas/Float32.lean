/-
`float64(float32)` (`f32to64`) is exact: same sign, same dyadic value; ±0, subnormals, ±Inf, NaN.
-/
import Anytype.Model.Normalize
import Anytype.Lemmas.FmtRound
namespace Anytype
namespace F32

def sign (b : UInt32) : Bool := (b >>> 31) == 1
def expo (b : UInt32) : Nat := ((b >>> 23) &&& 0xff).toNat
def frac (b : UInt32) : Nat := (b &&& 0x7fffff).toNat

def isNaN (b : UInt32) : Bool := expo b == 255 && frac b != 0
def isInf (b : UInt32) : Bool := expo b == 255 && frac b == 0
def isFinite (b : UInt32) : Bool := expo b != 255

/-- finite value = (-1)^sign * mant * 2^exp2 (IEEE 754 binary32) -/
def mant (b : UInt32) : Nat := if expo b == 0 then frac b else frac b + 2 ^ 23
def exp2 (b : UInt32) : Int := if expo b == 0 then -149 else (expo b : Int) - 150

/-- `|value| · 2^1074` of a finite binary32: a natural number (the smallest exponent is −149) -/
def val1074 (b : UInt32) : Nat := mant b * 2 ^ (exp2 b + 1074).toNat

theorem expo_lt (b : UInt32) : expo b < 256 := by
  unfold expo
  simp only [UInt32.toNat_and]
  have : (0xff : UInt32).toNat = 2 ^ 8 - 1 := by decide
  rw [this, Nat.and_two_pow_sub_one_eq_mod]
  omega

theorem frac_lt (b : UInt32) : frac b < 2 ^ 23 := by
  unfold frac
  simp only [UInt32.toNat_and]
  have : (0x7fffff : UInt32).toNat = 2 ^ 23 - 1 := by decide
  rw [this, Nat.and_two_pow_sub_one_eq_mod]
  omega

end F32

namespace F64

/-- `|x| · 2^1074` of a finite binary64: a natural number (the smallest exponent is −1074) -/
def val1074 (x : F64) : Nat := x.mant * 2 ^ (x.exp2 + 1074).toNat

theorem val1074_of_fields {x : F64} {E F : Nat} (hE : x.expBits = E + 1)
    (hF : x.frac = F) (h47 : E + 1 ≠ 2047) : x.isFinite = true ∧ x.val1074 = (F + 2 ^ 52) * 2 ^ E := by
  have h0 : (E + 1 == 0) = false := rfl
  simp only [isFinite, val1074, mant, exp2, hE, hF, h0, bne_iff_ne, ne_eq, h47,
    not_false_eq_true, Bool.false_eq_true, if_false, true_and]
  rw [show ((E + 1 : Nat) : Int) - 1075 + 1074 = E by omega, Int.toNat_natCast]

end F64

namespace F32
open F64

/-- `f32to64` as a function of (sign, exponent field, fraction field) -/
def widen (s : Bool) (e fr : Nat) : F64 :=
  let mag : UInt64 :=
    if e == 255 then UInt64.ofNat ((2047 <<< 52) + (fr <<< 29))
    else if e == 0 then (F64.roundPos fr (2 ^ 149)).getD 0
    else UInt64.ofNat (((e + 896) <<< 52) + (fr <<< 29))
  F64.withSign s ⟨mag⟩

theorem f32to64_eq (b : UInt32) : f32to64 b = widen (sign b) (expo b) (frac b) := rfl

/-- ±Inf and NaN: exponent field 2047, the fraction shifted (zero iff it was zero), sign kept -/
theorem widen_special (s : Bool) (fr : Nat) (hfr : fr < 2 ^ 23) :
    (widen s 255 fr).expBits = 2047 ∧ (widen s 255 fr).frac = fr * 2 ^ 29 ∧ (widen s 255 fr).signBit = s := by
  have : widen s 255 fr = withSign s (ofFields 2047 (fr <<< 29)) := by
    simp only [widen, beq_self_eq_true, if_true, ofFields]
  rw [this, Nat.shiftLeft_eq]
  exact fields_withSign s 2047 _ (by omega) (by omega)

theorem widen_normal (s : Bool) (e fr : Nat) (he0 : e ≠ 0) (he : e < 255) (hfr : fr < 2 ^ 23) :
    (widen s e fr).expBits = e + 896 ∧ (widen s e fr).frac = fr * 2 ^ 29 ∧ (widen s e fr).signBit = s := by
  have h1 : (e == 255) = false := by simp; omega
  have h2 : (e == 0) = false := by simp; omega
  have : widen s e fr = withSign s (ofFields (e + 896) (fr <<< 29)) := by
    simp only [widen, h1, h2, Bool.false_eq_true, if_false, ofFields]
  rw [this, Nat.shiftLeft_eq]
  exact fields_withSign s (e + 896) _ (by omega) (by omega)

theorem widen_zero (s : Bool) :
    (widen s 0 0).expBits = 0 ∧ (widen s 0 0).frac = 0 ∧ (widen s 0 0).signBit = s := by
  cases s <;> decide

/-- a subnormal binary32 magnitude `fr · 2^-149` (`0 < fr < 2^23`) is a normal binary64, which
`roundPos` returns exactly -/
theorem widen_subnormal (s : Bool) (fr : Nat) (h0 : fr ≠ 0) (hfr : fr < 2 ^ 23) :
    2 ^ 52 ≤ fr * 2 ^ (52 - fr.log2) ∧
    (widen s 0 fr).expBits = fr.log2 + 874 ∧ (widen s 0 fr).frac = fr * 2 ^ (52 - fr.log2) - 2 ^ 52 ∧
    (widen s 0 fr).signBit = s := by
  obtain ⟨_, hm1, hm2⟩ := FmtR.shift_bounds fr h0 (by omega)
  have hl : fr.log2 < 23 := (Nat.log2_lt h0).2 hfr
  obtain ⟨k, hk⟩ : ∃ k, 52 - fr.log2 = k := ⟨_, rfl⟩
  rw [hk] at hm1 hm2 ⊢
  have hr : F64.roundPos fr (2 ^ 149) = FmtR.enc (fr * 2 ^ k) (-((k + 149 : Nat) : Int)) := by
    refine FmtR.roundPos_exact _ _ _ _ (Nat.two_pow_pos _) (by omega) hm2 (by omega) (Or.inr hm1) ?_
    simp only [FmtR.scaled_eq, Int.neg_neg, Int.toNat_natCast, Int.toNat_neg_natCast, Nat.pow_zero,
      Nat.mul_one, Nat.pow_add, Nat.mul_assoc]
  have : widen s 0 fr = withSign s (ofFields (fr.log2 + 874) (fr * 2 ^ k - 2 ^ 52)) := by
    rw [FmtR.enc_of_ne _ _ (by omega), if_neg (by omega), if_neg (by omega),
      show (-((k + 149 : Nat) : Int) + 1075).toNat = fr.log2 + 874 by omega] at hr
    simp only [widen, hr, Option.getD_some, show ((0 : Nat) == 255) = false from rfl,
      beq_self_eq_true, Bool.false_eq_true, if_false, if_true]
  rw [this]
  exact ⟨hm1, fields_withSign s (fr.log2 + 874) _ (by omega) (by omega)⟩

/-- every finite binary32 widens to a finite binary64 of the same sign and the same value -/
theorem f32to64_finite (b : UInt32) (hfin : isFinite b = true) :
    (f32to64 b).isFinite = true ∧ (f32to64 b).signBit = sign b ∧ (f32to64 b).val1074 = val1074 b := by
  have he := expo_lt b
  have hfr := frac_lt b
  have hne : expo b ≠ 255 := by simpa [isFinite] using hfin
  rw [f32to64_eq]
  unfold F32.val1074 F32.mant F32.exp2
  generalize expo b = e at *
  generalize frac b = fr at *
  by_cases he0 : e = 0
  · subst he0
    rw [show ((0 : Nat) == 0) = true from rfl, if_pos rfl, if_pos rfl, show ((-149 : Int) + 1074).toNat = 925 from rfl]
    by_cases hf0 : fr = 0
    · subst hf0
      obtain ⟨h1, h2, h3⟩ := widen_zero (sign b)
      refine ⟨by simp [F64.isFinite, h1], h3, ?_⟩
      simp only [F64.val1074, F64.mant, h1, h2, beq_self_eq_true, if_true, Nat.zero_mul]
    · have hl3 : fr.log2 < 23 := (Nat.log2_lt hf0).2 hfr
      obtain ⟨hq, h1, h2, h3⟩ := widen_subnormal (sign b) fr hf0 hfr
      obtain ⟨hfi, hv⟩ := F64.val1074_of_fields (E := fr.log2 + 873) h1 h2 (by omega)
      rw [hv, Nat.sub_add_cancel hq, Nat.mul_assoc, ← Nat.pow_add,
        show 52 - fr.log2 + (fr.log2 + 873) = 925 by omega]
      exact ⟨hfi, h3, rfl⟩
  · obtain ⟨h1, h2, h3⟩ := widen_normal (sign b) e fr he0 (by omega) hfr
    obtain ⟨hfi, hv⟩ := F64.val1074_of_fields (E := e + 895) h1 h2 (by omega)
    rw [hv, show (e == 0) = false by simpa using he0, if_neg Bool.false_ne_true, if_neg Bool.false_ne_true,
      show (((e : Int) - 150) + 1074).toNat = 29 + (e + 895) by omega, Nat.pow_add 2 29, ← Nat.mul_assoc,
      show (fr + 2 ^ 23) * 2 ^ 29 = fr * 2 ^ 29 + 2 ^ 52 by omega]
    exact ⟨hfi, h3, rfl⟩

theorem f32to64_zero (b : UInt32) (he : expo b = 0) (hf : frac b = 0) :
    f32to64 b = F64.withSign (sign b) F64.posZero := by
  rw [f32to64_eq, he, hf]
  cases sign b <;> decide

theorem f32to64_inf (b : UInt32) (h : isInf b = true) :
    (f32to64 b).isInf = true ∧ (f32to64 b).signBit = sign b := by
  simp only [isInf, Bool.and_eq_true, beq_iff_eq] at h
  obtain ⟨h1, h2, h3⟩ := widen_special (sign b) (frac b) (frac_lt b)
  rw [f32to64_eq, h.1]
  rw [h.2] at h1 h2 h3 ⊢
  simp [F64.isInf, h1, h2, h3]

/-- NaN widens to NaN (the payload is shifted) -/
theorem f32to64_nan (b : UInt32) (h : isNaN b = true) : (f32to64 b).isNaN = true := by
  simp only [isNaN, Bool.and_eq_true, beq_iff_eq, bne_iff_ne, ne_eq] at h
  obtain ⟨h1, h2, _⟩ := widen_special (sign b) (frac b) (frac_lt b)
  rw [f32to64_eq, h.1]
  have := h.2
  simp only [F64.isNaN, h1, h2, beq_self_eq_true, Bool.true_and, bne_iff_ne, ne_eq]
  omega

end F32
end Anytype
