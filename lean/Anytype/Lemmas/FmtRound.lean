/-
The theory of `F64.roundPos` (a positive rational `n / d` rounded to the nearest binary64, ties to
even), on which the lemma files about `float64(float32)`, `float64(int)`, the number formatting
contract and "seventeen digits suffice" rest. It starts with the three fields of a bit pattern.

`roundPos` searches the exponent `e` with `2^52 ≤ n / (d·2^e) < 2^53` (`Norm`: first guess from the
bit lengths, two correction steps, `F32.roundPos_staged`); there, or at `-1074` below the normal
range, it rounds the quotient to the nearest integer `m` (`rnd`) and assembles the pattern `enc m e`
(`roundPos_eq_finish`). Hence every rational within half a unit of `m·2^e` (a quarter, just below a
power of two) rounds to `enc m e` (`roundPos_close`), and the result depends on `n / d` only
(`roundPos_ratio`).
-/
import Anytype.Model.Float64
namespace Anytype
namespace F64

theorem expBits_nat (x : F64) : x.expBits = x.bits.toNat / 2 ^ 52 % 2 ^ 11 := by
  unfold expBits
  simp only [UInt64.toNat_and, UInt64.toNat_shiftRight, Nat.shiftRight_eq_div_pow]
  exact Nat.and_two_pow_sub_one_eq_mod _ 11

theorem frac_nat (x : F64) : x.frac = x.bits.toNat % 2 ^ 52 := by
  unfold frac
  simp only [UInt64.toNat_and]
  exact Nat.and_two_pow_sub_one_eq_mod _ 52

theorem signBit_nat (x : F64) : x.signBit = decide (2 ^ 63 ≤ x.bits.toNat) := by
  unfold signBit
  have h := x.bits.toNat_lt
  rw [Bool.eq_iff_iff]
  simp only [beq_iff_eq, decide_eq_true_eq]
  rw [← UInt64.toNat_inj]
  simp only [UInt64.toNat_shiftRight, Nat.shiftRight_eq_div_pow]
  show x.bits.toNat / 2 ^ 63 = 1 ↔ _
  omega

theorem abs_bits_toNat (x : F64) : x.abs.bits.toNat = x.bits.toNat % 2 ^ 63 := by
  unfold F64.abs
  simp only [UInt64.toNat_and]
  exact Nat.and_two_pow_sub_one_eq_mod _ 63

theorem expBits_lt (x : F64) : x.expBits < 2048 := by rw [expBits_nat]; omega
theorem frac_lt (x : F64) : x.frac < 2 ^ 52 := by rw [frac_nat]; omega

/-- the pattern with exponent field `E` and fraction field `F`, sign clear -/
def ofFields (E F : Nat) : F64 := ⟨UInt64.ofNat ((E <<< 52) + F)⟩

theorem ofFields_bits (E F : Nat) (hE : E < 2048) (hF : F < 2 ^ 52) :
    (ofFields E F).bits.toNat = E * 2 ^ 52 + F := by
  simp only [ofFields, UInt64.toNat_ofNat', Nat.shiftLeft_eq]
  omega

/-- the three fields of a pattern `F + 2^52 · (sign · 2^11 + E)`, by uniqueness of quotient and
remainder (which keeps the arithmetic on small numbers) -/
theorem fields_of_bits (x : F64) (s : Bool) (E F : Nat) (hE : E < 2048) (hF : F < 2 ^ 52)
    (h : x.bits.toNat = F + 2 ^ 52 * ((if s then 2 ^ 11 else 0) + E)) :
    x.expBits = E ∧ x.frac = F ∧ x.signBit = s := by
  obtain ⟨hq, hr⟩ := (Nat.div_mod_unique (Nat.two_pow_pos 52)).2 ⟨h.symm, hF⟩
  have hs : (2 ^ 63 ≤ x.bits.toNat) ↔ 2 ^ 11 ≤ (if s then 2 ^ 11 else 0) + E := by
    rw [← hq]; exact (Nat.le_div_iff_mul_le (x := 2 ^ 11) (Nat.two_pow_pos 52)).symm
  rw [expBits_nat, frac_nat, signBit_nat, hr, hq]
  cases s
  · rw [if_neg Bool.false_ne_true, Nat.zero_add] at hs ⊢
    exact ⟨Nat.mod_eq_of_lt hE, rfl, decide_eq_false (fun h => Nat.not_le.2 hE (hs.1 h))⟩
  · rw [if_pos rfl] at hs ⊢
    exact ⟨by rw [Nat.add_mod_left]; exact Nat.mod_eq_of_lt hE, rfl,
      decide_eq_true (hs.2 (Nat.le_add_right _ _))⟩

theorem abs_bits_fields (x : F64) : x.abs.bits.toNat = x.expBits * 2 ^ 52 + x.frac := by
  rw [expBits_nat, frac_nat, abs_bits_toNat]
  have := x.bits.toNat_lt
  omega

theorem fields_abs (x : F64) : x.abs.expBits = x.expBits ∧ x.abs.frac = x.frac ∧ x.abs.signBit = false :=
  fields_of_bits x.abs false _ _ (expBits_lt x) (frac_lt x) (by
    rw [abs_bits_fields, Nat.add_comm, Nat.mul_comm, if_neg Bool.false_ne_true, Nat.zero_add])

theorem isZero_iff (x : F64) : x.isZero = true ↔ x.abs.bits.toNat = 0 := by
  have := frac_lt x
  rw [abs_bits_fields]
  simp only [isZero, Bool.and_eq_true, beq_iff_eq]
  omega

theorem withSign_false (x : F64) : withSign false x = x := rfl

theorem withSign_true_bits (x : F64) (h : x.bits.toNat < 2 ^ 63) :
    (withSign true x).bits.toNat = x.bits.toNat + 2 ^ 63 := by
  simp only [withSign, if_true, UInt64.toNat_or]
  have e : (0x8000000000000000 : UInt64).toNat = 2 ^ 63 * 1 := by decide
  rw [e, Nat.or_comm, ← Nat.two_pow_add_eq_or_of_lt h 1]
  omega

theorem withSign_abs (x : F64) : withSign x.signBit x.abs = x := by
  have hlt := x.bits.toNat_lt
  have ha := abs_bits_toNat x
  have hs := signBit_nat x
  suffices h : (withSign x.signBit x.abs).bits.toNat = x.bits.toNat by
    cases x; cases hw : withSign _ _; rw [hw] at h; exact congrArg F64.mk (UInt64.toNat_inj.1 h)
  by_cases h63 : 2 ^ 63 ≤ x.bits.toNat
  · rw [hs, decide_eq_true h63, withSign_true_bits _ (by omega), ha]; omega
  · rw [hs, decide_eq_false h63, withSign_false, ha]; omega

theorem fields_withSign (s : Bool) (E F : Nat) (hE : E < 2048) (hF : F < 2 ^ 52) :
    (withSign s (ofFields E F)).expBits = E ∧ (withSign s (ofFields E F)).frac = F ∧
      (withSign s (ofFields E F)).signBit = s := by
  have hb := ofFields_bits E F hE hF
  refine fields_of_bits _ s E F hE hF ?_
  cases s
  · rw [withSign_false, hb, Nat.add_comm, Nat.mul_comm, if_neg Bool.false_ne_true, Nat.zero_add]
  · rw [withSign_true_bits _ (by omega), hb]
    simp only [if_true, Nat.mul_add]
    omega

theorem not_nan_inf (x : F64) (hf : x.isFinite = true) : x.isNaN = false ∧ x.isInf = false := by
  have : x.expBits ≠ 2047 := by simpa [isFinite] using hf
  simp [isNaN, isInf, this]

theorem mant_exp_cases (x : F64) (hf : x.isFinite = true) (hz : x.isZero = false) :
    1 ≤ x.mant ∧ x.mant < 2 ^ 53 ∧ -1074 ≤ x.exp2 ∧ x.exp2 ≤ 971 ∧
      ((x.exp2 = -1074 ∧ x.mant < 2 ^ 52) ∨ 2 ^ 52 ≤ x.mant) := by
  have hE := expBits_lt x
  have hF := frac_lt x
  have hfin : x.expBits ≠ 2047 := by simpa [isFinite] using hf
  unfold mant exp2
  by_cases h0 : x.expBits = 0
  · have hfr : x.frac ≠ 0 := by
      intro h; simp [isZero, h0, h] at hz
    simp only [h0, beq_self_eq_true, if_true]
    exact ⟨by omega, by omega, by omega, by omega, Or.inl ⟨trivial, hF⟩⟩
  · have hb : (x.expBits == 0) = false := by simpa using h0
    simp only [hb, Bool.false_eq_true, if_false]
    exact ⟨by omega, by omega, by omega, by omega, Or.inr (by omega)⟩

theorem absRat_eq (x : F64) : absRat x = (x.mant * 2 ^ x.exp2.toNat, 2 ^ (-x.exp2).toNat) := by
  unfold absRat
  simp only []
  by_cases h : x.exp2 ≥ 0
  · have : (-x.exp2).toNat = 0 := by omega
    rw [if_pos h, this]
  · have : x.exp2.toNat = 0 := by omega
    rw [if_neg h, this]; simp

end F64

namespace FmtR
open F64

theorem log2_bounds (n : Nat) (h : n ≠ 0) : 2 ^ n.log2 ≤ n ∧ n < 2 ^ (n.log2 + 1) :=
  ⟨Nat.log2_self_le h, Nat.lt_log2_self⟩

theorem bitLen_eq (n : Nat) (h : n ≠ 0) : bitLen n = n.log2 + 1 := if_neg h

theorem toNat_split (z : Int) : ∃ a b : Nat, z.toNat = a ∧ (-z).toNat = b ∧ (a : Int) - b = z :=
  ⟨_, _, rfl, rfl, Int.toNat_sub_toNat_neg z⟩

theorem mul_two_pow_le {a b i j p q : Nat} (ha : a ≤ 2 ^ i) (hb : 2 ^ j ≤ b) (h : i + p ≤ j + q) :
    a * 2 ^ p ≤ b * 2 ^ q :=
  calc a * 2 ^ p ≤ 2 ^ i * 2 ^ p := Nat.mul_le_mul_right _ ha
    _ = 2 ^ (i + p) := (Nat.pow_add 2 i p).symm
    _ ≤ 2 ^ (j + q) := Nat.pow_le_pow_right (by decide) h
    _ = 2 ^ j * 2 ^ q := Nat.pow_add 2 j q
    _ ≤ b * 2 ^ q := Nat.mul_le_mul_right _ hb

theorem mul_two_pow_lt {a b i j p q : Nat} (ha : a < 2 ^ i) (hb : 2 ^ j ≤ b) (h : i + p ≤ j + q) :
    a * 2 ^ p < b * 2 ^ q :=
  Nat.lt_of_lt_of_le (Nat.mul_lt_mul_of_pos_right ha (Nat.two_pow_pos p))
    (mul_two_pow_le (Nat.le_refl _) hb h)

theorem shift_bounds (V : Nat) (h0 : V ≠ 0) (hV : V < 2 ^ 53) :
    V.log2 ≤ 52 ∧ 2 ^ 52 ≤ V * 2 ^ (52 - V.log2) ∧ V * 2 ^ (52 - V.log2) < 2 ^ 53 := by
  obtain ⟨l1, l2⟩ := log2_bounds V h0
  have hL : V.log2 < 53 := (Nat.log2_lt h0).2 hV
  refine ⟨by omega, ?_, ?_⟩
  · have := Nat.mul_le_mul_right (2 ^ (52 - V.log2)) l1
    rwa [← Nat.pow_add, show V.log2 + (52 - V.log2) = 52 by omega] at this
  · have := mul_two_pow_lt (p := 52 - V.log2) (q := 0) l2 (Nat.le_refl (2 ^ 53)) (by omega)
    simpa using this

theorem scaled_eq (n d : Nat) (e : Int) :
    scaled n d e = (n * 2 ^ (-e).toNat, d * 2 ^ e.toNat) := by
  unfold scaled
  by_cases h : e ≥ 0
  · have : (-e).toNat = 0 := by omega
    rw [if_pos h, this]; simp
  · have : e.toNat = 0 := by omega
    rw [if_neg h, this]; simp

theorem scaled_snd_pos (n d : Nat) (e : Int) (hd : 0 < d) : 0 < (scaled n d e).2 := by
  rw [scaled_eq]; exact Nat.mul_pos hd (Nat.two_pow_pos _)

theorem scaled_zero (d : Nat) (e : Int) : (scaled 0 d e).1 = 0 := by
  rw [scaled_eq]; exact Nat.zero_mul _

theorem scaled_scale (n d t : Nat) (e : Int) :
    scaled (n * t) (d * t) e = ((scaled n d e).1 * t, (scaled n d e).2 * t) := by
  simp only [scaled_eq, Nat.mul_right_comm]

/-- one exponent up: the denominator doubles or the numerator halves -/
theorem scaled_step (n d : Nat) (e : Int) :
    ((scaled n d (e + 1)).1 = (scaled n d e).1 ∧ (scaled n d (e + 1)).2 = 2 * (scaled n d e).2) ∨
    ((scaled n d e).1 = 2 * (scaled n d (e + 1)).1 ∧ (scaled n d (e + 1)).2 = (scaled n d e).2) := by
  simp only [scaled_eq]
  by_cases h : e ≥ 0
  · left
    rw [show (-(e + 1)).toNat = (-e).toNat by omega, show (e + 1).toNat = e.toNat + 1 by omega,
      Nat.pow_succ]
    exact ⟨rfl, by ac_rfl⟩
  · right
    rw [show (-e).toNat = (-(e + 1)).toNat + 1 by omega, show (e + 1).toNat = e.toNat by omega,
      Nat.pow_succ]
    exact ⟨by ac_rfl, rfl⟩

/-- at exponent `e` the quotient reaches the normal range: `2^52 ≤ n / (d·2^e)` -/
def Reaches (n d : Nat) (e : Int) : Prop := 2 ^ 52 * (scaled n d e).2 ≤ (scaled n d e).1

/-- `e` is the normalised exponent of `n / d` -/
def Norm (n d : Nat) (e : Int) : Prop :=
  Reaches n d e ∧ (scaled n d e).1 < 2 ^ 53 * (scaled n d e).2

theorem Reaches_succ_iff (n d : Nat) (e : Int) :
    Reaches n d (e + 1) ↔ 2 ^ 53 * (scaled n d e).2 ≤ (scaled n d e).1 := by
  unfold Reaches
  rcases scaled_step n d e with ⟨h1, h2⟩ | ⟨h1, h2⟩
  · rw [h1, h2]; omega
  · rw [h1, h2]; omega

theorem Reaches_anti (n d : Nat) (e : Int) (k : Nat) (h : Reaches n d (e + k)) : Reaches n d e := by
  induction k with
  | zero => simpa using h
  | succ k ih =>
    apply ih
    rw [show e + ((k + 1 : Nat) : Int) = e + (k : Int) + 1 by omega, Reaches_succ_iff] at h
    unfold Reaches; omega

theorem Norm_iff (n d : Nat) (e : Int) : Norm n d e ↔ Reaches n d e ∧ ¬ Reaches n d (e + 1) := by
  rw [Reaches_succ_iff]; unfold Norm Reaches; omega

/-- a larger exponent gives a smaller quotient -/
theorem not_Reaches_of_lt (n d : Nat) (e e' : Int) (hlt : e < e') (h : ¬ Reaches n d (e + 1)) : ¬ Reaches n d e' := by
  obtain ⟨k, hk⟩ : ∃ k : Nat, e' = e + 1 + k := ⟨(e' - (e + 1)).toNat, by omega⟩
  exact fun h' => h (Reaches_anti n d (e + 1) k (hk ▸ h'))

theorem Norm_unique (n d : Nat) (e e' : Int) (h : Norm n d e) (h' : Norm n d e') : e = e' := by
  rw [Norm_iff] at h h'
  rcases Int.lt_trichotomy e e' with hlt | heq | hgt
  · exact absurd h'.1 (not_Reaches_of_lt n d e e' hlt h.2)
  · exact heq
  · exact absurd h.1 (not_Reaches_of_lt n d e' e hgt h'.2)

theorem Norm_scale (n d t : Nat) (e : Int) (ht : 0 < t) : Norm (n * t) (d * t) e ↔ Norm n d e := by
  unfold Norm Reaches
  rw [scaled_scale]
  simp only []
  rw [← Nat.mul_assoc, ← Nat.mul_assoc, Nat.mul_le_mul_right_iff ht, Nat.mul_lt_mul_right ht]

end FmtR

namespace F32

/-- one correction step of the exponent guess in `roundPos` -/
def stepE (n d : Nat) (e : Int) : Int :=
  let q := (F64.scaled n d e).1 / (F64.scaled n d e).2
  if q < 2 ^ 52 then e - 1 else if q ≥ 2 ^ 53 then e + 1 else e

/-- the final rounding of `roundPos` at exponent `e` -/
def finish (n d : Nat) (e : Int) : Option UInt64 :=
  let a := (F64.scaled n d e).1
  let b := (F64.scaled n d e).2
  let q := a / b
  let r := a % b
  let q' := if 2 * r > b then q + 1 else if 2 * r < b then q else (if q % 2 = 1 then q + 1 else q)
  let (q'', e') := if q' = 2 ^ 53 then (2 ^ 52, e + 1) else (q', e)
  if e' > 971 then none
  else if q'' < 2 ^ 52 then some (UInt64.ofNat q'')
  else some (UInt64.ofNat (((e' + 1075).toNat <<< 52) + (q'' - 2 ^ 52)))

theorem roundPos_staged (n d : Nat) (hn : n ≠ 0) :
    F64.roundPos n d =
      finish n d (let e2 := stepE n d (stepE n d ((F64.bitLen n : Int) - (F64.bitLen d : Int) - 53))
                  if e2 < -1074 then -1074 else e2) := by
  unfold F64.roundPos
  rw [if_neg hn]
  unfold finish stepE
  with_reducible rfl

end F32

namespace FmtR
open F64
open F32 (stepE finish roundPos_staged)

/-- `a / b` rounded to the nearest integer, ties to even -/
def rnd (a b : Nat) : Nat :=
  let q := a / b
  let r := a % b
  if 2 * r > b then q + 1 else if 2 * r < b then q else (if q % 2 = 1 then q + 1 else q)

/-- the pattern assembled from a rounded significand `m ≤ 2^53` at exponent `e` -/
def enc (m : Nat) (e : Int) : Option UInt64 :=
  let (q'', e') := if m = 2 ^ 53 then (2 ^ 52, e + 1) else (m, e)
  if e' > 971 then none
  else if q'' < 2 ^ 52 then some (UInt64.ofNat q'')
  else some (UInt64.ofNat (((e' + 1075).toNat <<< 52) + (q'' - 2 ^ 52)))

/-- `roundPos` inlines the two steps; below they are reasoned about separately -/
theorem finish_eq (n d : Nat) (e : Int) :
    finish n d e = enc (rnd (scaled n d e).1 (scaled n d e).2) e := by
  unfold finish rnd enc
  with_reducible rfl

/-- the exponent `roundPos` settles on before clamping -/
def normExp (n d : Nat) : Int :=
  stepE n d (stepE n d ((bitLen n : Int) - (bitLen d : Int) - 53))

theorem roundPos_normExp (n d : Nat) (hn : n ≠ 0) :
    roundPos n d = finish n d (if normExp n d < -1074 then -1074 else normExp n d) :=
  roundPos_staged n d hn

/-- from an exponent that is not too high a correction step never goes down -/
theorem stepE_of_Reaches (n d : Nat) (e : Int) (hd : 0 < d) (h : Reaches n d e) :
    stepE n d e = if 2 ^ 53 * (scaled n d e).2 ≤ (scaled n d e).1 then e + 1 else e := by
  have hb := scaled_snd_pos n d e hd
  have h1 : ¬ ((scaled n d e).1 / (scaled n d e).2 < 2 ^ 52) := by
    rw [Nat.div_lt_iff_lt_mul hb]; exact Nat.not_lt.2 h
  simp only [stepE, if_neg h1, ge_iff_le, Nat.le_div_iff_mul_le hb]

theorem normExp_norm (n d : Nat) (hn : n ≠ 0) (hd : d ≠ 0) : Norm n d (normExp n d) := by
  have hd' : 0 < d := Nat.pos_of_ne_zero hd
  unfold normExp
  rw [bitLen_eq n hn, bitLen_eq d hd]
  -- the first guess is at most one too low: `2^52 ≤ n / (d·2^e) < 2^54`
  obtain ⟨h1, h2⟩ : Reaches n d (↑(n.log2 + 1) - ↑(d.log2 + 1) - 53) ∧
      (scaled n d (↑(n.log2 + 1) - ↑(d.log2 + 1) - 53)).1 <
        2 ^ 54 * (scaled n d (↑(n.log2 + 1) - ↑(d.log2 + 1) - 53)).2 := by
    obtain ⟨n1, n2⟩ := log2_bounds n hn
    obtain ⟨d1, d2⟩ := log2_bounds d hd
    unfold Reaches
    rw [scaled_eq]
    simp only [← Nat.mul_assoc]
    constructor
    · apply Nat.le_of_lt
      refine mul_two_pow_lt (i := 52 + (d.log2 + 1)) ?_ n1 (by omega)
      rw [Nat.pow_add]; exact Nat.mul_lt_mul_of_pos_left d2 (Nat.two_pow_pos 52)
    · refine mul_two_pow_lt (j := 54 + d.log2) n2 ?_ (by omega)
      rw [Nat.pow_add]; exact Nat.mul_le_mul_left _ d1
  generalize ((n.log2 + 1 : Nat) : Int) - ((d.log2 + 1 : Nat) : Int) - 53 = e at *
  rw [stepE_of_Reaches n d e hd' h1]
  by_cases h : 2 ^ 53 * (scaled n d e).2 ≤ (scaled n d e).1
  · have hN : Norm n d (e + 1) := (Norm_iff n d _).2 ⟨(Reaches_succ_iff n d e).2 h, by
      rw [Reaches_succ_iff]; rcases scaled_step n d e with ⟨a, b⟩ | ⟨a, b⟩
      · rw [a, b]; omega
      · rw [b]; rw [a] at h2; omega⟩
    rw [if_pos h, stepE_of_Reaches n d _ hd' hN.1, if_neg (Nat.not_le.2 hN.2)]; exact hN
  · have hN : Norm n d e := ⟨h1, Nat.lt_of_not_le h⟩
    rw [if_neg h, stepE_of_Reaches n d e hd' h1, if_neg h]; exact hN

/-- `roundPos` rounds at the normalised exponent, or at `-1074` below the normal range -/
theorem roundPos_eq_finish (n d : Nat) (hn : n ≠ 0) (hd : 0 < d) (e : Int) (he : -1074 ≤ e)
    (h : Norm n d e ∨ (e = -1074 ∧ ¬ Reaches n d e)) : roundPos n d = finish n d e := by
  have hN := normExp_norm n d hn (by omega)
  rw [roundPos_normExp n d hn]
  rcases h with h | ⟨rfl, h⟩
  · rw [← Norm_unique n d _ _ h hN, if_neg (by omega)]
  · rw [if_pos]
    apply Int.lt_of_not_ge
    intro hge
    obtain ⟨k, hk⟩ : ∃ k : Nat, normExp n d = -1074 + k := ⟨(normExp n d + 1074).toNat, by omega⟩
    exact h (Reaches_anti n d _ k (hk ▸ hN.1))

/-- an integer `n ≠ 0` has the normalised exponent `log2 n - 52`; `roundPos n 1` rounds there -/
theorem roundPos_one (n : Nat) (h0 : n ≠ 0) :
    Norm n 1 ((n.log2 : Int) - 52) ∧ roundPos n 1 = finish n 1 ((n.log2 : Int) - 52) := by
  obtain ⟨l1, l2⟩ := log2_bounds n h0
  have hN : Norm n 1 ((n.log2 : Int) - 52) := by
    unfold Norm Reaches
    rw [scaled_eq]
    simp only [← Nat.mul_assoc]
    exact ⟨mul_two_pow_le (i := 52) (Nat.le_of_eq (Nat.mul_one _)) l1 (by omega),
      mul_two_pow_lt (j := 53) l2 (Nat.le_of_eq (Nat.mul_one _).symm) (by omega)⟩
  exact ⟨hN, roundPos_eq_finish n 1 h0 Nat.one_pos _ (by omega) (Or.inl hN)⟩

theorem rnd_scale (a b t : Nat) (ht : 0 < t) : rnd (a * t) (b * t) = rnd a b := by
  unfold rnd
  rw [Nat.mul_div_mul_right _ _ ht, Nat.mul_mod_mul_right]
  have h1 : ∀ r, (2 * (r * t) > b * t) ↔ (2 * r > b) := fun r => by
    rw [← Nat.mul_assoc]; exact Nat.mul_lt_mul_right ht
  have h2 : ∀ r, (2 * (r * t) < b * t) ↔ (2 * r < b) := fun r => by
    rw [← Nat.mul_assoc]; exact Nat.mul_lt_mul_right ht
  simp only [h1, h2]

theorem roundPos_scale (n d t : Nat) (hd : 0 < d) (ht : 0 < t) :
    roundPos (n * t) (d * t) = roundPos n d := by
  by_cases hn : n = 0
  · subst hn; simp [roundPos]
  · have hnt : n * t ≠ 0 := Nat.ne_of_gt (Nat.mul_pos (Nat.pos_of_ne_zero hn) ht)
    have hdt : d * t ≠ 0 := Nat.ne_of_gt (Nat.mul_pos hd ht)
    have hE : normExp (n * t) (d * t) = normExp n d :=
      Norm_unique n d _ _ ((Norm_scale n d t _ ht).1 (normExp_norm _ _ hnt hdt))
        (normExp_norm n d hn (by omega))
    rw [roundPos_normExp _ _ hnt, roundPos_normExp _ _ hn, hE]
    simp only [finish_eq, scaled_scale, rnd_scale _ _ _ ht]

/-- `roundPos` is a function of the rational `n / d` -/
theorem roundPos_ratio (n1 d1 n2 d2 : Nat) (h1 : 0 < d1) (h2 : 0 < d2) (h : n1 * d2 = n2 * d1) :
    roundPos n1 d1 = roundPos n2 d2 := by
  rw [← roundPos_scale n1 d1 d2 h1 h2, ← roundPos_scale n2 d2 d1 h2 h1, h, Nat.mul_comm d1 d2]

/-- nearest-integer rounding of `A / B` when `|A/B - m| < 1/2` -/
theorem rnd_near (A B m : Nat) (h1 : 2 * (m * B) < 2 * A + B) (h2 : 2 * A < 2 * (m * B) + B) :
    rnd A B = m := by
  have hB : 0 < B := by
    rcases Nat.eq_zero_or_pos B with rfl | h
    · simp at h1 h2
    · exact h
  unfold rnd
  by_cases hle : m * B ≤ A
  · have hq : A / B = m := Nat.div_eq_of_lt_le hle (by rw [Nat.succ_mul]; omega)
    have hr := Nat.div_add_mod A B
    rw [hq, Nat.mul_comm] at hr
    simp only [hq]
    rw [if_neg (by omega), if_pos (by omega)]
  · obtain ⟨m', rfl⟩ : ∃ m', m = m' + 1 := ⟨m - 1, by
      rcases m with _ | m
      · simp at hle
      · rfl⟩
    rw [show (m' + 1) * B = m' * B + B from Nat.succ_mul _ _] at h1 h2 hle
    have hq : A / B = m' := Nat.div_eq_of_lt_le (by omega) (by rw [Nat.succ_mul]; omega)
    have hr := Nat.div_add_mod A B
    rw [hq, Nat.mul_comm] at hr
    simp only [hq]
    rw [if_pos (by omega)]

theorem enc_of_ne (m : Nat) (e : Int) (h : m ≠ 2 ^ 53) :
    enc m e = if e > 971 then none
      else if m < 2 ^ 52 then some (UInt64.ofNat m)
      else some (ofFields (e + 1075).toNat (m - 2 ^ 52)).bits := by
  unfold enc
  rw [if_neg h]
  rfl

theorem enc_carry (e : Int) : enc (2 ^ 53) (e - 1) = enc (2 ^ 52) e := by
  unfold enc
  have : (e - 1 + 1) = e := by omega
  simp [this]

theorem enc_self (x : F64) (hf : x.isFinite = true) : enc x.mant x.exp2 = some x.abs.bits := by
  have hE := expBits_lt x
  have hF := frac_lt x
  have hfin : x.expBits ≠ 2047 := by simpa [isFinite] using hf
  have hb : x.abs.bits = (ofFields x.expBits x.frac).bits :=
    UInt64.toNat_inj.1 (by rw [abs_bits_fields, ofFields_bits _ _ hE hF])
  rw [hb]
  unfold mant exp2
  by_cases h0 : x.expBits = 0
  · simp only [h0, beq_self_eq_true, if_true]
    rw [enc_of_ne _ _ (by omega), if_neg (by omega), if_pos hF]
    simp [ofFields]
  · have hb : (x.expBits == 0) = false := by simpa using h0
    simp only [hb, Bool.false_eq_true, if_false]
    rw [enc_of_ne _ _ (by omega), if_neg (by omega), if_neg (by omega)]
    have : ((x.expBits : Int) - 1075 + 1075).toNat = x.expBits := by omega
    rw [this, Nat.add_sub_cancel]

theorem fields_of_enc (y : F64) (m : Nat) (e : Int) (hm1 : 2 ^ 52 ≤ m) (hm2 : m < 2 ^ 53)
    (he1 : -1074 ≤ e) (he2 : e ≤ 971) (h : enc m e = some y.abs.bits) :
    y.isFinite = true ∧ y.mant = m ∧ y.exp2 = e := by
  rw [enc_of_ne _ _ (by omega), if_neg (by omega), if_neg (by omega)] at h
  -- `y.abs` is the pattern with these two fields, and `abs` keeps them
  have hy : ofFields (e + 1075).toNat (m - 2 ^ 52) = y.abs := congrArg F64.mk (Option.some.inj h)
  obtain ⟨hE, hFr, _⟩ := fields_withSign false (e + 1075).toNat (m - 2 ^ 52) (by omega) (by omega)
  rw [withSign_false, hy, (fields_abs y).1] at hE
  rw [withSign_false, hy, (fields_abs y).2.1] at hFr
  have h0 : ((e + 1075).toNat == 0) = false := by simp; omega
  simp only [isFinite, mant, exp2, hE, hFr, h0, bne_iff_ne, ne_eq, Bool.false_eq_true, if_false]
  omega

/-- `A/B` within half a unit of a significand `m` is below `2^53` -/
theorem close_upper {A B m : Nat} (m2 : m < 2 ^ 53) (h2 : 2 * A < 2 * (m * B) + B) :
    A < 2 ^ 53 * B := by
  have := Nat.mul_le_mul_right B m2
  rw [Nat.succ_mul] at this
  omega

/-- `A/B` below `2^52` is within half a unit of a normal significand `m` only for `m = 2^52` -/
theorem close_lower {A B m : Nat} (h52 : 2 ^ 52 ≤ m) (h1 : 2 * (m * B) < 2 * A + B)
    (hA : A < 2 ^ 52 * B) : m = 2 ^ 52 := by
  rcases Nat.eq_or_lt_of_le h52 with h | h
  · exact h.symm
  · have := Nat.mul_le_mul_right B h
    rw [Nat.succ_mul] at this
    omega

/-- `A/B` in `(2^52 - 1/4, 2^52)` is, one exponent lower (`A'/B' = 2·A/B`), in the binade and within
half a unit of `2^53` -/
theorem close_carry {A B A' B' : Nat} (hstep : (A = A' ∧ B = 2 * B') ∨ (A' = 2 * A ∧ B = B'))
    (hlt : A < 2 ^ 52 * B) (h3 : 4 * (2 ^ 52 * B) < 4 * A + B) :
    (2 ^ 52 * B' ≤ A' ∧ A' < 2 ^ 53 * B') ∧
      2 * (2 ^ 53 * B') < 2 * A' + B' ∧ 2 * A' < 2 * (2 ^ 53 * B') + B' := by
  rcases hstep with ⟨rfl, rfl⟩ | ⟨rfl, rfl⟩ <;> omega

/-- **Correct rounding, sufficient condition.**  With `A/B = (a/b) / 2^e`: if `|A/B - m| < 1/2`, and
`A/B > m - 1/4` when `m = 2^52` is the lower end of a normal binade, then `a/b` rounds to `m·2^e`. -/
theorem roundPos_close (a b m : Nat) (e : Int) (hb : 0 < b) (m1 : 1 ≤ m) (m2 : m < 2 ^ 53)
    (e1 : -1074 ≤ e) (hcase : (e = -1074 ∧ m < 2 ^ 52) ∨ 2 ^ 52 ≤ m)
    (h1 : 2 * (m * (scaled a b e).2) < 2 * (scaled a b e).1 + (scaled a b e).2)
    (h2 : 2 * (scaled a b e).1 < 2 * (m * (scaled a b e).2) + (scaled a b e).2)
    (h3 : m = 2 ^ 52 → -1074 < e →
      4 * (m * (scaled a b e).2) < 4 * (scaled a b e).1 + (scaled a b e).2) :
    roundPos a b = enc m e := by
  have ha : a ≠ 0 := by
    rintro rfl
    have := Nat.le_mul_of_pos_left (scaled 0 b e).2 m1
    rw [scaled_zero] at h1; omega
  by_cases hmain : m = 2 ^ 52 ∧ -1074 < e ∧ (scaled a b e).1 < m * (scaled a b e).2
  · -- just below a power of two: the quotient lives one exponent lower and rounds up to `2^53`
    obtain ⟨rfl, he, hlt⟩ := hmain
    have hstep := scaled_step a b (e - 1)
    rw [show e - 1 + 1 = e by omega] at hstep
    obtain ⟨hN, c1, c2⟩ := close_carry hstep hlt (h3 rfl he)
    rw [← enc_carry, roundPos_eq_finish a b ha hb (e - 1) (by omega) (Or.inl hN), finish_eq,
      rnd_near _ _ (2 ^ 53) c1 c2]
  · rw [roundPos_eq_finish a b ha hb e e1 ?_, finish_eq, rnd_near _ _ m h1 h2]
    by_cases hP : Reaches a b e
    · exact Or.inl ⟨hP, close_upper m2 h2⟩
    · refine Or.inr ⟨?_, hP⟩
      rcases hcase with h | h52
      · exact h.1
      · have hm := close_lower h52 h1 (Nat.lt_of_not_le hP)
        have : ¬ -1074 < e := fun he => hmain ⟨hm, he, hm ▸ Nat.lt_of_not_le hP⟩
        omega

/-- `m·2^e` itself: `n / d = m · 2^e` with `m`, `e` a significand and exponent -/
theorem roundPos_exact (n d m : Nat) (e : Int) (hd : 0 < d) (m1 : 1 ≤ m) (m2 : m < 2 ^ 53)
    (e1 : -1074 ≤ e) (hcase : (e = -1074 ∧ m < 2 ^ 52) ∨ 2 ^ 52 ≤ m)
    (hs : (scaled n d e).1 = m * (scaled n d e).2) : roundPos n d = enc m e := by
  have hB := scaled_snd_pos n d e hd
  refine roundPos_close n d m e hd m1 m2 e1 hcase ?_ ?_ (fun _ _ => ?_) <;> rw [hs] <;> omega

theorem roundPos_absRat (x : F64) (hf : x.isFinite = true) (hz : x.isZero = false) :
    roundPos (absRat x).1 (absRat x).2 = some x.abs.bits := by
  obtain ⟨m1, m2, e1, _, hcase⟩ := mant_exp_cases x hf hz
  rw [← enc_self x hf, absRat_eq]
  refine roundPos_exact _ _ _ _ (Nat.two_pow_pos _) m1 m2 e1 hcase ?_
  rw [scaled_eq]
  simp only [Nat.mul_assoc, Nat.mul_comm (2 ^ x.exp2.toNat)]

theorem isWhole_of_roundPos_int (x : F64) (V : Nat) (hV0 : V ≠ 0) (hV : V < 2 ^ 53)
    (h : roundPos V 1 = some x.abs.bits) : x.isWhole = true := by
  obtain ⟨_, hm1, hm2⟩ := shift_bounds V hV0 hV
  have hk : 52 - V.log2 ≤ 52 := Nat.sub_le _ _
  generalize 52 - V.log2 = k at *
  rw [roundPos_exact V 1 (V * 2 ^ k) (-(k : Int)) Nat.one_pos (by omega) hm2 (by omega) (Or.inr hm1)
    (by rw [scaled_eq]; simp)] at h
  obtain ⟨hfin, hm, he⟩ := fields_of_enc x _ _ hm1 hm2 (by omega) (by omega) h
  unfold isWhole
  rw [hfin, hm, he, Bool.true_and]
  by_cases hk : k = 0
  · subst hk; rfl
  · rw [if_neg (by omega), show (- -(k : Int)).toNat = k by omega, Nat.mul_mod_left]
    rfl

end FmtR
end Anytype
