/-
`Map` variants with arbitrary callback results (C14, general case).

A callback may return native Go slices / maps (then `parseVal` allocates fresh cells between the
additions to the result cell) or unsupported values (then `parseVal` panics). The loops of
`L.mapK`, `L.map`, `O.map`, `O.mapK` are all instances of one abstract loop `mapSpec`: for every
visited element, in order, normalise the callback result with `parseVal` on the current heap and
store the value in the result cell; stop at the first panic. `MapSteps` spells a successful run
out as the chain of heaps. When every result is scalar the run is the plain fold of the stores.

`Fr` / `FrX` strengthen `Heap.Ext0` / `Heap.Ext`: the `ego` table is the same at *every* address,
because fresh cells are allocated with ego 0, which is also what `ego` answers outside the heap.
That is what keeps the selection (`sel`, `getVal`) made on the heap before the call valid.
-/
import Anytype.Lemmas.Views
import Anytype.Lemmas.Heap
namespace Anytype

/-! ### frames: the heap grows, old cells stay, the `ego` table is unchanged -/

/-- `h'` extends `h`; every old cell other than `a` is identical; `ego` is the same everywhere
(fresh cells are allocated with ego 0, which is also what `ego` answers outside the heap) -/
structure FrX (a : Nat) (h h' : Heap) : Prop where
  len : h.length ≤ h'.length
  old : ∀ b, b < h.length → b ≠ a → h'[b]? = h[b]?
  ego : ∀ b, h'.ego b = h.ego b

/-- `h'` extends `h`, no old cell differs, `ego` is the same everywhere -/
structure Fr (h h' : Heap) : Prop where
  len : h.length ≤ h'.length
  old : ∀ b, b < h.length → h'[b]? = h[b]?
  ego : ∀ b, h'.ego b = h.ego b

theorem Fr.refl (h : Heap) : Fr h h := ⟨Nat.le_refl _, fun _ _ => rfl, fun _ => rfl⟩
theorem FrX.refl (a : Nat) (h : Heap) : FrX a h h :=
  ⟨Nat.le_refl _, fun _ _ _ => rfl, fun _ => rfl⟩

theorem Fr.toX {h h' : Heap} (e : Fr h h') (a : Nat) : FrX a h h' :=
  ⟨e.len, fun b hb _ => e.old b hb, e.ego⟩

theorem Fr.trans {h1 h2 h3 : Heap} (e1 : Fr h1 h2) (e2 : Fr h2 h3) : Fr h1 h3 :=
  ⟨Nat.le_trans e1.len e2.len,
   fun b hb => by rw [e2.old b (Nat.lt_of_lt_of_le hb e1.len), e1.old b hb],
   fun b => by rw [e2.ego, e1.ego]⟩

/-- touching only a cell that did not exist yet is a pure extension -/
theorem FrX.toFr {a : Nat} {h h' : Heap} (e : FrX a h h') (ha : h.length ≤ a) : Fr h h' :=
  ⟨e.len, fun b hb => e.old b hb (by omega), e.ego⟩

/-- allocating a cell registered at level 0 -/
theorem Fr.append0 (h : Heap) {c : Cell} (hc : Heap.ego [c] 0 = 0) : Fr h (h ++ [c]) :=
  ⟨List.length_append ▸ Nat.le_add_right _ _, fun _ hb => List.getElem?_append_left hb,
    Heap.ego_append_zero h hc⟩

theorem FrX.setItems (h : Heap) (a : Nat) (xs : List Val) : FrX a h (h.setItems a xs) :=
  ⟨Nat.le_of_eq (Heap.length_setItems h a xs).symm, fun _ _ hne => Heap.getElem?_setItems_ne h xs hne,
    fun b => Heap.ego_setItems h a b xs⟩

theorem FrX.setFields (h : Heap) (a : Nat) (xs : List (Str × Val)) : FrX a h (h.setFields a xs) :=
  ⟨Nat.le_of_eq (Heap.length_setFields h a xs).symm,
    fun _ _ hne => Heap.getElem?_setFields_ne h xs hne, fun b => Heap.ego_setFields h a b xs⟩

/-- a step that leaves all of `h₀` but cell `a` alone may be followed by one that writes `a`
or a cell that `h₀` did not have -/
theorem FrX.step {a a' : Nat} {h₀ h h' : Heap} (e : FrX a h₀ h) (e' : FrX a' h h')
    (ha' : a' = a ∨ h₀.length ≤ a') : FrX a h₀ h' :=
  ⟨Nat.le_trans e.len e'.len,
   fun b hb hne => by
    have hne' : b ≠ a' := fun eq =>
      ha'.elim (fun e' => hne (eq.trans e')) (fun hl => Nat.not_lt.2 hl (eq ▸ hb))
    rw [e'.old b (Nat.lt_of_lt_of_le hb e.len) hne', e.old b hb hne],
   fun b => by rw [e'.ego, e.ego]⟩

theorem FrX.trans {a : Nat} {h1 h2 h3 : Heap} (e1 : FrX a h1 h2) (e2 : FrX a h2 h3) :
    FrX a h1 h3 :=
  e1.step e2 (.inl rfl)

theorem Fr.trans_x {a : Nat} {h1 h2 h3 : Heap} (e1 : Fr h1 h2) (e2 : FrX a h2 h3)
    (ha : h1.length ≤ a) : Fr h1 h3 :=
  ((e1.toX a).trans e2).toFr ha

theorem FrX.keeps (a : Nat) (h₀ : Heap) :
    Heap.Keeps (FrX a h₀) (fun b => b = a ∨ h₀.length ≤ b) where
  alloc e _ hc := ⟨e.trans ((Fr.append0 _ (by rcases hc with rfl | rfl <;> rfl)).toX a), .inr e.len⟩
  items e ha xs := e.step (FrX.setItems _ _ xs) ha
  field e ha _ _ := e.step (FrX.setFields _ _ _) ha

theorem addEach_frx : ∀ (h : Heap) (a : Nat) (gs : List GoVal), FrX a h (addEach h a gs).1 :=
  fun h a gs => addEach_keeps (FrX.keeps a h) h a gs (FrX.refl a h) (.inl rfl)

theorem setEach_frx : ∀ (h : Heap) (a : Nat) (kvs : List (Str × GoVal)),
    FrX a h (setEach h a kvs).1 :=
  fun h a kvs => setEach_keeps (FrX.keeps a h) h a kvs (FrX.refl a h) (.inl rfl)

/-- `parseVal` only appends ego-0 cells (also when it panics) -/
theorem parseVal_fr (h : Heap) (g : GoVal) : Fr h (parseVal h g).1 :=
  (parseVal_keeps (FrX.keeps h.length h) h g (FrX.refl _ h)).toFr (Nat.le_refl _)

theorem parseVal_fr' {h h1 : Heap} {g : GoVal} {o : Out Val} (hp : parseVal h g = (h1, o)) :
    Fr h h1 := by
  have := parseVal_fr h g; rwa [hp] at this

/-! ### the abstract `Map` loop -/

/-- for every visited element, in order: normalise the callback result on the current heap, then
store the value; stop at the first panic (the heap is then the heap at the panic point) -/
def mapSpec {α} (store : Heap → α → Val → Heap) (g : α → GoVal) :
    Heap → List α → Heap × Out Unit
  | h, [] => (h, .ok ())
  | h, x :: xs =>
    match parseVal h (g x) with
    | (h1, .panic p) => (h1, .panic p)
    | (h1, .ok v) => mapSpec store g (store h1 x v) xs

/-- a successful run spelled out: `MapSteps store g h₀ [x₀,…,xₙ₋₁] [v₀,…,vₙ₋₁] hₙ` says there are
heaps with `parseVal hᵢ (g xᵢ) = (hᵢ', .ok vᵢ)` and `hᵢ₊₁ = store hᵢ' xᵢ vᵢ` -/
def MapSteps {α} (store : Heap → α → Val → Heap) (g : α → GoVal) :
    Heap → List α → List Val → Heap → Prop
  | h, [], vs, h' => vs = [] ∧ h' = h
  | h, x :: xs, vs, h' => ∃ h1 v vs', vs = v :: vs' ∧ parseVal h (g x) = (h1, .ok v) ∧
      MapSteps store g (store h1 x v) xs vs' h'

/-- what the `Map` methods return after the loop -/
def mapDone (res : Nat) : Heap × Out Unit → Heap × Out Ref
  | (h1, .ok _) => (h1, .ok ⟨res, 0⟩)
  | (h1, .panic p) => (h1, .panic p)

/-- `result.Add(v)` on the result list cell -/
def storeL {α} (res : Nat) : Heap → α → Val → Heap :=
  fun h1 _ v => h1.setItems res (h1.items res ++ [v])

/-- `result.Set(key, v)` on the result object cell -/
def storeO {α} (res : Nat) (key : α → Str) : Heap → α → Val → Heap :=
  fun h1 x v => h1.setFields res (setKV (h1.fields res) (key x) v)

theorem mapDone_fst (res : Nat) (q : Heap × Out Unit) : (mapDone res q).1 = q.1 := by
  obtain ⟨h1, _ | _⟩ := q <;> rfl

theorem MapSteps.length {α} {store : Heap → α → Val → Heap} {g : α → GoVal} :
    ∀ {xs : List α} {h : Heap} {vs : List Val} {h' : Heap},
      MapSteps store g h xs vs h' → vs.length = xs.length := by
  intro xs
  induction xs with
  | nil => intro _ _ _ hs; rw [hs.1]; rfl
  | cons x xs ih =>
    rintro _ _ _ ⟨_, _, _, rfl, _, hr⟩
    rw [List.length_cons, ih hr, List.length_cons]

/-- the loop succeeds exactly when every `parseVal` along the chain succeeds -/
theorem mapSpec_ok_iff {α} (store : Heap → α → Val → Heap) (g : α → GoVal) (xs : List α) :
    ∀ (h h' : Heap), mapSpec store g h xs = (h', .ok ()) ↔ ∃ vs, MapSteps store g h xs vs h' := by
  intro h h'
  constructor
  · induction xs generalizing h with
    | nil => intro e; cases e; exact ⟨[], rfl, rfl⟩
    | cons x xs ih =>
      rw [mapSpec]
      rcases hp : parseVal h (g x) with ⟨h1, v | q⟩
      · intro e
        obtain ⟨vs, hs⟩ := ih _ e
        exact ⟨v :: vs, h1, v, vs, rfl, hp, hs⟩
      · nofun
  · rintro ⟨vs, hs⟩
    induction xs generalizing h vs with
    | nil => rw [mapSpec, hs.2]
    | cons x xs ih =>
      obtain ⟨_, _, _, _, hp, hr⟩ := hs
      rw [mapSpec, hp]; exact ih _ _ hr

/-- the loop panics exactly when, after a successful run over a prefix of the visited elements,
`parseVal` of the next callback result panics: same kind, and the heap is the heap `parseVal`
leaves -/
theorem mapSpec_panic_iff {α} (store : Heap → α → Val → Heap) (g : α → GoVal) (xs : List α) :
    ∀ (h h' : Heap) (p : PanicKind), mapSpec store g h xs = (h', .panic p) ↔
      ∃ xs₁ x xs₂ vs h₁, xs = xs₁ ++ x :: xs₂ ∧ MapSteps store g h xs₁ vs h₁ ∧
        parseVal h₁ (g x) = (h', .panic p) := by
  intro h h' p
  constructor
  · induction xs generalizing h with
    | nil => nofun
    | cons y ys ih =>
      rw [mapSpec]
      rcases hp : parseVal h (g y) with ⟨h1, v | q⟩
      · intro e
        obtain ⟨xs₁, x, xs₂, vs, h₁, rfl, hs, hq⟩ := ih _ e
        exact ⟨y :: xs₁, x, xs₂, v :: vs, h₁, rfl, ⟨h1, v, vs, rfl, hp, hs⟩, hq⟩
      · intro e
        cases e
        exact ⟨[], y, ys, [], h, rfl, ⟨rfl, rfl⟩, hp⟩
  · rintro ⟨xs₁, x, xs₂, vs, h₁, rfl, hs, hq⟩
    induction xs₁ generalizing h vs with
    | nil => rw [List.nil_append, mapSpec, ← hs.2, hq]
    | cons z zs ih =>
      obtain ⟨_, _, _, _, hp, hr⟩ := hs
      rw [List.cons_append, mapSpec, hp]; exact ih _ _ hr

/-- whatever happens, only cell `res` of the old cells can differ and `ego` is unchanged -/
theorem mapSpec_frx {α} {res : Nat} {store : Heap → α → Val → Heap}
    (hst : ∀ h x v, FrX res h (store h x v)) (g : α → GoVal) (xs : List α) :
    ∀ h, FrX res h (mapSpec store g h xs).1 := by
  induction xs with
  | nil => intro h; exact FrX.refl res h
  | cons x xs ih =>
    intro h
    rw [mapSpec]
    rcases hp : parseVal h (g x) with ⟨h1, v | p⟩
    · exact ((parseVal_fr' hp).toX res).trans ((hst h1 x v).trans (ih _))
    · exact (parseVal_fr' hp).toX res

theorem storeL_frx {α} (res : Nat) (h : Heap) (x : α) (v : Val) : FrX res h (storeL res h x v) :=
  FrX.setItems h res _

theorem storeO_frx {α} (res : Nat) (key : α → Str) (h : Heap) (x : α) (v : Val) :
    FrX res h (storeO res key h x v) :=
  FrX.setFields h res _

/-- one step of a loop leaves the `ego` table as it was before the call -/
theorem ego_store_parse {α} {res : Nat} {store : Heap → α → Val → Heap}
    (hst : ∀ h x v, FrX res h (store h x v)) {h0 hc h1 : Heap} {g : GoVal} {o : Out Val}
    (hp : parseVal hc g = (h1, o)) (hego : ∀ b, hc.ego b = h0.ego b) (x : α) (v : Val) (b : Nat) :
    (store h1 x v).ego b = h0.ego b := by
  rw [(hst h1 x v).ego, (parseVal_fr' hp).ego, hego]

/-- a successful run on a result list cell appends the values, in order -/
theorem MapSteps.items_storeL {α} {res : Nat} {g : α → GoVal} {xs : List α} {h : Heap}
    {vs : List Val} {h' : Heap} (hs : MapSteps (storeL res) g h xs vs h')
    (hl : h.isList res = true) : h'.items res = h.items res ++ vs := by
  induction xs generalizing h vs with
  | nil => rw [hs.1, hs.2, List.append_nil]
  | cons x xs ih =>
    obtain ⟨h1, v, vs', rfl, hp, hr⟩ := hs
    have hc := (parseVal_fr' hp).old res (Heap.isList_lt hl)
    have hl1 : h1.isList res = true := by rw [Heap.isList_congr hc, hl]
    rw [ih hr (by rw [storeL, Heap.isList_setItems, hl1]), storeL,
      Heap.items_setItems_same _ hl1, Heap.items_congr hc, List.append_assoc, List.singleton_append]

/-- adding a field under the next key keeps the present and the coming keys distinct -/
theorem nodup_keys_snoc {β} {gs : List (Str × β)} {k : Str} {ks : List Str} (v : β)
    (hnd : (gs.map (·.1) ++ k :: ks).Nodup) :
    k ∉ gs.map (·.1) ∧ ((gs ++ [(k, v)]).map (·.1) ++ ks).Nodup :=
  ⟨fun hm => (List.nodup_append.mp hnd).2.2 _ hm _ List.mem_cons_self rfl,
    by rwa [List.map_append, List.append_assoc]⟩

/-- a successful run on a result object cell stores every value under the key of its element
(distinct keys not yet present: each `Set` adds a field) -/
theorem MapSteps.fields_storeO {α} {res : Nat} {key : α → Str} {g : α → GoVal} {xs : List α}
    {h : Heap} {vs : List Val} {h' : Heap} (hs : MapSteps (storeO res key) g h xs vs h')
    (hl : h.isObj res = true) (hnd : ((h.fields res).map (·.1) ++ xs.map key).Nodup) :
    h'.fields res = h.fields res ++ (xs.map key).zip vs := by
  induction xs generalizing h vs with
  | nil => rw [hs.1, hs.2]; simp
  | cons x xs ih =>
    obtain ⟨h1, v, vs', rfl, hp, hr⟩ := hs
    have hc := (parseVal_fr' hp).old res (Heap.isObj_lt hl)
    have hl1 : h1.isObj res = true := by rw [Heap.isObj_congr hc, hl]
    obtain ⟨hk, hnd'⟩ := nodup_keys_snoc v hnd
    have hf : (storeO res key h1 x v).fields res = h.fields res ++ [(key x, v)] := by
      rw [storeO, Heap.fields_setFields_same _ hl1, Heap.fields_congr hc, setKV_of_not_mem _ _ _ hk]
    rw [ih hr (by rw [storeO, Heap.isObj_setFields, hl1]) (by rw [hf]; exact hnd'), hf,
      List.append_assoc]
    rfl

/-! ### scalar results: no allocation, the run is the fold of the stores -/

theorem mapSpec_scalar {α} (store : Heap → α → Val → Heap) (g : α → GoVal) (xs : List α)
    (h : Heap) (hf : ∀ x ∈ xs, (g x).isScalar = true) :
    mapSpec store g h xs = (xs.foldl (fun h x => store h x (scalarVal (g x))) h, .ok ()) := by
  induction xs generalizing h with
  | nil => rfl
  | cons x xs ih =>
    rw [mapSpec, parseVal_scalar h (hf x List.mem_cons_self)]
    exact ih _ fun y hy => hf y (List.mem_cons_of_mem _ hy)

theorem storeL_append {α} (h : Heap) (ys : List Val) (e : Nat) (x : α) (v : Val) :
    storeL h.length (h ++ [.list ys e]) x v = h ++ [.list (ys ++ [v]) e] := by
  rw [storeL, Heap.items_append_new, Heap.setItems_append_new]

theorem storeO_append {α} {key : α → Str} (h : Heap) {gs : List (Str × Val)} (e : Nat) {x : α}
    (v : Val) (hk : key x ∉ gs.map (·.1)) :
    storeO h.length key (h ++ [.obj gs e]) x v = h ++ [.obj (gs ++ [(key x, v)]) e] := by
  rw [storeO, Heap.fields_append_new, Heap.setFields_append_new, setKV_of_not_mem _ _ _ hk]

theorem foldl_storeL {α} (h : Heap) (φ : α → Val) (e : Nat) (xs : List α) (ys : List Val) :
    xs.foldl (fun h1 x => storeL h.length h1 x (φ x)) (h ++ [.list ys e])
      = h ++ [.list (ys ++ xs.map φ) e] := by
  induction xs generalizing ys with
  | nil => simp
  | cons x xs ih => rw [List.foldl_cons, storeL_append, ih]; simp

theorem foldl_storeO {α} (h : Heap) (key : α → Str) (φ : α → Val) (e : Nat) (xs : List α)
    (gs : List (Str × Val)) (hnd : (gs.map (·.1) ++ xs.map key).Nodup) :
    xs.foldl (fun h1 x => storeO h.length key h1 x (φ x)) (h ++ [.obj gs e])
      = h ++ [.obj (gs ++ xs.map (fun x => (key x, φ x))) e] := by
  induction xs generalizing gs with
  | nil => simp
  | cons x xs ih =>
    obtain ⟨hk, hnd'⟩ := nodup_keys_snoc (φ x) hnd
    rw [List.foldl_cons, storeO_append h e (φ x) hk, ih _ hnd', List.append_assoc]
    rfl

/-! ### renaming the visited elements -/

theorem mapSpec_map {α β} (φ : α → β) (store : Heap → β → Val → Heap) (g : β → GoVal)
    (xs : List α) : ∀ h, mapSpec store g h (xs.map φ)
      = mapSpec (fun h x v => store h (φ x) v) (fun x => g (φ x)) h xs := by
  induction xs with
  | nil => intro h; rfl
  | cons x xs ih =>
    intro h
    rw [List.map_cons, mapSpec, mapSpec]
    rcases parseVal h (g (φ x)) with ⟨h1, v | p⟩
    · exact ih _
    · rfl

theorem MapSteps_map {α β} (φ : α → β) (store : Heap → β → Val → Heap) (g : β → GoVal)
    (xs : List α) : ∀ (h : Heap) (vs : List Val) (h' : Heap), MapSteps store g h (xs.map φ) vs h'
      ↔ MapSteps (fun h x v => store h (φ x) v) (fun x => g (φ x)) h xs vs h' := by
  induction xs with
  | nil => intro h vs h'; simp only [List.map_nil, MapSteps]
  | cons x xs ih => intro h vs h'; simp only [List.map_cons, MapSteps, ih]

/-! ### the whole call: allocate the result cell, loop, hand the cell back -/

/-- `result := NewList()`; the loop; `return result` -/
def runL {α} (h : Heap) (g : α → GoVal) (xs : List α) : Heap × Out Ref :=
  mapDone h.length (mapSpec (storeL h.length) g (h ++ [.list [] 0]) xs)

/-- `result := NewObject()`; the loop; `return result` -/
def runO {α} (h : Heap) (key : α → Str) (g : α → GoVal) (xs : List α) : Heap × Out Ref :=
  mapDone h.length (mapSpec (storeO h.length key) g (h ++ [.obj [] 0]) xs)

/-- allocate the result cell `c` (registered at level 0), loop, hand the cell back. Success or
panic: no old cell differs, the `ego` table is unchanged -/
theorem mapCall_fr {α} (h : Heap) {c : Cell} (hc : Heap.ego [c] 0 = 0)
    {store : Heap → α → Val → Heap} (hst : ∀ h1 x v, FrX h.length h1 (store h1 x v))
    (g : α → GoVal) (xs : List α) : Fr h (mapDone h.length (mapSpec store g (h ++ [c]) xs)).1 := by
  rw [mapDone_fst]
  exact (Fr.append0 h hc).trans_x (mapSpec_frx hst g xs _) (Nat.le_refl _)

theorem runL_fr {α} (h : Heap) (g : α → GoVal) (xs : List α) : Fr h (runL h g xs).1 :=
  mapCall_fr h rfl (storeL_frx h.length) g xs

theorem runO_fr {α} (h : Heap) (key : α → Str) (g : α → GoVal) (xs : List α) :
    Fr h (runO h key g xs).1 :=
  mapCall_fr h rfl (storeO_frx h.length key) g xs

theorem mapCall_ok_iff {α} (res : Nat) (store : Heap → α → Val → Heap) (g : α → GoVal)
    (h0 : Heap) (xs : List α) (h' : Heap) (r : Ref) :
    mapDone res (mapSpec store g h0 xs) = (h', .ok r) ↔
      r = ⟨res, 0⟩ ∧ ∃ vs, MapSteps store g h0 xs vs h' := by
  rw [← mapSpec_ok_iff]
  rcases mapSpec store g h0 xs with ⟨h1, u | q⟩
  · constructor
    · intro e; cases e; exact ⟨rfl, rfl⟩
    · rintro ⟨rfl, e⟩; cases e; rfl
  · constructor
    · nofun
    · rintro ⟨_, e⟩; cases e

theorem mapCall_panic_iff {α} (res : Nat) (store : Heap → α → Val → Heap) (g : α → GoVal)
    (h0 : Heap) (xs : List α) (h' : Heap) (p : PanicKind) :
    mapDone res (mapSpec store g h0 xs) = (h', .panic p) ↔
      ∃ xs₁ x xs₂ vs h₁, xs = xs₁ ++ x :: xs₂ ∧ MapSteps store g h0 xs₁ vs h₁ ∧
        parseVal h₁ (g x) = (h', .panic p) := by
  rw [← mapSpec_panic_iff]
  rcases mapSpec store g h0 xs with ⟨h1, u | q⟩
  · exact ⟨nofun, nofun⟩
  · constructor <;> (intro e; cases e; rfl)

/-- scalar results: one fresh list cell holding the converted results, in order -/
theorem runL_scalar {α} (h : Heap) (g : α → GoVal) (xs : List α)
    (hf : ∀ x ∈ xs, (g x).isScalar = true) :
    runL h g xs = (h ++ [.list (xs.map (fun x => scalarVal (g x))) 0], .ok ⟨h.length, 0⟩) := by
  rw [runL, mapSpec_scalar _ _ _ _ hf, foldl_storeL]; rfl

/-- scalar results, distinct keys: one fresh object cell holding every converted result under
the key of its element -/
theorem runO_scalar {α} (h : Heap) (key : α → Str) (g : α → GoVal) (xs : List α)
    (hnd : (xs.map key).Nodup) (hf : ∀ x ∈ xs, (g x).isScalar = true) :
    runO h key g xs
      = (h ++ [.obj (xs.map (fun x => (key x, scalarVal (g x)))) 0], .ok ⟨h.length, 0⟩) := by
  rw [runO, mapSpec_scalar _ _ _ _ hf, foldl_storeO _ _ _ _ _ _ (by simpa using hnd)]; rfl

/-- everything a successful list `Map` call guarantees -/
theorem runL_ok_facts {α} {h : Heap} {g : α → GoVal} {xs : List α} {h' : Heap} {r : Ref}
    (hm : runL h g xs = (h', .ok r)) :
    r = ⟨h.length, 0⟩ ∧ (∀ b, b < h.length → h'[b]? = h[b]?) ∧ (∀ b, h'.ego b = h.ego b) ∧
    ∃ vs, MapSteps (storeL h.length) g (h ++ [.list [] 0]) xs vs h' ∧
      h'.items r.addr = vs ∧ vs.length = xs.length := by
  obtain ⟨rfl, vs, hs⟩ := (mapCall_ok_iff ..).mp hm
  have fr := runL_fr h g xs
  rw [hm] at fr
  exact ⟨rfl, fr.old, fr.ego, vs, hs, by
    rw [hs.items_storeL (Heap.isList_append_new ..), Heap.items_append_new, List.nil_append],
    hs.length⟩

/-- everything a successful object `Map` call guarantees (distinct keys) -/
theorem runO_ok_facts {α} {h : Heap} {key : α → Str} {g : α → GoVal} {xs : List α} {h' : Heap}
    {r : Ref} (hnd : (xs.map key).Nodup) (hm : runO h key g xs = (h', .ok r)) :
    r = ⟨h.length, 0⟩ ∧ (∀ b, b < h.length → h'[b]? = h[b]?) ∧ (∀ b, h'.ego b = h.ego b) ∧
    ∃ vs, MapSteps (storeO h.length key) g (h ++ [.obj [] 0]) xs vs h' ∧
      vs.length = xs.length ∧ h'.fields r.addr = (xs.map key).zip vs ∧
      (∀ (i : Nat) (hi : i < xs.length) (hv : i < vs.length),
        lookup (h'.fields r.addr) (key xs[i]) = some vs[i]) ∧
      (∀ k, k ∉ xs.map key → lookup (h'.fields r.addr) k = none) := by
  obtain ⟨rfl, vs, hs⟩ := (mapCall_ok_iff ..).mp hm
  have fr := runO_fr h key g xs
  rw [hm] at fr
  have hf : h'.fields h.length = (xs.map key).zip vs := by
    rw [hs.fields_storeO (Heap.isObj_append_new ..) (by rw [Heap.fields_append_new]; exact hnd),
      Heap.fields_append_new, List.nil_append]
  refine ⟨rfl, fr.old, fr.ego, vs, hs, hs.length, hf, fun i hi hv => ?_, fun k hk => ?_⟩
  · -- the i-th pair of the zip, whose keys are the distinct `xs.map key`
    have hl : (xs.map key).length ≤ vs.length := by rw [hs.length, List.length_map]; exact Nat.le_refl _
    rw [hf]
    exact lookup_of_mem (by rwa [keysOf, List.map_fst_zip hl])
      (List.mem_iff_getElem.mpr ⟨i, by rw [List.length_zip, List.length_map]; omega,
        by rw [List.getElem_zip, List.getElem_map]⟩)
  · rw [hf]
    exact lookup_eq_none_iff.2 fun hmem =>
      let ⟨_, hp, e⟩ := List.mem_map.mp hmem
      hk (e ▸ (List.of_mem_zip hp).1)

/-! ### the concrete loops are instances -/

namespace L

theorem mapKLoop_eq_mapSpec (h0 : Heap) (res : Nat) (k : Kind) (f : Val → GoVal) (xs : List Val) :
    ∀ hc : Heap, (∀ b, hc.ego b = h0.ego b) →
      mapKLoop res k f hc xs
        = mapSpec (storeL res) f hc (xs.filterMap (sel h0 (viaGetValL k) k)) := by
  induction xs with
  | nil => intro hc _; rfl
  | cons x xs ih =>
    intro hc hego
    rw [mapKLoop, sel_congr hego, List.filterMap_cons]
    cases sel h0 (viaGetValL k) k x with
    | none => exact ih hc hego
    | some v =>
      dsimp only
      rw [mapSpec, addEach_single]
      rcases hp : parseVal hc (f v) with ⟨h1, w | p⟩
      · exact ih _ (ego_store_parse (storeL_frx res) hp hego v w)
      · rfl

theorem mapLoop_eq_mapSpec (h0 : Heap) (res : Nat) (f : Int → Val → GoVal) (xs : List Val) :
    ∀ (hc : Heap) (n : Nat), (∀ b, hc.ego b = h0.ego b) →
      mapLoop res f hc xs (n : Int)
        = mapSpec (storeL res) (fun q : Int × Val => f q.1 q.2) hc
            ((xs.zipIdx n).map (fun p => ((p.2 : Int), h0.getVal p.1))) := by
  induction xs with
  | nil => intro hc n _; rfl
  | cons x xs ih =>
    intro hc n hego
    rw [mapLoop, List.zipIdx_cons, List.map_cons, mapSpec, addEach_single, Heap.getVal_congr hego]
    rcases hp : parseVal hc (f (n : Int) (h0.getVal x)) with ⟨h1, w | p⟩
    · exact ih _ (n + 1) (ego_store_parse (storeL_frx res) hp hego ((n : Int), h0.getVal x) w)
    · rfl

end L

namespace O

/-- the fields `MapX` hands to the callback, with their keys -/
def visitsK (h0 : Heap) (kd : Kind) (fs : List (Str × Val)) : List (Str × Val) :=
  fs.filterMap (fun kv => (L.sel h0 (L.viaGetValL kd) kd kv.2).map (fun x => (kv.1, x)))

theorem mapKLoop_eq_mapSpec (h0 : Heap) (res : Nat) (kd : Kind) (f : Val → GoVal)
    (fs : List (Str × Val)) :
    ∀ hc : Heap, (∀ b, hc.ego b = h0.ego b) →
      mapKLoop res kd f hc fs
        = mapSpec (storeO res Prod.fst) (fun q : Str × Val => f q.2) hc (visitsK h0 kd fs) := by
  induction fs with
  | nil => intro hc _; rfl
  | cons p fs ih =>
    obtain ⟨key, x⟩ := p
    intro hc hego
    rw [mapKLoop, L.sel_congr hego, visitsK, List.filterMap_cons]
    cases L.sel h0 (L.viaGetValL kd) kd x with
    | none => exact ih hc hego
    | some v =>
      dsimp only [Option.map_some]
      rw [mapSpec]
      rcases hp : parseVal hc (f v) with ⟨h1, w | p⟩
      · exact ih _ (ego_store_parse (storeO_frx res Prod.fst) hp hego (key, v) w)
      · rfl

theorem mapLoop_eq_mapSpec (h0 : Heap) (res : Nat) (f : Str → Val → GoVal)
    (fs : List (Str × Val)) :
    ∀ hc : Heap, (∀ b, hc.ego b = h0.ego b) →
      mapLoop res f hc fs
        = mapSpec (storeO res Prod.fst) (fun q : Str × Val => f q.1 q.2) hc
            (fs.map (fun kv => (kv.1, h0.getVal kv.2))) := by
  induction fs with
  | nil => intro hc _; rfl
  | cons p fs ih =>
    obtain ⟨key, x⟩ := p
    intro hc hego
    rw [mapLoop, List.map_cons, mapSpec, Heap.getVal_congr hego]
    rcases hp : parseVal hc (f key (h0.getVal x)) with ⟨h1, w | p⟩
    · exact ih _ (ego_store_parse (storeO_frx res Prod.fst) hp hego (key, h0.getVal x) w)
    · rfl

theorem visitsK_nodup (h0 : Heap) (kd : Kind) (fs : List (Str × Val))
    (hnd : (fs.map Prod.fst).Nodup) : ((visitsK h0 kd fs).map Prod.fst).Nodup := by
  refine List.Sublist.nodup ?_ hnd
  clear hnd
  induction fs with
  | nil => exact List.Sublist.refl _
  | cons p fs ih =>
    simp only [visitsK, List.filterMap_cons, List.map_cons]
    cases L.sel h0 (L.viaGetValL kd) kd p.2 with
    | none => exact ih.cons _
    | some v => exact ih.cons_cons _

/-- the values handed to the callback are the selected values of the fields -/
theorem visitsK_snd (h0 : Heap) (kd : Kind) (fs : List (Str × Val)) :
    (visitsK h0 kd fs).map Prod.snd = (fs.map (·.2)).filterMap (L.sel h0 (L.viaGetValL kd) kd) := by
  rw [visitsK, List.map_filterMap, List.filterMap_map]
  congr; funext kv
  rw [Function.comp_apply]
  cases L.sel h0 (L.viaGetValL kd) kd kv.2 <;> rfl

/-- the entries a scalar `MapX` stores are the converted results for the visited fields -/
theorem visitsK_map_entry (h0 : Heap) (kd : Kind) (f : Val → GoVal) (fs : List (Str × Val)) :
    (visitsK h0 kd fs).map (fun q => (q.1, scalarVal (f q.2))) = fs.filterMap (mapKEntry h0 kd f) := by
  rw [visitsK, List.map_filterMap]
  congr; funext kv
  unfold mapKEntry
  cases L.sel h0 (L.viaGetValL kd) kd kv.2 <;> rfl

/-- the visited fields are the fields of kind `kd`: key and selected value -/
theorem mem_visitsK {h0 : Heap} {kd : Kind} {fs : List (Str × Val)} {q : Str × Val} :
    q ∈ visitsK h0 kd fs ↔ ∃ v, (q.1, v) ∈ fs ∧ L.sel h0 (L.viaGetValL kd) kd v = some q.2 := by
  unfold visitsK
  simp only [List.mem_filterMap, Option.map_eq_some_iff]
  constructor
  · rintro ⟨kv, hkv, x, hx, rfl⟩; exact ⟨kv.2, hkv, hx⟩
  · rintro ⟨v, hv, hx⟩; exact ⟨(q.1, v), hv, q.2, hx, rfl⟩

end O

end Anytype
