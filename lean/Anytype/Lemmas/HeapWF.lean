/-
Heap well-formedness ("no dangling or ill-kinded reference is stored anywhere") and its
preservation by the thirteen List operations of `LOp` (constructors, mutators, `SubList`, `Concat`)
and by programs of them.
-/
import Anytype.Lemmas.ListOps
import Anytype.Lemmas.Assoc
namespace Anytype
open Heap

/-- a stored value is valid in `h`: a container reference points to an existing cell of its kind -/
def Val.okIn (h : Heap) : Val → Prop
  | .list r => h.isList r.addr = true
  | .obj r => h.isObj r.addr = true
  | _ => True

/-- every reference stored in any cell points to an existing cell of the right kind -/
def HeapWF (h : Heap) : Prop :=
  ∀ a, (∀ v ∈ h.items a, v.okIn h) ∧ (∀ kv ∈ h.fields a, kv.2.okIn h)

mutual
/-- every container reference occurring in a Go argument (at any depth) is valid in `h` -/
def GoVal.okIn (h : Heap) : GoVal → Prop
  | .list r => h.isList r.addr = true
  | .obj r => h.isObj r.addr = true
  | .slice _ xs => okInList h xs
  | .map _ kvs => okInFields h kvs
  | _ => True
def okInList (h : Heap) : List GoVal → Prop
  | [] => True
  | g :: gs => g.okIn h ∧ okInList h gs
def okInFields (h : Heap) : List (Str × GoVal) → Prop
  | [] => True
  | (_, g) :: kvs => g.okIn h ∧ okInFields h kvs
end

/-- `h'` has every cell of `h`, with the same kind and ego -/
structure Heap.Mono (h h' : Heap) : Prop where
  len : h.length ≤ h'.length
  shape : ∀ b, b < h.length → (h'[b]?).map Cell.shape = (h[b]?).map Cell.shape

theorem Heap.Ext.mono {h h' : Heap} {a : Nat} (e : Ext h h' a) : Mono h h' := ⟨e.len, e.shape⟩
theorem Heap.Ext0.mono {h h' : Heap} (e : Ext0 h h') : Mono h h' := (e.toExt 0).mono
theorem Heap.Mono.refl (h : Heap) : Mono h h := ⟨Nat.le_refl _, fun _ _ => rfl⟩
theorem Heap.Mono.trans {h1 h2 h3 : Heap} (e1 : Mono h1 h2) (e2 : Mono h2 h3) : Mono h1 h3 :=
  ⟨Nat.le_trans e1.len e2.len, fun b hb => by
    rw [e2.shape b (Nat.lt_of_lt_of_le hb e1.len), e1.shape b hb]⟩

theorem Heap.Mono.isList {h h' : Heap} (m : Mono h h') {b : Nat} (hb : h.isList b = true) :
    h'.isList b = true := by
  rw [isList_of_shape (m.shape b (isList_lt hb))]; exact hb
theorem Heap.Mono.isObj {h h' : Heap} (m : Mono h h') {b : Nat} (hb : h.isObj b = true) :
    h'.isObj b = true := by
  rw [isObj_of_shape (m.shape b (isObj_lt hb))]; exact hb

theorem Val.okIn_mono {h h' : Heap} (m : Mono h h') {v : Val} (hv : v.okIn h) : v.okIn h' := by
  cases v <;> simp only [Val.okIn] at hv ⊢
  · exact m.isList hv
  · exact m.isObj hv

theorem okIn_mono_all {h h' : Heap} (m : Mono h h') :
    (∀ g : GoVal, g.okIn h → g.okIn h') ∧ (∀ gs, okInList h gs → okInList h' gs) ∧
    (∀ kvs, okInFields h kvs → okInFields h' kvs) := by
  refine GoVal.nested_induction ?_ (fun _ => trivial) (fun _ _ ih => ih) (fun _ _ ih => ih)
    (fun _ => trivial) (fun _ _ ihg ihgs hg => ⟨ihg hg.1, ihgs hg.2⟩)
    (fun _ => trivial) (fun _ _ _ ihg ihkvs hg => ⟨ihg hg.1, ihkvs hg.2⟩)
  intro g hs hg
  cases g with
  | list _ => exact m.isList hg
  | obj _ => exact m.isObj hg
  | _ => first | trivial | cases hs

theorem GoVal.okIn_mono {h h' : Heap} (m : Mono h h') (g : GoVal) : g.okIn h → g.okIn h' :=
  (okIn_mono_all m).1 g
theorem okInList_mono {h h' : Heap} (m : Mono h h') (gs : List GoVal) : okInList h gs → okInList h' gs :=
  (okIn_mono_all m).2.1 gs
theorem okInFields_mono {h h' : Heap} (m : Mono h h') (kvs : List (Str × GoVal)) :
    okInFields h kvs → okInFields h' kvs :=
  (okIn_mono_all m).2.2 kvs

theorem okInList_iff {h : Heap} {gs : List GoVal} : okInList h gs ↔ ∀ g ∈ gs, g.okIn h := by
  induction gs with
  | nil => simp [okInList]
  | cons g gs ih => simp [okInList, ih]

theorem scalar_okIn {h : Heap} {g : GoVal} (hs : g.isScalar = true) (hg : g.okIn h) :
    (scalarVal g).okIn h := by
  cases g <;> first | trivial | exact hg | cases hs

theorem HeapWF.nil : HeapWF [] := fun a =>
  ⟨fun _ hv => absurd (items_of_not_isList (h := []) (a := a) rfl ▸ hv) List.not_mem_nil,
   fun _ hv => absurd (fields_of_not_isObj (h := []) (a := a) rfl ▸ hv) List.not_mem_nil⟩

/-- a heap that keeps every cell's shape and in which some cells hold `xs` or `kvs` (valid before) in place of what
they held -/
theorem HeapWF.of_mono {h h' : Heap} (wf : HeapWF h) (m : Mono h h') (ci cf : Nat → Prop)
    [DecidablePred ci] [DecidablePred cf] {xs : List Val} {kvs : List (Str × Val)}
    (hi : ∀ b, h'.items b = if ci b then xs else h.items b)
    (hf : ∀ b, h'.fields b = if cf b then kvs else h.fields b)
    (hx : ∀ v ∈ xs, v.okIn h) (hk : ∀ kv ∈ kvs, kv.2.okIn h) : HeapWF h' := fun b => by
  rw [hi, hf]
  constructor
  · intro v hv
    split at hv
    · exact Val.okIn_mono m (hx v hv)
    · exact Val.okIn_mono m ((wf b).1 v hv)
  · intro kv hkv
    split at hkv
    · exact Val.okIn_mono m (hk kv hkv)
    · exact Val.okIn_mono m ((wf b).2 kv hkv)

theorem HeapWF.setItems {h : Heap} (wf : HeapWF h) (a : Nat) (xs : List Val)
    (hx : ∀ v ∈ xs, v.okIn h) : HeapWF (h.setItems a xs) :=
  wf.of_mono (Ext.setItems h a xs).mono _ (fun _ => False) (items_setItems h a · xs)
    (fun b => (fields_setItems h a b xs).trans (if_neg id).symm) hx (List.forall_mem_nil _)

theorem HeapWF.setItems_sub {h : Heap} (wf : HeapWF h) (a : Nat) (xs : List Val)
    (hx : ∀ v ∈ xs, v ∈ h.items a) : HeapWF (h.setItems a xs) :=
  wf.setItems a xs (fun v hv => (wf a).1 v (hx v hv))

theorem HeapWF.setFields {h : Heap} (wf : HeapWF h) (a : Nat) (kvs : List (Str × Val))
    (hx : ∀ kv ∈ kvs, kv.2.okIn h) : HeapWF (h.setFields a kvs) :=
  wf.of_mono (Ext.setFields h a kvs).mono (fun _ => False) _
    (fun b => (items_setFields h a b kvs).trans (if_neg id).symm) (fields_setFields h a · kvs)
    (List.forall_mem_nil _) hx

theorem HeapWF.append_list {h : Heap} (wf : HeapWF h) (xs : List Val) (e : Nat)
    (hx : ∀ v ∈ xs, v.okIn h) : HeapWF (h ++ [.list xs e]) :=
  wf.of_mono (Ext0.append h _).mono _ _ (items_append h _) (fields_append h _) hx (List.forall_mem_nil _)

theorem HeapWF.append_obj {h : Heap} (wf : HeapWF h) (kvs : List (Str × Val)) (e : Nat)
    (hx : ∀ kv ∈ kvs, kv.2.okIn h) : HeapWF (h ++ [.obj kvs e]) :=
  wf.of_mono (Ext0.append h _).mono _ _ (items_append h _) (fields_append h _) (List.forall_mem_nil _) hx

theorem HeapWF.setItems_cons {h : Heap} (wf : HeapWF h) (a : Nat) {v : Val} (hv : v.okIn h) (xs : List Val)
    (hx : ∀ w ∈ xs, w = v ∨ w ∈ h.items a) : HeapWF (h.setItems a xs) :=
  wf.setItems a xs fun w hw => by
    obtain rfl | hm := hx w hw
    · exact hv
    · exact (wf a).1 w hm

theorem parseVal_wf_all :
    (∀ (g : GoVal) h, HeapWF h → g.okIn h →
      HeapWF (parseVal h g).1 ∧ ∀ v, (parseVal h g).2 = .ok v → v.okIn (parseVal h g).1) ∧
    (∀ gs h a, HeapWF h → okInList h gs → HeapWF (addEach h a gs).1) ∧
    (∀ kvs h a, HeapWF h → okInFields h kvs → HeapWF (setEach h a kvs).1) := by
  refine GoVal.nested_induction ?_ ?_ ?_ ?_ ?_ ?_ ?_ ?_
  · intro g hs h wf hg
    rw [parseVal_scalar h hs]
    exact ⟨wf, fun _ hv => by cases hv; exact scalar_okIn hs hg⟩
  · exact fun h wf _ => ⟨wf, nofun⟩
  · intro fl xs ih h wf hg
    have e := addEach_ext (h ++ [.list [] 0]) h.length xs
    refine ⟨?_, fun v hv => ?_⟩
    · rw [parseVal_slice_fst]
      exact ih _ h.length (wf.append_list [] 0 (List.forall_mem_nil _))
        (okInList_mono (Ext0.append h _).mono xs hg)
    · cases (parseVal_slice_inv (Prod.ext rfl hv)).1
      show Heap.isList _ _ = true
      rw [parseVal_slice_fst, e.isList (length_lt_append ..), isList_append_new]
  · intro fl kvs ih h wf hg
    have e := setEach_ext (h ++ [.obj [] 0]) h.length kvs
    refine ⟨?_, fun v hv => ?_⟩
    · rw [parseVal_map_fst]
      exact ih _ h.length (wf.append_obj [] 0 (List.forall_mem_nil _))
        (okInFields_mono (Ext0.append h _).mono kvs hg)
    · cases (parseVal_map_inv (Prod.ext rfl hv)).1
      show Heap.isObj _ _ = true
      rw [parseVal_map_fst, e.isObj (length_lt_append ..), isObj_append_new]
  · exact fun h a wf _ => wf
  · intro g gs ihg ihgs h a wf hg
    have ih1 := ihg h wf hg.1
    have e1 := parseVal_ext0 h g
    rcases hp : parseVal h g with ⟨h1, v | k⟩ <;> rw [hp] at ih1 e1 <;> simp only [addEach, hp]
    · exact ihgs _ a
        (ih1.1.setItems_cons a (ih1.2 v rfl) _ fun w hw =>
          (List.mem_append.1 hw).symm.imp_left List.eq_of_mem_singleton)
        (okInList_mono (e1.mono.trans (Ext.setItems h1 a _).mono) gs hg.2)
    · exact ih1.1
  · exact fun h a wf _ => wf
  · intro k g kvs ihg ihkvs h a wf hg
    have ih1 := ihg h wf hg.1
    have e1 := parseVal_ext0 h g
    rcases hp : parseVal h g with ⟨h1, v | p⟩ <;> rw [hp] at ih1 e1 <;> simp only [setEach, hp]
    · have wf2 : HeapWF (h1.setFields a (setKV (h1.fields a) k v)) :=
        ih1.1.setFields a _ fun w hw => by
          obtain rfl | hw := mem_setKV hw
          · exact ih1.2 v rfl
          · exact (ih1.1 a).2 w hw
      exact ihkvs _ a wf2 (okInFields_mono (e1.mono.trans (Ext.setFields h1 a _).mono) kvs hg.2)
    · exact ih1.1

theorem parseVal_wf (h : Heap) (g : GoVal) : HeapWF h → g.okIn h →
    HeapWF (parseVal h g).1 ∧ ∀ v, (parseVal h g).2 = .ok v → v.okIn (parseVal h g).1 :=
  parseVal_wf_all.1 g h
theorem addEach_wf (h : Heap) (a : Nat) (gs : List GoVal) : HeapWF h → okInList h gs →
    HeapWF (addEach h a gs).1 :=
  parseVal_wf_all.2.1 gs h a
theorem setEach_wf : ∀ (h : Heap) (a : Nat) (kvs : List (Str × GoVal)), HeapWF h → okInFields h kvs →
    HeapWF (setEach h a kvs).1 :=
  fun h a kvs => parseVal_wf_all.2.2 kvs h a

namespace L

theorem storeWith_wf (h : Heap) (a : Nat) (g : GoVal) (f : List Val → Val → List Val) (wf : HeapWF h)
    (hg : g.okIn h) (hf : ∀ xs v, ∀ w ∈ f xs v, w = v ∨ w ∈ xs) : HeapWF (storeWith h a g f).1 := by
  have ih := parseVal_wf h g wf hg
  rcases hp : parseVal h g with ⟨h1, v | k⟩ <;> rw [hp] at ih
  · rw [storeWith_of_ok hp]; exact ih.1.setItems_cons a (ih.2 v rfl) _ (hf _ v)
  · rw [storeWith_of_panic hp]; exact ih.1

theorem Derives.wf {h : Heap} {xs : List Val} {r : Heap × Out Ref} (d : Derives h xs r) (wf : HeapWF h)
    (hx : ∀ v ∈ xs, v.okIn h) : HeapWF r.1 := by
  obtain ⟨k, rfl⟩ | rfl := d
  · exact wf
  · exact wf.append_list xs 0 hx

theorem deleteLoop_wf (h : Heap) (a : Nat) (ds : List Int) (wf : HeapWF h) :
    HeapWF (deleteLoop h a ds).1 := by
  induction ds generalizing h with
  | nil => exact wf
  | cons d ds ih =>
    unfold deleteLoop
    split
    · exact wf
    · exact ih _ (wf.setItems_sub a _ fun w hw =>
        (List.mem_append.1 hw).elim List.mem_of_mem_take List.mem_of_mem_drop)

theorem sort_wf (h : Heap) (a : Nat) (wf : HeapWF h) : HeapWF (sort h a).1 := by
  -- what `Sort` stores are scalars
  have sc {α} (C : α → Val) (hC : ∀ x, (C x).okIn h) (zs : List α) : HeapWF (h.setItems a (zs.map C)) :=
    wf.setItems a _ fun w hw => by obtain ⟨z, _, rfl⟩ := List.mem_map.1 hw; exact hC z
  unfold sort
  simp only
  split
  · exact wf
  · exact sc .str (fun _ => trivial) _
  · exact sc .int (fun _ => trivial) _
  · exact sc .float (fun _ => trivial) _
  · exact wf

end L

/-! ### programs of List operations -/

/-- one List operation with its receiver (an address) and arguments -/
inductive LOp
  | new (gs : List GoVal)
  | newOf (g : GoVal) (count : Int)
  | newFrom (g : GoVal)
  | add (a : Nat) (gs : List GoVal)
  | insert (a : Nat) (i : Int) (g : GoVal)
  | replace (a : Nat) (i : Int) (g : GoVal)
  | delete (a : Nat) (idx : List Int)
  | pop (a : Nat)
  | clear (a : Nat)
  | reverse (a : Nat)
  | sort (a : Nat)
  | subList (a : Nat) (s e : Int)
  | concat (a : Nat) (r : Ref)

/-- the heap after the operation (at the panic point if it panics) -/
def stepL (h : Heap) : LOp → Heap
  | .new gs => (L.new h gs).1
  | .newOf g c => (L.newOf h g c).1
  | .newFrom g => (L.newFrom h g).1
  | .add a gs => (L.add h a gs).1
  | .insert a i g => (L.insert h a i g).1
  | .replace a i g => (L.replace h a i g).1
  | .delete a idx => (L.delete h a idx).1
  | .pop a => (L.pop h a).1
  | .clear a => (L.clear h a).1
  | .reverse a => (L.reverse h a).1
  | .sort a => (L.sort h a).1
  | .subList a s e => (L.subList h a s e).1
  | .concat a r => (L.concat h a r).1

/-- the container references among the arguments (at any depth) are valid in `h`;
indexes, counts and the receiver are unconstrained -/
def LOp.okIn (h : Heap) : LOp → Prop
  | .new gs => okInList h gs
  | .newOf g _ => g.okIn h
  | .newFrom g => g.okIn h
  | .add _ gs => okInList h gs
  | .insert _ _ g => g.okIn h
  | .replace _ _ g => g.okIn h
  | _ => True

def runL (h : Heap) : List LOp → Heap
  | [] => h
  | op :: ops => runL (stepL h op) ops

/-- every operation's reference arguments are valid in the heap it is executed in -/
def ProgOk (h : Heap) : List LOp → Prop
  | [] => True
  | op :: ops => op.okIn h ∧ ProgOk (stepL h op) ops

/-- each operation stores only converted arguments and elements its lists held before -/
theorem stepL_wf (h : Heap) (op : LOp) (wf : HeapWF h) (hop : op.okIn h) : HeapWF (stepL h op) := by
  cases op with
  | new gs =>
    show HeapWF (L.new h gs).1
    rw [L.new_fst, ← parseVal_slice_fst h .any gs]
    exact (parseVal_wf h (.slice .any gs) wf hop).1
  | newOf g c =>
    show HeapWF (L.newOf h g c).1
    rw [L.newOf_fst]; split
    · exact wf
    · exact L.storeWith_wf _ _ g _ (wf.append_list [] 0 (List.forall_mem_nil _))
        (GoVal.okIn_mono (Ext0.append h _).mono g hop) fun _ _ w hw => .inl (List.eq_of_mem_replicate hw)
  | newFrom g =>
    show HeapWF (L.newFrom h g).1
    obtain e | e := L.newFrom_fst h g <;> rw [e]
    · exact wf
    · exact (parseVal_wf h g wf hop).1
  | add a gs =>
    show HeapWF (L.add h a gs).1
    rw [L.add_fst]
    exact addEach_wf h a gs wf hop
  | insert a i g =>
    show HeapWF (L.insert h a i g).1
    rw [L.insert_eq]; split
    · refine L.storeWith_wf h a g _ wf hop fun xs v w hw => ?_
      split at hw
      · simpa [or_comm] using hw
      · obtain hw | hw := List.mem_or_eq_of_mem_set hw
        · exact .inr ((List.mem_append.1 hw).elim List.mem_of_mem_take List.mem_of_mem_drop)
        · exact .inl hw
    · exact wf
  | replace a i g =>
    show HeapWF (L.replace h a i g).1
    rw [L.replace_eq]; split
    · exact L.storeWith_wf h a g _ wf hop fun _ _ _ hw => (List.mem_or_eq_of_mem_set hw).symm
    · exact wf
  | delete a idx =>
    show HeapWF (L.delete h a idx).1
    rw [L.delete_fst]
    exact L.deleteLoop_wf h a _ wf
  | pop a =>
    show HeapWF (L.delete h a _).1
    rw [L.delete_fst]
    exact L.deleteLoop_wf h a _ wf
  | clear a => exact wf.setItems a [] (List.forall_mem_nil _)
  | reverse a =>
    show HeapWF (L.reverse h a).1
    rw [L.reverse_eq]
    exact wf.setItems_sub a _ fun w hw => List.mem_reverse.1 hw
  | sort a => exact L.sort_wf h a wf
  | subList a s e =>
    exact (L.subList_derives h a s e).wf wf fun w hw =>
      (wf a).1 w (List.mem_of_mem_drop (List.mem_of_mem_take hw))
  | concat a r =>
    exact (L.concat_derives h a r).wf wf fun w hw =>
      (List.mem_append.1 hw).elim ((wf a).1 w) ((wf r.addr).1 w)

theorem stepL_mono (h : Heap) (op : LOp) : Mono h (stepL h op) := by
  cases op with
  | new gs => exact (L.new_ext0 h gs).mono
  | newOf g c => exact (L.newOf_ext0 h g c).mono
  | newFrom g => exact (L.newFrom_ext0 h g).mono
  | add a gs => exact (L.add_ext h a gs).mono
  | insert a i g => exact (L.insert_ext h a i g).mono
  | replace a i g => exact (L.replace_ext h a i g).mono
  | delete a idx => exact (L.delete_ext h a idx).mono
  | pop a => exact (L.pop_ext h a).mono
  | clear a => exact (L.clear_ext h a).mono
  | reverse a => exact (L.reverse_ext h a).mono
  | sort a => exact (L.sort_ext h a).mono
  | subList a s e => exact (L.subList_derives h a s e).ext0.mono
  | concat a r => exact (L.concat_derives h a r).ext0.mono

theorem ProgOk_take {h : Heap} {ops : List LOp} (hp : ProgOk h ops) (k : Nat) : ProgOk h (ops.take k) := by
  induction ops generalizing h k with
  | nil => simpa using hp
  | cons op ops ih =>
    cases k with
    | zero => simp [ProgOk]
    | succ k => exact ⟨hp.1, ih hp.2 k⟩

theorem runL_wf (h : Heap) (ops : List LOp) (wf : HeapWF h) (hp : ProgOk h ops) : HeapWF (runL h ops) := by
  induction ops generalizing h with
  | nil => exact wf
  | cons op ops ih => exact ih _ (stepL_wf h op wf hp.1) hp.2

theorem runL_mono (h : Heap) (ops : List LOp) : Mono h (runL h ops) := by
  induction ops generalizing h with
  | nil => exact Mono.refl h
  | cons op ops ih => exact (stepL_mono h op).trans (ih _)

end Anytype
