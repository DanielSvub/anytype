/-
Reification (`reify`), reachability (`reach`) and `build`. One level of `reify` / `reach` is stated
once for lists and objects; a successful reification depends only on the cells it went through
(hence fuel monotonicity and locality); `build` only appends cells, and the value it returns denotes
the tree through the new cells alone.
-/
import Anytype.Lemmas.HeapWF
import Anytype.Model.ObjectOps
namespace Anytype
open Heap

/-- the address a container value refers to; `none` on a scalar -/
def Val.addr? : Val → Option Nat
  | .list r => some r.addr
  | .obj r => some r.addr
  | _ => none

/-- the container a value refers to is in `P`; true of every scalar -/
def Val.refP (P : Nat → Prop) : Val → Prop
  | .list r => P r.addr
  | .obj r => P r.addr
  | _ => True

namespace Rf

mutual
def depth : JVal → Nat
  | .null => 0 | .bool _ => 0 | .int _ => 0 | .float _ => 0 | .str _ => 0
  | .list xs => depthList xs + 1
  | .obj kvs => depthFields kvs + 1
def depthList : List JVal → Nat
  | [] => 0
  | x :: xs => max (depth x) (depthList xs)
def depthFields : List (Str × JVal) → Nat
  | [] => 0
  | (_, x) :: kvs => max (depth x) (depthFields kvs)
end

/-! ### one level of `reify` and `reach`, the same for lists and objects -/

section
variable {n m : Nat} {h h2 : Heap}

/-- what the container `v` refers to stores; `[]` for a scalar and for a reference that does not
point to a cell of its kind -/
def kids (h : Heap) : Val → List Val
  | .list r => h.items r.addr
  | .obj r => (h.fields r.addr).map (·.2)
  | _ => []

theorem reify_list_succ (n : Nat) (h : Heap) (r : Ref) : reify (n + 1) h (.list r) =
    if h.isList r.addr = true then (reifyList n h (h.items r.addr)).map .list else none := by
  rw [reify]
  cases hc : h[r.addr]? with
  | none => simp only [isList, hc]; rfl
  | some c => cases c <;> simp only [isList, items, hc] <;> rfl

theorem reify_obj_succ (n : Nat) (h : Heap) (r : Ref) : reify (n + 1) h (.obj r) =
    if h.isObj r.addr = true then (reifyFields n h (h.fields r.addr)).map .obj else none := by
  rw [reify]
  cases hc : h[r.addr]? with
  | none => simp only [isObj, hc]; rfl
  | some c => cases c <;> simp only [isObj, fields, hc] <;> rfl

theorem reifyList_cons (n : Nat) (h : Heap) (x : Val) (xs : List Val) : reifyList n h (x :: xs) =
    (reify n h x).bind fun t => (reifyList n h xs).map (t :: ·) := by
  rw [reifyList]
  cases reify n h x <;> cases reifyList n h xs <;> rfl

theorem reifyList_cons_eq_some {x : Val} {xs : List Val} {ts : List JVal}
    (hts : reifyList n h (x :: xs) = some ts) :
    ∃ t us, reify n h x = some t ∧ reifyList n h xs = some us ∧ ts = t :: us := by
  rw [reifyList_cons] at hts
  obtain ⟨t, ht, hts⟩ := Option.bind_eq_some_iff.1 hts
  obtain ⟨us, hus, rfl⟩ := Option.map_eq_some_iff.1 hts
  exact ⟨t, us, ht, hus, rfl⟩

theorem reifyFields_eq (n : Nat) (h : Heap) (kvs : List (Str × Val)) :
    reifyFields n h kvs = (reifyList n h (kvs.map (·.2))).map (List.zip (kvs.map (·.1))) := by
  induction kvs with
  | nil => simp [reifyFields, reifyList]
  | cons kv kvs ih =>
    simp only [List.map_cons]
    rw [reifyFields, reifyList, ih]
    cases reify n h kv.2 <;> cases reifyList n h (kvs.map (·.2)) <;> rfl

theorem reach_succ (n : Nat) (h : Heap) (v : Val) :
    reach (n + 1) h v = v.addr?.toList ++ reachList n h (kids h v) := by
  cases v <;> simp only [reach, kids, Val.addr?, reachList] <;> rfl

theorem mem_reachList {a : Nat} (xs : List Val) :
    a ∈ reachList n h xs ↔ ∃ x ∈ xs, a ∈ reach n h x := by
  induction xs with
  | nil => simp [reachList]
  | cons x xs ih => rw [reachList, List.mem_append, ih]; simp

theorem mem_reach_succ {v : Val} {a : Nat} :
    a ∈ reach (n + 1) h v ↔ v.addr? = some a ∨ ∃ x ∈ kids h v, a ∈ reach n h x := by
  rw [reach_succ, List.mem_append, mem_reachList, Option.mem_toList]

theorem mem_reach_of_kid {v x : Val} {a : Nat} (hx : x ∈ kids h v)
    (ha : a ∈ reach n h x) : a ∈ reach (n + 1) h v := mem_reach_succ.2 (Or.inr ⟨x, hx, ha⟩)

/-! ### transfer of a successful reification to more fuel / another heap -/

theorem reifyList_of (xs : List Val) (ts : List JVal)
    (hv : ∀ x ∈ xs, ∀ t, reify n h x = some t → reify m h2 x = some t)
    (hts : reifyList n h xs = some ts) : reifyList m h2 xs = some ts := by
  induction xs generalizing ts with
  | nil => rw [reifyList] at hts ⊢; exact hts
  | cons x xs ih =>
    obtain ⟨t, us, ht, hus, rfl⟩ := reifyList_cons_eq_some hts
    rw [reifyList_cons, hv x List.mem_cons_self t ht,
      ih us (fun y hy => hv y (List.mem_cons_of_mem _ hy)) hus]; rfl

theorem reifyFields_of (kvs : List (Str × Val)) (ts : List (Str × JVal))
    (hv : ∀ x ∈ kvs.map (·.2), ∀ t, reify n h x = some t → reify m h2 x = some t)
    (hts : reifyFields n h kvs = some ts) : reifyFields m h2 kvs = some ts := by
  rw [reifyFields_eq] at hts ⊢
  obtain ⟨us, hus, rfl⟩ := Option.map_eq_some_iff.1 hts
  rw [reifyList_of _ us hv hus]; rfl

/-- a successful reification stays the same with more fuel and in any heap that keeps the cells it
went through -/
theorem reify_transfer : ∀ (n m : Nat) (v : Val) (t : JVal), n ≤ m →
    (∀ a ∈ reach n h v, ∀ c, h[a]? = some c → h2[a]? = some c) →
    reify n h v = some t → reify m h2 v = some t := by
  intro n
  induction n with
  | zero =>
    intro m v t _ _ ht
    cases v with
    | list r => simp only [reify] at ht; cases ht
    | obj r => simp only [reify] at ht; cases ht
    | _ => simpa only [reify] using ht
  | succ n ihn =>
    intro m v t hm hr ht
    obtain ⟨m, rfl⟩ := Nat.exists_eq_succ_of_ne_zero (Nat.ne_of_gt (Nat.lt_of_lt_of_le n.succ_pos hm))
    have ih : ∀ x ∈ kids h v, ∀ t, reify n h x = some t → reify m h2 x = some t :=
      fun x hx t => ihn m x t (Nat.le_of_succ_le_succ hm)
        (fun a ha => hr a (mem_reach_of_kid hx ha))
    cases v with
    | list r =>
      rw [reify_list_succ] at ht ⊢
      split at ht
      · next hl =>
        obtain ⟨ts, hts, rfl⟩ := Option.map_eq_some_iff.1 ht
        have hl2 := hr r.addr (mem_reach_succ.2 (Or.inl rfl)) _ (getElem?_of_isList hl)
        rw [if_pos (isList_iff.2 ⟨_, _, hl2⟩), items_congr (hl2.trans (getElem?_of_isList hl).symm),
          reifyList_of (h.items r.addr) ts ih hts]; rfl
      · cases ht
    | obj r =>
      rw [reify_obj_succ] at ht ⊢
      split at ht
      · next hl =>
        obtain ⟨ts, hts, rfl⟩ := Option.map_eq_some_iff.1 ht
        have hl2 := hr r.addr (mem_reach_succ.2 (Or.inl rfl)) _ (getElem?_of_isObj hl)
        rw [if_pos (isObj_iff.2 ⟨_, _, hl2⟩), fields_congr (hl2.trans (getElem?_of_isObj hl).symm),
          reifyFields_of (h.fields r.addr) ts ih hts]; rfl
      · cases ht
    | _ => simpa only [reify] using ht

/-- `h2` has every cell of `h` (and may have more): `Ext0 h h2` without the length clause -/
def Sub (h h2 : Heap) : Prop := ∀ (a : Nat) (c : Cell), h[a]? = some c → h2[a]? = some c

theorem ext0_of_append (h extra : Heap) : Ext0 h (h ++ extra) :=
  ⟨by simp, fun _ hb => List.getElem?_append_left hb⟩

theorem Sub.refl (h : Heap) : Sub h h := fun _ _ e => e
theorem Sub.trans {h1 h2 h3 : Heap} (s1 : Sub h1 h2) (s2 : Sub h2 h3) : Sub h1 h3 :=
  fun a c e => s2 a c (s1 a c e)
theorem Sub.of_ext0 {h h2 : Heap} (e : Ext0 h h2) : Sub h h2 := fun a c hc => by
  rw [e.same a (List.getElem?_eq_some_iff.1 hc).1]; exact hc
theorem Sub.append (h extra : Heap) : Sub h (h ++ extra) := Sub.of_ext0 (ext0_of_append h extra)

theorem reify_mono_sub (hs : Sub h h2) (n m : Nat) (hnm : n ≤ m) (v : Val) (t : JVal) :
    reify n h v = some t → reify m h2 v = some t :=
  reify_transfer n m v t hnm (fun a _ => hs a)

theorem reify_mono (hnm : n ≤ m) {v : Val} {t : JVal}
    (ht : reify n h v = some t) : reify m h v = some t :=
  reify_mono_sub (Sub.refl h) n m hnm v t ht

theorem reifyList_mono_sub {h h2 : Heap} (hs : Sub h h2) {n m : Nat} (hnm : n ≤ m)
    {xs : List Val} {ts : List JVal} (ht : reifyList n h xs = some ts) :
    reifyList m h2 xs = some ts :=
  reifyList_of xs ts (fun x _ => reify_mono_sub hs n m hnm x) ht

theorem reifyFields_mono_sub {h h2 : Heap} (hs : Sub h h2) {n m : Nat} (hnm : n ≤ m)
    {kvs : List (Str × Val)} {ts : List (Str × JVal)} (ht : reifyFields n h kvs = some ts) :
    reifyFields m h2 kvs = some ts :=
  reifyFields_of kvs ts (fun x _ => reify_mono_sub hs n m hnm x) ht

theorem reify_scalar_eq (n m : Nat) (h h2 : Heap) (v : Val)
    (hv : (∀ r, v ≠ .list r) ∧ (∀ r, v ≠ .obj r)) : reify n h v = reify m h2 v := by
  cases v with
  | list r => exact absurd rfl (hv.1 r)
  | obj r => exact absurd rfl (hv.2 r)
  | _ => simp only [reify]

theorem depthList_le (ts : List JVal) : depthList ts ≤ n ↔ ∀ t ∈ ts, depth t ≤ n := by
  induction ts with
  | nil => simp [depthList]
  | cons t ts ih => rw [depthList, Nat.max_le, ih, List.forall_mem_cons]

theorem depthFields_le (kts : List (Str × JVal)) :
    depthFields kts ≤ n ↔ ∀ kt ∈ kts, depth kt.2 ≤ n := by
  induction kts with
  | nil => simp [depthFields]
  | cons kt kts ih => rw [depthFields, Nat.max_le, ih, List.forall_mem_cons]

theorem reifyList_mem {xs : List Val} {ts : List JVal}
    (hts : reifyList n h xs = some ts) : ∀ t ∈ ts, ∃ x ∈ xs, reify n h x = some t := by
  induction xs generalizing ts with
  | nil => rw [reifyList] at hts; cases hts; intro t ht; cases ht
  | cons x xs ih =>
    obtain ⟨t', us, hx, hus, rfl⟩ := reifyList_cons_eq_some hts
    intro t ht
    rcases List.mem_cons.1 ht with rfl | ht
    · exact ⟨x, List.mem_cons_self, hx⟩
    · obtain ⟨y, hy, hyt⟩ := ih hus t ht
      exact ⟨y, List.mem_cons_of_mem _ hy, hyt⟩

/-! ### locality: `reify n h v` and `reach n h v` only look at the cells in `reach n h v` -/

theorem kids_congr {v : Val} (hc : ∀ a, v.addr? = some a → h2[a]? = h[a]?) :
    kids h2 v = kids h v := by
  cases v <;> simp only [kids]
  · exact items_congr (hc _ rfl)
  · rw [fields_congr (hc _ rfl)]

theorem reachList_congr (xs : List Val)
    (hx : ∀ x ∈ xs, reach n h2 x = reach n h x) : reachList n h2 xs = reachList n h xs := by
  induction xs with
  | nil => rw [reachList, reachList]
  | cons x xs ih =>
    rw [reachList, reachList, hx x List.mem_cons_self,
      ih (fun y hy => hx y (List.mem_cons_of_mem _ hy))]

theorem reach_congr :
    ∀ (n : Nat) (v : Val), (∀ a ∈ reach n h v, h2[a]? = h[a]?) → reach n h2 v = reach n h v := by
  intro n
  induction n with
  | zero => intro v _; simp only [reach]
  | succ n ih =>
    intro v hr
    rw [reach_succ, reach_succ, kids_congr (fun a ha => hr a (mem_reach_succ.2 (Or.inl ha))),
      reachList_congr _ (fun x hx => ih x (fun a ha => hr a (mem_reach_of_kid hx ha)))]

theorem reify_congr (n : Nat) (v : Val) (hr : ∀ a ∈ reach n h v, h2[a]? = h[a]?) :
    reify n h2 v = reify n h v := by
  cases e : reify n h v with
  | some t => exact reify_transfer n n v t (Nat.le_refl n) (fun a ha c hc => by rw [hr a ha]; exact hc) e
  | none =>
    cases e2 : reify n h2 v with
    | none => rfl
    | some t =>
      rw [← reach_congr n v hr] at hr
      rw [← e, reify_transfer n n v t (Nat.le_refl n) (fun a ha c hc => by rw [← hr a ha]; exact hc) e2]

end

/-! ### a value denoting a tree through the cells of an address interval -/

/-- the later heap `H` (second) has at `[lo, hi)` the cells `h` has there -/
def AgreeOn (lo hi : Nat) (h H : Heap) : Prop := ∀ b : Nat, lo ≤ b → b < hi → H[b]? = h[b]?

theorem AgreeOn.refl (lo hi : Nat) (h : Heap) : AgreeOn lo hi h h := fun _ _ _ => rfl
theorem AgreeOn.trans {lo hi lo' hi' : Nat} {h1 h2 h3 : Heap} (a1 : AgreeOn lo hi h1 h2)
    (a2 : AgreeOn lo' hi' h2 h3) (hlo : lo' ≤ lo) (hhi : hi ≤ hi') : AgreeOn lo hi h1 h3 :=
  fun b h1' h2' => by
    rw [a2 b (Nat.le_trans hlo h1') (Nat.lt_of_lt_of_le h2' hhi), a1 b h1' h2']
theorem AgreeOn.of_ext {lo hi : Nat} {h H : Heap} {a : Nat} (e : Ext h H a) (hhi : hi ≤ h.length)
    (ha : a < lo ∨ hi ≤ a) : AgreeOn lo hi h H :=
  fun b h1 h2 => e.other b (Nat.lt_of_lt_of_le h2 hhi) fun hba =>
    ha.elim (fun hl => absurd (hba ▸ h1) (Nat.not_le.2 hl)) (fun hl => absurd (hba ▸ h2) (Nat.not_lt.2 hl))

/-- `v` denotes the tree `t`, and that only depends on the cells of `h` at `[lo, hi)`: in every
heap with the same cells there, `v` reifies to `t` and reaches only addresses in `[lo, hi)`.
Inside `Rf` the field names shadow `Anytype.reify` / `Anytype.reach`, written in full below. -/
structure Denotes (lo hi : Nat) (h : Heap) (v : Val) (t : JVal) : Prop where
  reify : ∀ H, AgreeOn lo hi h H → ∀ n, depth t ≤ n → reify n H v = some t
  reach : ∀ H, AgreeOn lo hi h H → ∀ n a, a ∈ reach n H v → lo ≤ a ∧ a < hi

inductive All2 {α β : Type} (R : α → β → Prop) : List α → List β → Prop
  | nil : All2 R [] []
  | cons {a b as bs} : R a b → All2 R as bs → All2 R (a :: as) (b :: bs)

def DenotesList (lo hi : Nat) (h : Heap) (vs : List Val) (ts : List JVal) : Prop :=
  All2 (Denotes lo hi h) vs ts

def DenotesFields (lo hi : Nat) (h : Heap) (fs : List (Str × Val)) (ts : List (Str × JVal)) : Prop :=
  All2 (fun kv kt => kv.1 = kt.1 ∧ Denotes lo hi h kv.2 kt.2) fs ts

variable {lo hi : Nat} {h : Heap} {v : Val} {t : JVal}

theorem Denotes.mono {lo hi lo' hi' : Nat} {h h' : Heap}
    (d : Denotes lo hi h v t) (ag : AgreeOn lo hi h h') (hlo : lo' ≤ lo) (hhi : hi ≤ hi') :
    Denotes lo' hi' h' v t :=
  ⟨fun H aH => d.reify H (ag.trans aH hlo hhi),
   fun H aH n a ha =>
    have := d.reach H (ag.trans aH hlo hhi) n a ha
    ⟨Nat.le_trans hlo this.1, Nat.lt_of_lt_of_le this.2 hhi⟩⟩

theorem DenotesList.mono {lo hi lo' hi' : Nat} {h h' : Heap} {vs : List Val} {ts : List JVal}
    (d : DenotesList lo hi h vs ts) (ag : AgreeOn lo hi h h') (hlo : lo' ≤ lo) (hhi : hi ≤ hi') :
    DenotesList lo' hi' h' vs ts := by
  induction d with
  | nil => exact All2.nil
  | cons d _ ih => exact All2.cons (d.mono ag hlo hhi) ih

theorem DenotesFields.mono {lo hi lo' hi' : Nat} {h h' : Heap} {fs : List (Str × Val)}
    {ts : List (Str × JVal)}
    (d : DenotesFields lo hi h fs ts) (ag : AgreeOn lo hi h h') (hlo : lo' ≤ lo) (hhi : hi ≤ hi') :
    DenotesFields lo' hi' h' fs ts := by
  induction d with
  | nil => exact All2.nil
  | cons d _ ih => exact All2.cons ⟨d.1, d.2.mono ag hlo hhi⟩ ih

theorem DenotesList.nil (lo hi : Nat) (h : Heap) : DenotesList lo hi h [] [] := All2.nil
theorem DenotesFields.nil (lo hi : Nat) (h : Heap) : DenotesFields lo hi h [] [] := All2.nil

theorem DenotesList.cons {vs : List Val} {ts : List JVal}
    (d : Denotes lo hi h v t) (ds : DenotesList lo hi h vs ts) :
    DenotesList lo hi h (v :: vs) (t :: ts) := All2.cons d ds

theorem DenotesFields.cons {k : Str}
    {fs : List (Str × Val)} {ts : List (Str × JVal)}
    (d : Denotes lo hi h v t) (ds : DenotesFields lo hi h fs ts) :
    DenotesFields lo hi h ((k, v) :: fs) ((k, t) :: ts) := All2.cons ⟨rfl, d⟩ ds

/-- what `Add` / `Set` of a new key do -/
theorem DenotesList.snoc {vs : List Val} {ts : List JVal}
    (ds : DenotesList lo hi h vs ts) (d : Denotes lo hi h v t) :
    DenotesList lo hi h (vs ++ [v]) (ts ++ [t]) := by
  induction ds with
  | nil => exact All2.cons d All2.nil
  | cons d' _ ih => exact All2.cons d' ih

theorem DenotesFields.snoc {k : Str}
    {fs : List (Str × Val)} {ts : List (Str × JVal)}
    (ds : DenotesFields lo hi h fs ts) (d : Denotes lo hi h v t) :
    DenotesFields lo hi h (fs ++ [(k, v)]) (ts ++ [(k, t)]) := by
  induction ds with
  | nil => exact All2.cons ⟨rfl, d⟩ All2.nil
  | cons d' _ ih => exact All2.cons d' ih

theorem DenotesList.reify {vs : List Val} {ts : List JVal}
    (ds : DenotesList lo hi h vs ts) (H : Heap) (aH : AgreeOn lo hi h H) (n : Nat)
    (hn : depthList ts ≤ n) : reifyList n H vs = some ts := by
  induction ds with
  | nil => rw [reifyList]
  | cons d _ ih =>
    rw [depthList, Nat.max_le] at hn
    rw [reifyList, d.reify H aH n hn.1, ih hn.2]

theorem DenotesList.reach {vs : List Val} {ts : List JVal}
    (ds : DenotesList lo hi h vs ts) (H : Heap) (aH : AgreeOn lo hi h H) (n a : Nat)
    (ha : a ∈ reachList n H vs) : lo ≤ a ∧ a < hi := by
  induction ds with
  | nil => rw [reachList] at ha; cases ha
  | cons d _ ih =>
    rw [reachList] at ha
    rcases List.mem_append.1 ha with ha | ha
    · exact d.reach H aH n a ha
    · exact ih ha

theorem DenotesFields.reify {fs : List (Str × Val)} {ts : List (Str × JVal)}
    (ds : DenotesFields lo hi h fs ts) (H : Heap) (aH : AgreeOn lo hi h H) (n : Nat)
    (hn : depthFields ts ≤ n) : reifyFields n H fs = some ts := by
  induction ds with
  | nil => rw [reifyFields]
  | @cons kv kt _ _ d _ ih =>
    obtain ⟨k, v⟩ := kv
    obtain ⟨k', t⟩ := kt
    obtain ⟨rfl, d⟩ : k = k' ∧ Denotes lo hi h v t := d
    rw [depthFields, Nat.max_le] at hn
    rw [reifyFields, d.reify H aH n hn.1, ih hn.2]

theorem DenotesFields.values {fs : List (Str × Val)}
    {ts : List (Str × JVal)} (ds : DenotesFields lo hi h fs ts) :
    DenotesList lo hi h (fs.map (·.2)) (ts.map (·.2)) := by
  induction ds with
  | nil => exact All2.nil
  | cons d _ ih => exact All2.cons d.2 ih

theorem DenotesFields.reach {fs : List (Str × Val)} {ts : List (Str × JVal)}
    (ds : DenotesFields lo hi h fs ts) (H : Heap) (aH : AgreeOn lo hi h H) (n a : Nat)
    (ha : a ∈ reachList n H (fs.map (·.2))) : lo ≤ a ∧ a < hi :=
  ds.values.reach H aH n a ha

theorem DenotesFields.keys {lo hi : Nat} {h : Heap} {fs : List (Str × Val)} {ts : List (Str × JVal)}
    (ds : DenotesFields lo hi h fs ts) : fs.map (·.1) = ts.map (·.1) := by
  induction ds with
  | nil => rfl
  | cons d _ ih => simp [d.1, ih]

theorem Denotes.scalar (lo hi : Nat) (h : Heap) {v : Val} {t : JVal}
    (hv : (∀ r, v ≠ .list r) ∧ (∀ r, v ≠ .obj r)) (ht : Anytype.reify 0 h v = some t) :
    Denotes lo hi h v t := by
  constructor
  · intro H _ n _
    rw [← ht]; exact reify_scalar_eq _ _ _ _ _ hv
  · intro H _ n a ha
    cases v with
    | list r => exact absurd rfl (hv.1 r)
    | obj r => exact absurd rfl (hv.2 r)
    | _ => cases n <;> simp [Anytype.reach] at ha

theorem Denotes.list {r : Ref} {vs : List Val} {e : Nat} {ts : List JVal}
    (hc : h[r.addr]? = some (.list vs e)) (hlo : lo ≤ r.addr) (hhi : r.addr < hi)
    (ds : DenotesList lo hi h vs ts) : Denotes lo hi h (.list r) (.list ts) := by
  constructor
  · intro H aH n hn
    cases n with
    | zero => exact absurd hn (Nat.not_succ_le_zero _)
    | succ n =>
      rw [Anytype.reify, aH _ hlo hhi, hc]
      exact congrArg (Option.map JVal.list) (ds.reify H aH n (Nat.le_of_succ_le_succ hn))
  · intro H aH n a ha
    cases n with
    | zero => rw [Anytype.reach] at ha; cases ha
    | succ n =>
      simp only [Anytype.reach, items, aH _ hlo hhi, hc] at ha
      rcases List.mem_cons.1 ha with rfl | ha
      · exact ⟨hlo, hhi⟩
      · exact ds.reach H aH n a ha

theorem Denotes.obj {r : Ref} {fs : List (Str × Val)} {e : Nat}
    {ts : List (Str × JVal)}
    (hc : h[r.addr]? = some (.obj fs e)) (hlo : lo ≤ r.addr) (hhi : r.addr < hi)
    (ds : DenotesFields lo hi h fs ts) : Denotes lo hi h (.obj r) (.obj ts) := by
  constructor
  · intro H aH n hn
    cases n with
    | zero => exact absurd hn (Nat.not_succ_le_zero _)
    | succ n =>
      rw [Anytype.reify, aH _ hlo hhi, hc]
      exact congrArg (Option.map JVal.obj) (ds.reify H aH n (Nat.le_of_succ_le_succ hn))
  · intro H aH n a ha
    cases n with
    | zero => rw [Anytype.reach] at ha; cases ha
    | succ n =>
      simp only [Anytype.reach, fields, aH _ hlo hhi, hc] at ha
      rcases List.mem_cons.1 ha with rfl | ha
      · exact ⟨hlo, hhi⟩
      · exact ds.reach H aH n a ha

/-! region closedness (`Lemmas/Closed.lean`): what `build` needs of it -/

/-- every cell in `P` stores only references into `P` -/
def Closed (P : Nat → Prop) (h : Heap) : Prop :=
  ∀ a, P a → (∀ v ∈ h.items a, v.refP P) ∧ (∀ kv ∈ h.fields a, kv.2.refP P)

/-- every address from `n` on (the cells still to be allocated) is in `P` -/
def UpFrom (P : Nat → Prop) (n : Nat) : Prop := ∀ a, n ≤ a → P a

theorem UpFrom.mono {P : Nat → Prop} {n m : Nat} (u : UpFrom P n) (hnm : n ≤ m) : UpFrom P m :=
  fun a ha => u a (Nat.le_trans hnm ha)

/-- the values a cell stores, of a list or of an object -/
def cellVals : Cell → List Val
  | .list xs _ => xs
  | .obj kvs _ => kvs.map (·.2)

/-- allocation: the new cell has to reference `P` only if its own address is in `P` -/
theorem Closed.append {P : Nat → Prop} {h : Heap} (cl : Closed P h) (c : Cell)
    (hx : P h.length → ∀ v ∈ cellVals c, v.refP P) : Closed P (h ++ [c]) := by
  intro b hb
  rw [items_append, fields_append]
  by_cases hc : b = h.length
  · rw [if_pos hc, if_pos hc]
    cases c with
    | list xs e => exact ⟨hx (hc ▸ hb), List.forall_mem_nil _⟩
    | obj kvs e => exact ⟨List.forall_mem_nil _, fun kv hkv => hx (hc ▸ hb) _ (List.mem_map_of_mem hkv)⟩
  · rw [if_neg hc, if_neg hc]; exact cl b hb

theorem add_max_le {a b c d e : Nat} (h1 : a + b ≤ d) (h2 : d + c ≤ e) : a + max b c ≤ e := by
  rcases Nat.le_total b c with hbc | hbc
  · rw [Nat.max_eq_right hbc]
    exact Nat.le_trans (Nat.add_le_add_right (Nat.le_trans (Nat.le_add_right a b) h1) c) h2
  · rw [Nat.max_eq_left hbc]
    exact Nat.le_trans h1 (Nat.le_trans (Nat.le_add_right d c) h2)

theorem le_of_prefix {h h' extra : Heap} (he : h' = h ++ extra) : h.length ≤ h'.length := by
  rw [he, List.length_append]; exact Nat.le_add_right _ _

/-! ### `build` -/

theorem build_list_eq (h : Heap) (xs : List JVal) :
    build h (.list xs) = ((buildList h xs).1 ++ [.list (buildList h xs).2 0],
      .list ⟨(buildList h xs).1.length, 0⟩) := by
  rw [build]
theorem build_obj_eq (h : Heap) (kvs : List (Str × JVal)) :
    build h (.obj kvs) = ((buildFields h kvs).1 ++ [.obj (buildFields h kvs).2 0],
      .obj ⟨(buildFields h kvs).1.length, 0⟩) := by
  rw [build]
theorem buildList_cons_eq (h : Heap) (x : JVal) (xs : List JVal) :
    buildList h (x :: xs) =
      ((buildList (build h x).1 xs).1, (build h x).2 :: (buildList (build h x).1 xs).2) := by
  rw [buildList]
theorem buildFields_cons_eq (h : Heap) (k : Str) (x : JVal) (kvs : List (Str × JVal)) :
    buildFields h ((k, x) :: kvs) =
      ((buildFields (build h x).1 kvs).1, (k, (build h x).2) :: (buildFields (build h x).1 kvs).2) := by
  rw [buildFields]

theorem agreeOn_append (lo : Nat) (h extra : Heap) : AgreeOn lo h.length h (h ++ extra) :=
  fun b _ hb => (ext0_of_append h extra).same b hb

/-- what `build` does, from `h` to `h'` with result `v` for the tree `t`: only appends cells (at
least `depth t` of them); `v` denotes `t` through the new cells alone; a closed region that contains
every unused address stays closed and contains `v` -/
def BuildOK (h h' : Heap) (v : Val) (t : JVal) : Prop :=
  (∃ extra, h' = h ++ extra) ∧ h.length + depth t ≤ h'.length ∧
  Denotes h.length h'.length h' v t ∧
  ∀ P, Closed P h → UpFrom P h.length → Closed P h' ∧ v.refP P

theorem buildList_ok {xs : List JVal}
    (hel : ∀ x ∈ xs, ∀ h, BuildOK h (build h x).1 (build h x).2 x) (h : Heap) :
    (∃ extra, (buildList h xs).1 = h ++ extra) ∧ h.length + depthList xs ≤ (buildList h xs).1.length ∧
    DenotesList h.length (buildList h xs).1.length (buildList h xs).1 (buildList h xs).2 xs ∧
    ∀ P, Closed P h → UpFrom P h.length →
      Closed P (buildList h xs).1 ∧ ∀ v ∈ (buildList h xs).2, v.refP P := by
  induction xs generalizing h with
  | nil =>
    rw [buildList]
    exact ⟨⟨[], (List.append_nil h).symm⟩, Nat.le_refl _, DenotesList.nil _ _ _,
      fun _ cl _ => ⟨cl, List.forall_mem_nil _⟩⟩
  | cons x xs ih =>
    obtain ⟨⟨e1, he1⟩, hd1, d1, c1⟩ := hel x List.mem_cons_self h
    obtain ⟨⟨e2, he2⟩, hd2, d2, c2⟩ :=
      ih (fun y hy => hel y (List.mem_cons_of_mem _ hy)) (build h x).1
    have hl1 := le_of_prefix he1
    have hl2 := le_of_prefix he2
    rw [buildList_cons_eq]
    refine ⟨⟨e1 ++ e2, by rw [he2, he1, List.append_assoc]⟩, ?_,
      DenotesList.cons (d1.mono (he2 ▸ agreeOn_append _ _ _) (Nat.le_refl _) hl2)
        (d2.mono (AgreeOn.refl _ _ _) hl1 (Nat.le_refl _)), fun P cl up =>
      have s1 := c1 P cl up
      have s2 := c2 P s1.1 (up.mono hl1)
      ⟨s2.1, List.forall_mem_cons.2 ⟨s1.2, s2.2⟩⟩⟩
    rw [depthList]; exact add_max_le hd1 hd2

theorem buildFields_ok {kvs : List (Str × JVal)}
    (hel : ∀ kv ∈ kvs, ∀ h, BuildOK h (build h kv.2).1 (build h kv.2).2 kv.2) (h : Heap) :
    (∃ extra, (buildFields h kvs).1 = h ++ extra) ∧
    h.length + depthFields kvs ≤ (buildFields h kvs).1.length ∧
    DenotesFields h.length (buildFields h kvs).1.length (buildFields h kvs).1 (buildFields h kvs).2 kvs ∧
    ∀ P, Closed P h → UpFrom P h.length →
      Closed P (buildFields h kvs).1 ∧ ∀ kv ∈ (buildFields h kvs).2, kv.2.refP P := by
  induction kvs generalizing h with
  | nil =>
    rw [buildFields]
    exact ⟨⟨[], (List.append_nil h).symm⟩, Nat.le_refl _, DenotesFields.nil _ _ _,
      fun _ cl _ => ⟨cl, List.forall_mem_nil _⟩⟩
  | cons kv kvs ih =>
    obtain ⟨k, x⟩ := kv
    obtain ⟨⟨e1, he1⟩, hd1, d1, c1⟩ := hel _ List.mem_cons_self h
    obtain ⟨⟨e2, he2⟩, hd2, d2, c2⟩ :=
      ih (fun y hy => hel y (List.mem_cons_of_mem _ hy)) (build h x).1
    have hl1 := le_of_prefix he1
    have hl2 := le_of_prefix he2
    rw [buildFields_cons_eq]
    refine ⟨⟨e1 ++ e2, by rw [he2, he1, List.append_assoc]⟩, ?_,
      DenotesFields.cons (d1.mono (he2 ▸ agreeOn_append _ _ _) (Nat.le_refl _) hl2)
        (d2.mono (AgreeOn.refl _ _ _) hl1 (Nat.le_refl _)), fun P cl up =>
      have s1 := c1 P cl up
      have s2 := c2 P s1.1 (up.mono hl1)
      ⟨s2.1, List.forall_mem_cons.2 ⟨s1.2, s2.2⟩⟩⟩
    rw [depthFields]; exact add_max_le hd1 hd2

/-- by induction on a bound for the depth, the lists by their own inductions above -/
theorem build_full_aux : ∀ (d : Nat) (t : JVal), depth t < d → ∀ h, BuildOK h (build h t).1 (build h t).2 t := by
  intro d
  induction d with
  | zero => intro t ht; exact absurd ht (Nat.not_lt_zero _)
  | succ d ih =>
    intro t ht h
    cases t with
    | list xs =>
      rw [depth] at ht
      obtain ⟨⟨e, he⟩, hd, ds, hc⟩ := buildList_ok (fun x hx => ih x (Nat.lt_of_le_of_lt
        ((depthList_le xs).1 (Nat.le_refl _) x hx) (Nat.lt_of_succ_lt_succ ht))) h
      have hlen : h.length ≤ (buildList h xs).1.length := le_of_prefix he
      rw [build_list_eq]
      refine ⟨⟨e ++ [_], by rw [he, List.append_assoc]⟩, ?_, ?_, fun P cl up =>
        ⟨(hc P cl up).1.append (.list _ 0) (fun _ => (hc P cl up).2), up _ hlen⟩⟩
      · rw [depth, List.length_append]; exact Nat.succ_le_succ hd
      · rw [List.length_append]
        exact Denotes.list (List.getElem?_concat_length ..) hlen (Nat.lt_succ_self _)
          (ds.mono (agreeOn_append _ _ _) (Nat.le_refl _) (Nat.le_succ _))
    | obj kvs =>
      rw [depth] at ht
      obtain ⟨⟨e, he⟩, hd, ds, hc⟩ := buildFields_ok (fun kv hkv => ih kv.2 (Nat.lt_of_le_of_lt
        ((depthFields_le kvs).1 (Nat.le_refl _) kv hkv) (Nat.lt_of_succ_lt_succ ht))) h
      have hlen : h.length ≤ (buildFields h kvs).1.length := le_of_prefix he
      rw [build_obj_eq]
      refine ⟨⟨e ++ [_], by rw [he, List.append_assoc]⟩, ?_, ?_, fun P cl up =>
        ⟨(hc P cl up).1.append (.obj _ 0) (fun _ => List.forall_mem_map.2 (hc P cl up).2), up _ hlen⟩⟩
      · rw [depth, List.length_append]; exact Nat.succ_le_succ hd
      · rw [List.length_append]
        exact Denotes.obj (List.getElem?_concat_length ..) hlen (Nat.lt_succ_self _)
          (ds.mono (agreeOn_append _ _ _) (Nat.le_refl _) (Nat.le_succ _))
    | _ =>
      simp only [build]
      exact ⟨⟨[], (List.append_nil h).symm⟩, Nat.le_refl _,
        Denotes.scalar _ _ _ ⟨fun _ => Val.noConfusion, fun _ => Val.noConfusion⟩ (by simp only [reify]),
        fun _ cl _ => ⟨cl, trivial⟩⟩

/-- the specification of `build`; `build_spec` below is its first three components -/
theorem build_full (h : Heap) (t : JVal) : BuildOK h (build h t).1 (build h t).2 t :=
  build_full_aux (depth t + 1) t (Nat.lt_succ_self _) h
theorem build_spec (h : Heap) (t : JVal) :
    (∃ extra, (build h t).1 = h ++ extra) ∧ h.length + depth t ≤ (build h t).1.length ∧
    Denotes h.length (build h t).1.length (build h t).1 (build h t).2 t :=
  let ⟨a, b, c, _⟩ := build_full h t; ⟨a, b, c⟩

/-- `Clone` is `build` of the tree the value reifies to -/
theorem clone_inv {h h' : Heap} {v c : Val} (hc : O.clone h v = some (h', c)) :
    ∃ t, reifyF h v = some t ∧ build h t = (h', c) := by
  unfold O.clone at hc
  cases ht : reifyF h v with
  | none => rw [ht] at hc; cases hc
  | some t => rw [ht] at hc; exact ⟨t, rfl, by simpa using hc⟩

/-- … hence satisfies `BuildOK` -/
theorem clone_spec {h h' : Heap} {v c : Val} (hc : O.clone h v = some (h', c)) :
    ∃ t, reifyF h v = some t ∧ BuildOK h h' c t := by
  obtain ⟨t, ht, hb⟩ := clone_inv hc
  have := build_full h t
  rw [hb] at this
  exact ⟨t, ht, this⟩

end Rf
end Anytype
