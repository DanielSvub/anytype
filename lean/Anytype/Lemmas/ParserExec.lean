/-
A uniform small-step presentation of the two parser machines `pList` / `pObject`.

`step σ c line` says what the machine does in configuration `σ` on a well-formed character `c`
(`line` is the line counter after `c` has been counted): go to another configuration, return,
fail, or call a nested machine and continue with its result.  `exec` interprets `step` on fuel;
`pList_eq_exec` / `pObject_eq_exec` show that it is the model's pair of machines.  All generic
properties (fuel, prefixes, line numbers) are then proved once, about `exec`.
-/
import Anytype.Model.Parser
namespace Anytype

/-- a configuration of either machine (everything but the input, the fuel and the line) -/
inductive Cfg
  | L (st : LSt) (acc : List JVal) (val : Str) (iv : Bool)
  | O (st : OSt) (acc : List (Str × JVal)) (key val : Str) (iv : Bool)

inductive Action
  | goto (σ : Cfg)
  | ret (v : JVal)
  | fail (e : PErr)
  | call (callee : Cfg) (k : JVal → Cfg)

def Cfg.newL : Cfg := .L .val [] [] false
def Cfg.newO : Cfg := .O .keyStart [] [] [] false

def stepL (st : LSt) (acc : List JVal) (val : Str) (inVal : Bool) (c : Char) (line : Nat) : Action :=
  match st with
  | .val =>
    if isSpace c then .goto (.L .val acc val inVal)
    else if !inVal && c == '"' then .goto (.L .str acc val inVal)
    else if !inVal && c == '{' then .call .newO (fun o => .L .val (acc ++ [o]) val inVal)
    else if !inVal && c == '[' then .call .newL (fun l => .L .val (acc ++ [l]) val inVal)
    else if c == ',' || c == ']' then
      if !val.isEmpty then
        match parseField val line with
        | .error e => .fail e
        | .ok f =>
          if c == ']' then .ret (.list (acc ++ [f]))
          else .goto (.L .val (acc ++ [f]) [] false)
      else
        if c == ']' then .ret (.list acc)
        else .goto (.L .val acc val inVal)
    else .goto (.L .val acc (val ++ [c]) true)
  | .str =>
    if c == '\\' then .goto (.L .esc acc val inVal)
    else if c == '"' then .goto (.L .afterStr (acc ++ [.str (unquoteJSON val)]) [] inVal)
    else .goto (.L .str acc (val ++ [c]) inVal)
  | .esc => .goto (.L .str acc (val ++ ['\\', c]) inVal)
  | .afterStr =>
    if c == ',' then .goto (.L .val acc val inVal)
    else if c == ']' then .ret (.list acc)
    else .goto (.L .afterStr acc val inVal)

def stepO (st : OSt) (acc : List (Str × JVal)) (key val : Str) (inVal : Bool) (c : Char) (line : Nat) :
    Action :=
  match st with
  | .keyStart =>
    if isSpace c then .goto (.O .keyStart acc key val inVal)
    else if c == '}' then .ret (.obj acc)
    else if c == '"' then .goto (.O .key acc [] val inVal)
    else .fail ⟨.expectQuote, some line⟩
  | .key =>
    if c == '"' then .goto (.O .afterKey acc key val inVal)
    else if c == '\\' then .goto (.O .keyEsc acc key val inVal)
    else .goto (.O .key acc (key ++ [c]) val inVal)
  | .keyEsc => .goto (.O .key acc (key ++ ['\\', c]) val inVal)
  | .afterKey =>
    if isSpace c then .goto (.O .afterKey acc key val inVal)
    else if c != ':' then .fail ⟨.expectColon, some line⟩
    else .goto (.O .val acc (unquoteJSON key) [] false)
  | .val =>
    if isSpace c then .goto (.O .val acc key val inVal)
    else if !inVal && c == '"' then .goto (.O .str acc key val inVal)
    else if !inVal && c == '{' then
      .call .newO (fun o => .O .afterVal (setField acc key o) key val inVal)
    else if !inVal && c == '[' then
      .call .newL (fun l => .O .afterVal (setField acc key l) key val inVal)
    else if c == ',' || c == '}' then
      if !val.isEmpty then
        match parseField val line with
        | .error e => .fail e
        | .ok f =>
          if c == ',' then .goto (.O .keyStart (setField acc key f) key val inVal)
          else .ret (.obj (setField acc key f))
      else
        if c == ',' then .goto (.O .keyStart acc key val inVal)
        else .ret (.obj acc)
    else .goto (.O .val acc key (val ++ [c]) true)
  | .afterVal =>
    if isSpace c then .goto (.O .afterVal acc key val inVal)
    else if c == ',' then .goto (.O .keyStart acc key val inVal)
    else if c == '}' then .ret (.obj acc)
    else if c == '"' then .goto (.O .key acc [] val inVal)
    else .fail ⟨.expectCommaBrace, some line⟩
  | .str =>
    if c == '\\' then .goto (.O .esc acc key val inVal)
    else if c == '"' then .goto (.O .afterStr (setField acc key (.str (unquoteJSON val))) key val inVal)
    else .goto (.O .str acc key (val ++ [c]) inVal)
  | .esc => .goto (.O .str acc key (val ++ ['\\', c]) inVal)
  | .afterStr =>
    if c == ',' then .goto (.O .keyStart acc key val inVal)
    else if c == '}' then .ret (.obj acc)
    else .goto (.O .afterStr acc key val inVal)

def step : Cfg → Char → Nat → Action
  | .L st acc val iv, c, line => stepL st acc val iv c line
  | .O st acc key val iv, c, line => stepO st acc key val iv c line

/-- the generic machine -/
def exec : Nat → List Item → Cfg → Nat → PRes
  | 0, _, _, _ => .err ⟨.fuel, none⟩
  | _ + 1, [], _, _ => .err ⟨.unexpectedEnd, none⟩
  | _ + 1, none :: _, _, _ => .err ⟨.notUtf8, none⟩
  | fuel + 1, some c :: rest, σ, line0 =>
    match step σ c (bumpLine c line0) with
    | .goto σ' => exec fuel rest σ' (bumpLine c line0)
    | .ret v => .ok v rest (bumpLine c line0)
    | .fail e => .err e
    | .call σc k =>
      match exec fuel rest σc (bumpLine c line0) with
      | .err e => .err e
      | .ok o rest' line' => exec fuel rest' (k o) line'

/-- what `exec` does with the action of one step -/
def run (f : Nat) (rest : List Item) (line : Nat) : Action → PRes
  | .goto σ' => exec f rest σ' line
  | .ret v => .ok v rest line
  | .fail e => .err e
  | .call σc k =>
    match exec f rest σc line with
    | .err e => .err e
    | .ok o rest' line' => exec f rest' (k o) line'

theorem exec_succ (f c rest σ line) :
    exec (f + 1) (some c :: rest) σ line = run f rest (bumpLine c line) (step σ c (bumpLine c line)) := by
  rw [exec]; cases step σ c (bumpLine c line) <;> rfl

theorem run_ite (f rest line) (p : Prop) [Decidable p] (a b : Action) :
    run f rest line (if p then a else b) = if p then run f rest line a else run f rest line b :=
  apply_ite ..

/- Both sides are the same `if` cascade: `run` is pushed through the cascade of `step` down to the actions, where it is
what the model's machine does next. Only the `.val` states consult `parseField`, hence the extra case split there. -/
theorem pMachines_eq_exec (f : Nat) :
    (∀ items st acc val iv line,
      pList f items st acc val iv line = exec f items (.L st acc val iv) line) ∧
    (∀ items st acc key val iv line,
      pObject f items st acc key val iv line = exec f items (.O st acc key val iv) line) := by
  induction f with
  | zero => exact ⟨fun _ _ _ _ _ _ => by rw [pList, exec], fun _ _ _ _ _ _ _ => by rw [pObject, exec]⟩
  | succ f ih =>
    obtain ⟨ihL, ihO⟩ := ih
    constructor
    · intro items st acc val iv line
      match items with
      | [] => rw [pList, exec]
      | none :: _ => rw [pList, exec]
      | some c :: rest =>
        rw [exec_succ]
        cases st <;> simp only [pList, step, stepL, ihL, ihO, Cfg.newL, Cfg.newO]
        case val => cases parseField val (bumpLine c line) <;> simp only [↓run_ite, run] <;> rfl
        all_goals simp only [↓run_ite, run]
    · intro items st acc key val iv line
      match items with
      | [] => rw [pObject, exec]
      | none :: _ => rw [pObject, exec]
      | some c :: rest =>
        rw [exec_succ]
        cases st <;> simp only [pObject, step, stepO, ihL, ihO, Cfg.newL, Cfg.newO]
        case val => cases parseField val (bumpLine c line) <;> simp only [↓run_ite, run] <;> rfl
        all_goals simp only [↓run_ite, run]

theorem pList_eq_exec (f items st acc val iv line) :
    pList f items st acc val iv line = exec f items (.L st acc val iv) line :=
  (pMachines_eq_exec f).1 items st acc val iv line

theorem pObject_eq_exec (f items st acc key val iv line) :
    pObject f items st acc key val iv line = exec f items (.O st acc key val iv) line :=
  (pMachines_eq_exec f).2 items st acc key val iv line

/-! ### unfolding `exec` along one step -/

theorem exec_nil (f σ line) : exec (f + 1) [] σ line = .err ⟨.unexpectedEnd, none⟩ := by
  simp only [exec]

theorem exec_none (f t σ line) : exec (f + 1) (none :: t) σ line = .err ⟨.notUtf8, none⟩ := by
  simp only [exec]

theorem exec_goto {σ c line σ'} (h : step σ c (bumpLine c line) = .goto σ') (f rest) :
    exec (f + 1) (some c :: rest) σ line = exec f rest σ' (bumpLine c line) := by
  simp only [exec, h]

theorem exec_ret {σ c line v} (h : step σ c (bumpLine c line) = .ret v) (f rest) :
    exec (f + 1) (some c :: rest) σ line = .ok v rest (bumpLine c line) := by
  simp only [exec, h]

theorem exec_fail {σ c line e} (h : step σ c (bumpLine c line) = .fail e) (f rest) :
    exec (f + 1) (some c :: rest) σ line = .err e := by
  simp only [exec, h]

theorem exec_call {σ c line σc k} (h : step σ c (bumpLine c line) = .call σc k) (f rest) :
    exec (f + 1) (some c :: rest) σ line =
      match exec f rest σc (bumpLine c line) with
      | .err e => .err e
      | .ok o rest' line' => exec f rest' (k o) line' := by
  simp only [exec, h]

/-! ### the failing steps -/

/-- what the character at which a syntax error of kind `k` is detected looks like -/
def ErrAt (k : PErrKind) (e : Char) : Prop :=
  e ≠ '\n' ∧
  (k = .invalidValue ∨ k = .expectQuote ∨ k = .expectColon ∨ k = .expectCommaBrace) ∧
  (k = .invalidValue → e = ',' ∨ e = ']' ∨ e = '}') ∧
  (k = .expectQuote → isSpace e = false ∧ e ≠ '}' ∧ e ≠ '"') ∧
  (k = .expectColon → isSpace e = false ∧ e ≠ ':') ∧
  (k = .expectCommaBrace → isSpace e = false ∧ e ≠ ',' ∧ e ≠ '}' ∧ e ≠ '"')

theorem parseField_error {val line e} (h : parseField val line = .error e) :
    e = ⟨.invalidValue, some line⟩ := by
  unfold parseField at h
  repeat' split at h
  all_goals (cases h <;> rfl)

theorem isSpace_nl : isSpace '\n' = true := by decide

theorem ErrAt.invalid {c : Char} (h : c = ',' ∨ c = ']' ∨ c = '}') : ErrAt .invalidValue c := by
  refine ⟨?_, .inl rfl, fun _ => h, ?_, ?_, ?_⟩
  · rcases h with h | h | h <;> subst h <;> decide
  all_goals (intro h; cases h)

theorem ne_nl_of_not_space {c : Char} (h : isSpace c = false) : c ≠ '\n' := by
  intro hc; subst hc; simp [isSpace_nl] at h

theorem ErrAt.quote {c : Char} (h1 : isSpace c = false) (h2 : c ≠ '}') (h3 : c ≠ '"') :
    ErrAt .expectQuote c := by
  refine ⟨ne_nl_of_not_space h1, .inr (.inl rfl), ?_, fun _ => ⟨h1, h2, h3⟩, ?_, ?_⟩
  all_goals (intro h; cases h)

theorem ErrAt.colon {c : Char} (h1 : isSpace c = false) (h2 : c ≠ ':') : ErrAt .expectColon c := by
  refine ⟨ne_nl_of_not_space h1, .inr (.inr (.inl rfl)), ?_, ?_, fun _ => ⟨h1, h2⟩, ?_⟩
  all_goals (intro h; cases h)

theorem ErrAt.commaBrace {c : Char} (h1 : isSpace c = false) (h2 : c ≠ ',') (h3 : c ≠ '}')
    (h4 : c ≠ '"') : ErrAt .expectCommaBrace c := by
  refine ⟨ne_nl_of_not_space h1, .inr (.inr (.inr rfl)), ?_, ?_, ?_, fun _ => ⟨h1, h2, h3, h4⟩⟩
  all_goals (intro h; cases h)

theorem ite_eq_or {α} {p : Prop} [Decidable p] {a b c : α} :
    (if p then a else b) = c ↔ (p ∧ a = c) ∨ (¬p ∧ b = c) := by split <;> simp [*]

/- `ite_eq_or` turns `step σ c line = .fail _` into the disjunction of the paths through the cascade that end in a
`.fail`; all others vanish by constructor disagreement, and what is left of `h` is the list of tests on that path. -/
theorem step_fail {σ c line k ol} (h : step σ c line = .fail ⟨k, ol⟩) :
    ol = some line ∧ ErrAt k c := by
  have invalid {val} {e : PErr} {d : Char} (hp : parseField val line = .error e) (he : e = ⟨k, ol⟩)
      (hc : (c == ',' || c == d) = true) (hd : d = ']' ∨ d = '}') : ol = some line ∧ ErrAt k c := by
    cases parseField_error hp; cases he
    simp only [Bool.or_eq_true, beq_iff_eq] at hc
    exact ⟨rfl, .invalid (by rcases hc with h | h <;> rcases hd with h' | h' <;> simp [h, h'])⟩
  cases σ with
  | L st acc val iv =>
    cases hp : parseField val line <;> cases st <;>
      simp only [step, stepL, hp, ite_eq_or, reduceCtorEq, and_false, false_or, or_false, Action.fail.injEq] at h
    exact invalid hp h.2.2.2.2.2.2 h.2.2.2.2.1 (.inl rfl)
  | O st acc key val iv =>
    cases hp : parseField val line <;> cases st <;>
      simp only [step, stepO, hp, ite_eq_or, reduceCtorEq, and_false, false_or, or_false, Action.fail.injEq,
        PErr.mk.injEq, Bool.not_eq_true, bne_iff_ne, ne_eq, beq_eq_false_iff_ne] at h
    case error.val => exact invalid hp h.2.2.2.2.2.2 h.2.2.2.2.1 (.inr rfl)
    case error.keyStart | ok.keyStart => obtain ⟨h1, h2, h3, rfl, rfl⟩ := h; exact ⟨rfl, .quote h1 h2 h3⟩
    case error.afterKey | ok.afterKey => obtain ⟨h1, h2, rfl, rfl⟩ := h; exact ⟨rfl, .colon h1 h2⟩
    case error.afterVal | ok.afterVal =>
      obtain ⟨h1, h2, h3, h4, rfl, rfl⟩ := h; exact ⟨rfl, .commaBrace h1 h2 h3 h4⟩

end Anytype
