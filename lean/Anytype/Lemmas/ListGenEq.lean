/-
The definitions that `vextract` (vextract/listgen.go) translates from the Go source of the sequence
core of `*list` (`Anytype/Generated/ListGen.lean`, regenerated on every run) are equal to the
hand-written model (`Model/ListOps.lean`, `Model/Normalize.lean`) that the list theorems are about.

The scripts mention nothing of the generated code but the names of its definitions (`gen_eq`): the two sides are the same
text up to unfolding; or they are after one step of unfolding and rewriting the calls of other translated functions with
the equalities already proved; or `gen_case` splits the tests of both and compares the leaves.  A loop helper satisfies, by
unfolding, the two recursion equations of the model's loop and so is that loop (`selLoop_unique`, `allKLoop_unique`,
`mapKLoop_unique`); or it is handled by induction over the list (or the counter) it recurses on.
-/
import Anytype.Generated.ListGen
import Anytype.Lemmas.Heap
namespace Anytype

open Generated

/-- closes one case: syntactic agreement, or exhaustive splitting (`split` cannot use a hypothesis `a ≥ b` to decide
`if a ≥ b`, so `≥` / `>` are written `≤` / `<` first) -/
local macro "gen_case" : tactic =>
  `(tactic| first
    | rfl
    | ((try simp only [Bool.or_eq_true, Bool.and_eq_true, decide_eq_true_eq, Bool.not_eq_true', beq_iff_eq,
          bne_iff_ne, ge_iff_le, gt_iff_lt]) <;>
        (repeat' split) <;> first | rfl | (simp_all; done) | (simp_all [L.count]; done) | (simp_all [L.count]; omega)))

/-- one translated definition against the model's: the two are the same text up to unfolding (`rfl`), or they are after
one step of unfolding and rewriting the calls of other translated functions with the lemmas given, up to `gen_case` -/
local macro "gen_eq" "[" ts:Lean.Parser.Tactic.simpLemma,* "]" : tactic =>
  `(tactic| first | rfl | (simp only [$ts,*] <;> gen_case))

/-- a test the source writes `if !b { x } else { y }` -/
theorem ite_bnot {α} (b : Bool) (x y : α) : (if (!b) = true then x else y) = if b = true then y else x := by
  cases b <;> rfl

/-- `if len(indexes) > 1 { sort.Ints(indexes) }` sorts in every case -/
theorem ite_length_mergeSort {α} (l : List α) (le : α → α → Bool) :
    (if (l.length : Int) > 1 then l.mergeSort le else l) = l.mergeSort le := by
  split
  · rfl
  · match l with
    | [] => simp
    | [x] => simp
    | x :: y :: r => rename_i hlen; simp at hlen; omega

theorem countGen_eq (h : Heap) (a : Nat) : countGen h a = L.count h a := rfl

theorem emptyGen_eq (h : Heap) (a : Nat) : emptyGen h a = L.empty h a := by
  gen_eq [emptyGen, L.empty, countGen_eq]

theorem getGen_eq (h : Heap) (a : Nat) (index : Int) : getGen h a index = L.get h a index := by
  gen_eq [getGen, L.get, countGen_eq]

theorem getObjectGen_eq (h : Heap) (a : Nat) (index : Int) : getObjectGen h a index = L.getK h a .object index := by
  gen_eq [getObjectGen, L.getK, getGen_eq, ite_bnot]
theorem getListGen_eq (h : Heap) (a : Nat) (index : Int) : getListGen h a index = L.getK h a .list index := by
  gen_eq [getListGen, L.getK, getGen_eq, ite_bnot]
theorem getStringGen_eq (h : Heap) (a : Nat) (index : Int) : getStringGen h a index = L.getK h a .string index := by
  gen_eq [getStringGen, L.getK, getGen_eq, ite_bnot]
theorem getBoolGen_eq (h : Heap) (a : Nat) (index : Int) : getBoolGen h a index = L.getK h a .bool index := by
  gen_eq [getBoolGen, L.getK, getGen_eq, ite_bnot]
theorem getIntGen_eq (h : Heap) (a : Nat) (index : Int) : getIntGen h a index = L.getK h a .int index := by
  gen_eq [getIntGen, L.getK, getGen_eq, ite_bnot]
theorem getFloatGen_eq (h : Heap) (a : Nat) (index : Int) : getFloatGen h a index = L.getK h a .float index := by
  gen_eq [getFloatGen, L.getK, getGen_eq, ite_bnot]

theorem typeOfGen_eq (h : Heap) (a : Nat) (index : Int) : typeOfGen h a index = L.typeOf h a index := by
  simp only [typeOfGen, L.typeOf, countGen_eq]
  cases (h.items a)[index.toNat]? with
  | none => gen_case
  | some v => cases v <;> first | rfl | (simp only [Val.kind] <;> gen_case)

theorem addLoopGen_eq (a : Nat) (h : Heap) (gs : List GoVal) : addLoopGen a h gs = addEach h a gs := by
  induction gs generalizing h with
  | nil => rfl
  | cons g gs ih => gen_eq [addLoopGen, addEach, ih]

theorem addGen_eq (h : Heap) (a : Nat) (gs : List GoVal) : addGen h a gs = L.add h a gs := by
  gen_eq [addGen, L.add, addLoopGen_eq]

theorem insertGen_eq (h : Heap) (a : Nat) (index : Int) (g : GoVal) : insertGen h a index g = L.insert h a index g := by
  gen_eq [insertGen, L.insert, countGen_eq, addGen_eq]

theorem replaceGen_eq (h : Heap) (a : Nat) (index : Int) (g : GoVal) : replaceGen h a index g = L.replace h a index g := by
  gen_eq [replaceGen, L.replace, countGen_eq]

theorem deleteLoopGen_eq (a : Nat) (h : Heap) (is : List Int) : deleteLoopGen a h is = L.deleteLoop h a is := by
  induction is generalizing h with
  | nil => rfl
  | cons i is ih => gen_eq [deleteLoopGen, L.deleteLoop, ih, countGen_eq]

theorem deleteGen_eq (h : Heap) (a : Nat) (is : List Int) : deleteGen h a is = L.delete h a is := by
  gen_eq [deleteGen, L.delete, deleteLoopGen_eq, ite_length_mergeSort]

theorem popGen_eq (h : Heap) (a : Nat) : popGen h a = L.pop h a := by
  gen_eq [popGen, L.pop, deleteGen_eq, countGen_eq]

theorem clearGen_eq (h : Heap) (a : Nat) : clearGen h a = L.clear h a := by
  gen_eq [clearGen, L.clear]

theorem sliceLoopGen_eq (h : Heap) (xs acc : List Val) : sliceLoopGen h xs acc = acc ++ xs.map h.getVal := by
  induction xs generalizing acc with
  | nil => simp [sliceLoopGen]
  | cons x xs ih => simp [sliceLoopGen, ih]

theorem sliceGen_eq (h : Heap) (a : Nat) : sliceGen h a = L.slice h a := by
  simp [sliceGen, L.slice, sliceLoopGen_eq]

theorem genGetVal_kind (h : Heap) (v : Val) : (h.getVal v).kind = v.kind := Heap.getVal_kind h v

/-- a loop over the elements of kind `k`, each taken as `getVal` returns it (`v`) or as it is stored, is the model's loop
over what `L.sel` selects (`g1`: the model's loops are that by unfolding) -/
theorem selLoop_unique {β} (h : Heap) (v : Bool) (k : Kind) {u : β → Val → β} {f g : List Val → β → β} (xs : List Val) (b : β)
    (g1 : ∀ x xs b, g (x :: xs) b = match L.sel h v k x with | some y => g xs (u b y) | none => g xs b := by intros; rfl)
    (f1 : ∀ x xs b, f (x :: xs) b =
      if (if v then h.getVal x else x).kind == k then f xs (u b (if v then h.getVal x else x)) else f xs b)
    (f0 : ∀ b, f [] b = b := by intro; rfl) (g0 : ∀ b, g [] b = b := by intro; rfl) :
    f xs b = g xs b := by
  induction xs generalizing b with
  | nil => rw [f0, g0]
  | cons x xs ih =>
    rw [f1, g1, L.sel]
    cases v <;> simp only [genGetVal_kind, if_true, Bool.false_eq_true, if_false] <;> cases x.kind == k <;> exact ih _

/-- what the typed variant for kind `k` looks at: `item.getVal()` for the scalar kinds, `item` for the containers -/
def L.pick (h : Heap) (k : Kind) (x : Val) : Val := if L.viaGetValL k then h.getVal x else x

theorem L.sel_eq (h : Heap) (k : Kind) (x : Val) :
    L.sel h (L.viaGetValL k) k x = if (L.pick h k x).kind == k then some (L.pick h k x) else none := by
  unfold L.sel L.pick
  cases L.viaGetValL k <;> simp only [genGetVal_kind, if_true, Bool.false_eq_true, if_false]

/- so that the `simp_all` of `gen_case` sees what a loop tests when it is not written as `L.pick` does -/
attribute [local simp] L.pick L.viaGetValL

theorem objectSliceGen_eq (h : Heap) (a : Nat) : objectSliceGen h a = L.sliceK h a .object :=
  selLoop_unique h _ .object _ _ (f1 := fun _ _ _ => by gen_eq [objectSliceLoopGen])
theorem listSliceGen_eq (h : Heap) (a : Nat) : listSliceGen h a = L.sliceK h a .list :=
  selLoop_unique h _ .list _ _ (f1 := fun _ _ _ => by gen_eq [listSliceLoopGen])
theorem stringSliceGen_eq (h : Heap) (a : Nat) : stringSliceGen h a = L.sliceK h a .string :=
  selLoop_unique h _ .string _ _ (f1 := fun _ _ _ => by gen_eq [stringSliceLoopGen])
theorem boolSliceGen_eq (h : Heap) (a : Nat) : boolSliceGen h a = L.sliceK h a .bool :=
  selLoop_unique h _ .bool _ _ (f1 := fun _ _ _ => by gen_eq [boolSliceLoopGen])
theorem intSliceGen_eq (h : Heap) (a : Nat) : intSliceGen h a = L.sliceK h a .int :=
  selLoop_unique h _ .int _ _ (f1 := fun _ _ _ => by gen_eq [intSliceLoopGen])
theorem floatSliceGen_eq (h : Heap) (a : Nat) : floatSliceGen h a = L.sliceK h a .float :=
  selLoop_unique h _ .float _ _ (f1 := fun _ _ _ => by gen_eq [floatSliceLoopGen])

theorem indexOfLoopGen_eq (h : Heap) (elem : Val) (xs : List Val) (i : Int) :
    indexOfLoopGen h elem xs i = L.indexOfLoop h elem xs i := by
  induction xs generalizing i with
  | nil => rfl
  | cons x xs ih => gen_eq [indexOfLoopGen, L.indexOfLoop, ih]

theorem indexOfGen_eq (h : Heap) (a : Nat) (elem : Val) : indexOfGen h a elem = L.indexOf h a elem := by
  simp only [indexOfGen, L.indexOf, indexOfLoopGen_eq]

/-- what `IndexOf` says about membership (a fact about the model): a hit gives an index from the start
index on, no hit gives `-1` -/
theorem indexOfLoop_spec (h : Heap) (elem : Val) (xs : List Val) (i : Int) :
    (xs.any (fun item => L.goEq (h.getVal item) elem) = true ∧ i ≤ L.indexOfLoop h elem xs i) ∨
    (xs.any (fun item => L.goEq (h.getVal item) elem) = false ∧ L.indexOfLoop h elem xs i = -1) := by
  induction xs generalizing i with
  | nil => right; simp [L.indexOfLoop]
  | cons x xs ih =>
    simp only [List.any_cons, L.indexOfLoop]
    cases hx : L.goEq (h.getVal x) elem with
    | true => left; simp
    | false =>
      rcases ih (i + 1) with ⟨hc, hi⟩ | ⟨hc, hi⟩
      · left; simp [hc]; omega
      · right; simp [hc, hi]

theorem indexOf_spec (h : Heap) (a : Nat) (elem : Val) :
    (L.contains h a elem = true ∧ 0 ≤ L.indexOf h a elem) ∨ (L.contains h a elem = false ∧ L.indexOf h a elem = -1) :=
  indexOfLoop_spec h elem (h.items a) 0

/-- `Contains` either has a search loop of its own (`containsLoopGen`, which then exists) or is a test of
the result of `IndexOf` (`!= -1`, `>= 0`, …), decided with `indexOf_spec` -/
theorem containsGen_eq (h : Heap) (a : Nat) (elem : Val) : containsGen h a elem = L.contains h a elem := by
  first
  | (have hl : ∀ xs, containsLoopGen h elem xs = xs.any (fun item => L.goEq (h.getVal item) elem) := by
      intro xs
      induction xs with
      | nil => simp [containsLoopGen]
      | cons x xs ih => simp only [containsLoopGen, List.any_cons, ih] <;> gen_case
     simp only [containsGen, L.contains, hl]; done)
  | (simp only [containsGen, indexOfGen_eq]
     rcases indexOf_spec h a elem with ⟨hc, hi⟩ | ⟨hc, hi⟩ <;> rw [hc] <;> simp <;> omega)

theorem allKLoop_unique (k : Kind) {f : List Val → Bool} (f0 : f [] = true)
    (f1 : ∀ x xs, f (x :: xs) = if !(x.kind == k) then false else f xs) : ∀ xs, f xs = L.allKLoop k xs := by
  intro xs
  induction xs with
  | nil => exact f0
  | cons x xs ih => rw [f1, L.allKLoop, ite_bnot, ih]

theorem allObjectsGen_eq (h : Heap) (a : Nat) : allObjectsGen h a = L.allK h a .object :=
  allKLoop_unique .object rfl (fun _ _ => by gen_eq [allObjectsLoopGen]) _
theorem allListsGen_eq (h : Heap) (a : Nat) : allListsGen h a = L.allK h a .list :=
  allKLoop_unique .list rfl (fun _ _ => by gen_eq [allListsLoopGen]) _
theorem allStringsGen_eq (h : Heap) (a : Nat) : allStringsGen h a = L.allK h a .string :=
  allKLoop_unique .string rfl (fun _ _ => by gen_eq [allStringsLoopGen]) _
theorem allBoolsGen_eq (h : Heap) (a : Nat) : allBoolsGen h a = L.allK h a .bool :=
  allKLoop_unique .bool rfl (fun _ _ => by gen_eq [allBoolsLoopGen]) _
theorem allIntsGen_eq (h : Heap) (a : Nat) : allIntsGen h a = L.allK h a .int :=
  allKLoop_unique .int rfl (fun _ _ => by gen_eq [allIntsLoopGen]) _
theorem allFloatsGen_eq (h : Heap) (a : Nat) : allFloatsGen h a = L.allK h a .float :=
  allKLoop_unique .float rfl (fun _ _ => by gen_eq [allFloatsLoopGen]) _

theorem allNumericLoopGen_eq : ∀ xs, allNumericLoopGen xs = L.allNumericLoop xs := by
  intro xs
  induction xs with
  | nil => rfl
  | cons x xs ih => simp only [allNumericLoopGen, L.allNumericLoop, ite_bnot, ih] <;> gen_case
theorem allNumericGen_eq (h : Heap) (a : Nat) : allNumericGen h a = L.allNumeric h a := allNumericLoopGen_eq _

theorem concatGen_eq (h : Heap) (a : Nat) (another : Ref) : concatGen h a another = L.concat h a another := by
  gen_eq [concatGen, L.concat]

theorem subListGen_eq (h : Heap) (a : Nat) (start end_ : Int) : subListGen h a start end_ = L.subList h a start end_ := by
  gen_eq [subListGen, L.subList, countGen_eq]

theorem newListGen_eq (h : Heap) (gs : List GoVal) : newListGen h gs = L.new h gs := by
  simp only [newListGen, L.new, addGen_eq, L.add]
  generalize addEach _ _ _ = x
  rcases x with ⟨h1, _ | k⟩ <;> rfl

theorem reverseLoopGen_eq (i : Nat) : ∀ xs, reverseLoopGen xs i = L.reverseLoop xs xs.length i := by
  induction i with
  | zero => intro xs; simp only [reverseLoopGen, L.reverseLoop]
  | succ i ih =>
    intro xs
    simp only [reverseLoopGen, L.reverseLoop, ih, List.length_set]
    by_cases hlt : ((xs.length : Int) - 1 - (i : Int)) < 0
    · have hn : xs[i]? = none := by apply List.getElem?_eq_none; omega
      simp [hlt, hn]
    · have e : ((xs.length : Int) - 1 - (i : Int)).toNat = xs.length - 1 - i := by omega
      simp only [hlt, e, if_false]
      cases xs[i]? <;> cases xs[xs.length - 1 - i]? <;> rfl

theorem reverseGen_eq (h : Heap) (a : Nat) : reverseGen h a = L.reverse h a := by
  have e : ∀ n : Nat, ((n : Int) / 2).toNat = n / 2 := by intro n; omega
  simp only [reverseGen, L.reverse, countGen_eq, L.count, reverseLoopGen_eq, e]

theorem newListOfLoopGen_eq (v : Val) (n : Nat) : ∀ xs, newListOfLoopGen v xs n = xs ++ List.replicate n v := by
  induction n with
  | zero => intro xs; simp [newListOfLoopGen]
  | succ n ih => intro xs; simp [newListOfLoopGen, ih, List.replicate_succ]

theorem newListOfGen_eq (h : Heap) (g : GoVal) (count : Int) : newListOfGen h g count = L.newOf h g count := by
  have e : (parseVal (h ++ [.list [] 0]) g).1.items h.length = [] := by
    have hlt : h.length < (h ++ [Cell.list [] 0]).length := by simp
    rw [(parseVal_ext0 (h ++ [Cell.list [] 0]) g).items hlt]; simp
  simp only [newListOfGen, L.newOf, newListOfLoopGen_eq]
  split
  · rfl
  · revert e
    cases parseVal (h ++ [.list [] 0]) g with
    | mk h1 r => intro e; simp only at e; cases r <;> simp [e]

theorem sliceKLoop_eq_filterMap (h : Heap) (k : Kind) : ∀ xs acc,
    L.sliceKLoop h k xs acc = acc ++ xs.filterMap (L.sel h (L.viaGetValL k) k) := by
  intro xs
  induction xs with
  | nil => intro acc; simp [L.sliceKLoop]
  | cons x xs ih =>
    intro acc
    simp only [L.sliceKLoop, List.filterMap_cons]
    split <;> simp_all

theorem filterMap_sliceK {α} (h : Heap) (a : Nat) (k : Kind) (p : Val → Option α)
    (hp : ∀ x, (L.sel h (L.viaGetValL k) k x).bind p = p x) :
    (L.sliceK h a k).filterMap p = (h.items a).filterMap p := by
  simp only [L.sliceK, sliceKLoop_eq_filterMap, List.nil_append, List.filterMap_filterMap, hp]

theorem sortGen_eq (h : Heap) (a : Nat) : sortGen h a = L.sort h a := by
  simp only [sortGen, L.sort, sortStrVals, sortIntVals, sortFloatVals, stringSliceGen_eq, intSliceGen_eq,
    floatSliceGen_eq, filterMap_sliceK h a .string L.asStr (fun x => by cases x <;> rfl),
    filterMap_sliceK h a .int L.asInt (fun x => by cases x <;> rfl),
    filterMap_sliceK h a .float L.asFloat (fun x => by cases x <;> rfl)]
  cases h.items a with
  | nil => rfl
  | cons v vs => cases v <;> rfl

theorem forEachLoopGen_eq (h : Heap) : ∀ xs i log, forEachLoopGen h xs i log = L.forEachLoop h xs i log := by
  intro xs
  induction xs with
  | nil => intro i log; rfl
  | cons x xs ih => intro i log; simp only [forEachLoopGen, L.forEachLoop, ih]

theorem forEachGen_eq (h : Heap) (a : Nat) : forEachGen h a = L.forEach h a := forEachLoopGen_eq h _ _ _

theorem forEachLoop_snd (h : Heap) : ∀ xs i log,
    (L.forEachLoop h xs i log).map (·.2) = log.map (·.2) ++ xs.map h.getVal := by
  intro xs
  induction xs with
  | nil => intro i log; simp [L.forEachLoop]
  | cons x xs ih => intro i log; simp [L.forEachLoop, ih]

theorem forEachValueLoopGen_eq (h : Heap) : ∀ xs log, forEachValueLoopGen h xs log = log ++ xs.map h.getVal := by
  intro xs
  induction xs with
  | nil => intro log; simp [forEachValueLoopGen]
  | cons x xs ih => intro log; simp [forEachValueLoopGen, ih]

theorem forEachValueGen_eq (h : Heap) (a : Nat) : forEachValueGen h a = L.forEachValue h a := by
  simp [forEachValueGen, L.forEachValue, L.forEach, forEachValueLoopGen_eq, forEachLoop_snd]

theorem forEachObjectGen_eq (h : Heap) (a : Nat) : forEachObjectGen h a = L.forEachK h a .object :=
  selLoop_unique h _ .object _ _ (f1 := fun _ _ _ => by gen_eq [forEachObjectLoopGen])
theorem forEachListGen_eq (h : Heap) (a : Nat) : forEachListGen h a = L.forEachK h a .list :=
  selLoop_unique h _ .list _ _ (f1 := fun _ _ _ => by gen_eq [forEachListLoopGen])
theorem forEachStringGen_eq (h : Heap) (a : Nat) : forEachStringGen h a = L.forEachK h a .string :=
  selLoop_unique h _ .string _ _ (f1 := fun _ _ _ => by gen_eq [forEachStringLoopGen])
theorem forEachBoolGen_eq (h : Heap) (a : Nat) : forEachBoolGen h a = L.forEachK h a .bool :=
  selLoop_unique h _ .bool _ _ (f1 := fun _ _ _ => by gen_eq [forEachBoolLoopGen])
theorem forEachIntGen_eq (h : Heap) (a : Nat) : forEachIntGen h a = L.forEachK h a .int :=
  selLoop_unique h _ .int _ _ (f1 := fun _ _ _ => by gen_eq [forEachIntLoopGen])
theorem forEachFloatGen_eq (h : Heap) (a : Nat) : forEachFloatGen h a = L.forEachK h a .float :=
  selLoop_unique h _ .float _ _ (f1 := fun _ _ _ => by gen_eq [forEachFloatLoopGen])

theorem reduceLoopGen_eq {α} (h : Heap) (f : α → Val → α) : ∀ xs acc, reduceLoopGen h f xs acc = L.reduceLoop h f xs acc := by
  intro xs
  induction xs with
  | nil => intro acc; rfl
  | cons x xs ih => intro acc; simp only [reduceLoopGen, L.reduceLoop, ih]

theorem reduceGen_eq {α} (h : Heap) (a : Nat) (init : α) (f : α → Val → α) : reduceGen h a init f = L.reduce h a init f :=
  reduceLoopGen_eq h f _ _

theorem reduceStringsGen_eq {α} (h : Heap) (a : Nat) (init : α) (f : α → Val → α) :
    reduceStringsGen h a init f = L.reduceK h a .string init f :=
  selLoop_unique h true .string _ _ (f1 := fun _ _ _ => by gen_eq [reduceStringsLoopGen])
theorem reduceIntsGen_eq {α} (h : Heap) (a : Nat) (init : α) (f : α → Val → α) :
    reduceIntsGen h a init f = L.reduceK h a .int init f :=
  selLoop_unique h true .int _ _ (f1 := fun _ _ _ => by gen_eq [reduceIntsLoopGen])
theorem reduceFloatsGen_eq {α} (h : Heap) (a : Nat) (init : α) (f : α → Val → α) :
    reduceFloatsGen h a init f = L.reduceK h a .float init f :=
  selLoop_unique h true .float _ _ (f1 := fun _ _ _ => by gen_eq [reduceFloatsLoopGen])

/-- the cell appended by `NewList()` is empty, so the receiver's elements read behind the
allocation are those read before it -/
theorem items_append_empty_list (h : Heap) (a : Nat) : (h ++ [Cell.list [] 0]).items a = h.items a := by
  unfold Heap.items
  by_cases hlt : a < h.length
  · rw [List.getElem?_append_left hlt]
  · rw [List.getElem?_append_right (Nat.le_of_not_lt hlt), List.getElem?_eq_none (Nat.le_of_not_lt hlt)]
    cases a - h.length <;> rfl

theorem mapLoopGen_eq (res : Nat) (f : Int → Val → GoVal) : ∀ xs h i,
    mapLoopGen res f h xs i = L.mapLoop res f h xs i := by
  intro xs
  induction xs with
  | nil => intro h i; rfl
  | cons x xs ih =>
    intro h i
    simp only [mapLoopGen, L.mapLoop, ih, addGen_eq, L.add]
    generalize addEach _ _ _ = r
    rcases r with ⟨h1, _ | k⟩ <;> rfl

theorem mapGen_eq (h : Heap) (a : Nat) (f : Int → Val → GoVal) : mapGen h a f = L.map h a f := by
  gen_eq [mapGen, L.map, newListGen_eq, L.new, addEach, mapLoopGen_eq, items_append_empty_list]

theorem mapValuesLoopGen_eq (res : Nat) (f : Val → GoVal) : ∀ xs h i,
    mapValuesLoopGen res f h xs = L.mapLoop res (fun _ v => f v) h xs i := by
  intro xs
  induction xs with
  | nil => intro h i; rfl
  | cons x xs ih =>
    intro h i
    simp only [mapValuesLoopGen, L.mapLoop, addGen_eq, L.add, fun h' => ih h' (i + 1)]
    generalize addEach _ _ _ = r
    rcases r with ⟨h1, _ | k⟩ <;> rfl

theorem mapValuesGen_eq (h : Heap) (a : Nat) (f : Val → GoVal) : mapValuesGen h a f = L.mapValues h a f := by
  gen_eq [mapValuesGen, L.mapValues, L.map, newListGen_eq, L.new, addEach,
    fun res h' xs => mapValuesLoopGen_eq res f xs h' 0, items_append_empty_list]

/-- `result.Add(f(…))` for the elements of kind `k`: a loop with these equations is `mapKLoop` -/
theorem mapKLoop_unique (res : Nat) (k : Kind) (f : Val → GoVal) (g : Heap → List Val → Heap × Out Unit)
    (g1 : ∀ h x xs, g h (x :: xs) =
      if (L.pick h k x).kind == k then
        match addGen h res [f (L.pick h k x)] with
        | (h2, .ok _) => g h2 xs
        | (h2, .panic p) => (h2, .panic p)
      else g h xs)
    (g0 : ∀ h, g h [] = (h, .ok ()) := by intro; rfl)
    (h : Heap) (xs : List Val) : g h xs = L.mapKLoop res k f h xs := by
  induction xs generalizing h with
  | nil => exact g0 h
  | cons x xs ih =>
    rw [g1, L.mapKLoop, L.sel_eq, addGen_eq, L.add]
    cases (L.pick h k x).kind == k
    · exact ih h
    · simp only [if_true, ih]
      generalize addEach _ _ _ = r
      rcases r with ⟨h1, _ | p⟩ <;> rfl

theorem mapObjectsGen_eq (h : Heap) (a : Nat) (f : Val → GoVal) : mapObjectsGen h a f = L.mapK h a .object f := by
  gen_eq [mapObjectsGen, L.mapK, newListGen_eq, L.new, addEach, items_append_empty_list,
    mapKLoop_unique h.length .object f (mapObjectsLoopGen h.length f) (fun _ _ _ => by gen_eq [mapObjectsLoopGen])]
theorem mapListsGen_eq (h : Heap) (a : Nat) (f : Val → GoVal) : mapListsGen h a f = L.mapK h a .list f := by
  gen_eq [mapListsGen, L.mapK, newListGen_eq, L.new, addEach, items_append_empty_list,
    mapKLoop_unique h.length .list f (mapListsLoopGen h.length f) (fun _ _ _ => by gen_eq [mapListsLoopGen])]
theorem mapStringsGen_eq (h : Heap) (a : Nat) (f : Val → GoVal) : mapStringsGen h a f = L.mapK h a .string f := by
  gen_eq [mapStringsGen, L.mapK, newListGen_eq, L.new, addEach, items_append_empty_list,
    mapKLoop_unique h.length .string f (mapStringsLoopGen h.length f) (fun _ _ _ => by gen_eq [mapStringsLoopGen])]
theorem mapBoolsGen_eq (h : Heap) (a : Nat) (f : Val → GoVal) : mapBoolsGen h a f = L.mapK h a .bool f := by
  gen_eq [mapBoolsGen, L.mapK, newListGen_eq, L.new, addEach, items_append_empty_list,
    mapKLoop_unique h.length .bool f (mapBoolsLoopGen h.length f) (fun _ _ _ => by gen_eq [mapBoolsLoopGen])]
theorem mapIntsGen_eq (h : Heap) (a : Nat) (f : Val → GoVal) : mapIntsGen h a f = L.mapK h a .int f := by
  gen_eq [mapIntsGen, L.mapK, newListGen_eq, L.new, addEach, items_append_empty_list,
    mapKLoop_unique h.length .int f (mapIntsLoopGen h.length f) (fun _ _ _ => by gen_eq [mapIntsLoopGen])]
theorem mapFloatsGen_eq (h : Heap) (a : Nat) (f : Val → GoVal) : mapFloatsGen h a f = L.mapK h a .float f := by
  gen_eq [mapFloatsGen, L.mapK, newListGen_eq, L.new, addEach, items_append_empty_list,
    mapKLoop_unique h.length .float f (mapFloatsLoopGen h.length f) (fun _ _ _ => by gen_eq [mapFloatsLoopGen])]

/-! ### numeric aggregates (against `Agg.*` over `numsOf`) -/

/- `Int.add_comm`, `Int.mul_comm`: for a source that writes the operands of `+=` / `*=` in the other order -/
local macro "agg_loop" d:ident m:ident : tactic =>
  `(tactic| (intro xs; induction xs with
    | nil => intro r; simp only [$d:ident, $m:ident, List.map_nil]
    | cons x xs ih =>
      intro r
      cases x <;> simp [$d:ident, $m:ident, Val.toNum, Heap.getVal, Val.kind, intOf, floatOf, ih, Int.add_comm, Int.mul_comm]))

theorem intSumLoopGen_eq (h : Heap) : ∀ xs r, intSumLoopGen h xs r = Agg.intSumLoop (xs.map Val.toNum) r := by
  agg_loop intSumLoopGen Agg.intSumLoop
theorem intProdLoopGen_eq (h : Heap) : ∀ xs r, intProdLoopGen h xs r = Agg.intProdLoop (xs.map Val.toNum) r := by
  agg_loop intProdLoopGen Agg.intProdLoop
theorem sumLoopGen_eq (h : Heap) : ∀ xs r, sumLoopGen h xs r = Agg.sumLoop (xs.map Val.toNum) r := by
  agg_loop sumLoopGen Agg.sumLoop
theorem prodLoopGen_eq (h : Heap) : ∀ xs r, prodLoopGen h xs r = Agg.prodLoop (xs.map Val.toNum) r := by
  agg_loop prodLoopGen Agg.prodLoop

theorem intSumGen_eq (h : Heap) (a : Nat) : intSumGen h a = Agg.intSum (numsOf h a) := by
  simp only [intSumGen, Agg.intSum, numsOf, intSumLoopGen_eq]
theorem intProdGen_eq (h : Heap) (a : Nat) : intProdGen h a = Agg.intProd (numsOf h a) := by
  simp only [intProdGen, Agg.intProd, numsOf, intProdLoopGen_eq]
theorem sumGen_eq (h : Heap) (a : Nat) : sumGen h a = Agg.sum (numsOf h a) := by
  simp only [sumGen, Agg.sum, numsOf, sumLoopGen_eq]
theorem prodGen_eq (h : Heap) (a : Nat) : prodGen h a = Agg.prod (numsOf h a) := by
  simp only [prodGen, Agg.prod, numsOf, prodLoopGen_eq]
theorem avgGen_eq (h : Heap) (a : Nat) : avgGen h a = Agg.avg (numsOf h a) := by
  simp only [avgGen, Agg.avg, sumGen_eq, countGen_eq, L.count, numsOf, List.length_map]

/-! ### scripts for one typed family at a time -/

/-- one typed slice loop against `sliceKLoop` -/
local macro "slice_loop" d:ident : tactic =>
  `(tactic| (intro xs; induction xs with
    | nil => intro acc; simp only [$d:ident, L.sliceKLoop]
    | cons x xs ih =>
      intro acc
      simp only [$d:ident, L.sliceKLoop, L.sel, L.viaGetValL, ih, genGetVal_kind] <;> gen_case))

local macro "all_loop" d:ident : tactic =>
  `(tactic| (intro xs; induction xs with
    | nil => simp only [$d:ident, L.allKLoop, L.allNumericLoop]
    | cons x xs ih => simp only [$d:ident, L.allKLoop, L.allNumericLoop, ih] <;> gen_case))

local macro "foreach_loop" d:ident : tactic =>
  `(tactic| (intro xs; induction xs with
    | nil => intro acc; simp only [$d:ident, L.forEachKLoop]
    | cons x xs ih =>
      intro acc
      simp only [$d:ident, L.forEachKLoop, L.sel, L.viaGetValL, ih, genGetVal_kind] <;> gen_case))

local macro "reduce_loop" d:ident : tactic =>
  `(tactic| (intro xs; induction xs with
    | nil => intro acc; simp only [$d:ident, L.reduceKLoop]
    | cons x xs ih =>
      intro acc
      simp only [$d:ident, L.reduceKLoop, L.sel, ih, genGetVal_kind] <;> gen_case))

local macro "mapk_loop" d:ident : tactic =>
  `(tactic| (intro xs; induction xs with
    | nil => intro h; simp only [$d:ident, L.mapKLoop]
    | cons x xs ih =>
      intro h
      simp only [$d:ident, L.mapKLoop, L.sel, L.viaGetValL, ih, addGen_eq, L.add, genGetVal_kind] <;> gen_case))

end Anytype

#print axioms Anytype.countGen_eq
#print axioms Anytype.emptyGen_eq
#print axioms Anytype.getGen_eq
#print axioms Anytype.getObjectGen_eq
#print axioms Anytype.getListGen_eq
#print axioms Anytype.getStringGen_eq
#print axioms Anytype.getBoolGen_eq
#print axioms Anytype.getIntGen_eq
#print axioms Anytype.getFloatGen_eq
#print axioms Anytype.typeOfGen_eq
#print axioms Anytype.addGen_eq
#print axioms Anytype.insertGen_eq
#print axioms Anytype.replaceGen_eq
#print axioms Anytype.deleteGen_eq
#print axioms Anytype.popGen_eq
#print axioms Anytype.clearGen_eq
#print axioms Anytype.sliceGen_eq
#print axioms Anytype.objectSliceGen_eq
#print axioms Anytype.listSliceGen_eq
#print axioms Anytype.stringSliceGen_eq
#print axioms Anytype.boolSliceGen_eq
#print axioms Anytype.intSliceGen_eq
#print axioms Anytype.floatSliceGen_eq
#print axioms Anytype.containsGen_eq
#print axioms Anytype.indexOfGen_eq
#print axioms Anytype.allObjectsGen_eq
#print axioms Anytype.allListsGen_eq
#print axioms Anytype.allStringsGen_eq
#print axioms Anytype.allBoolsGen_eq
#print axioms Anytype.allIntsGen_eq
#print axioms Anytype.allFloatsGen_eq
#print axioms Anytype.allNumericGen_eq
#print axioms Anytype.concatGen_eq
#print axioms Anytype.subListGen_eq
#print axioms Anytype.newListGen_eq
#print axioms Anytype.reverseGen_eq
#print axioms Anytype.newListOfGen_eq
#print axioms Anytype.sortGen_eq
#print axioms Anytype.forEachGen_eq
#print axioms Anytype.forEachValueGen_eq
#print axioms Anytype.forEachObjectGen_eq
#print axioms Anytype.forEachListGen_eq
#print axioms Anytype.forEachStringGen_eq
#print axioms Anytype.forEachBoolGen_eq
#print axioms Anytype.forEachIntGen_eq
#print axioms Anytype.forEachFloatGen_eq
#print axioms Anytype.reduceGen_eq
#print axioms Anytype.reduceStringsGen_eq
#print axioms Anytype.reduceIntsGen_eq
#print axioms Anytype.reduceFloatsGen_eq
#print axioms Anytype.mapGen_eq
#print axioms Anytype.mapValuesGen_eq
#print axioms Anytype.mapObjectsGen_eq
#print axioms Anytype.mapListsGen_eq
#print axioms Anytype.mapStringsGen_eq
#print axioms Anytype.mapBoolsGen_eq
#print axioms Anytype.mapIntsGen_eq
#print axioms Anytype.mapFloatsGen_eq
#print axioms Anytype.intSumGen_eq
#print axioms Anytype.intProdGen_eq
#print axioms Anytype.sumGen_eq
#print axioms Anytype.prodGen_eq
#print axioms Anytype.avgGen_eq
