/-
The strict number reader on the texts the serialiser makes of a float, given the digit list and the
decimal exponent: the three shapes of `strconv.FormatFloat` (`d.ddde±XX`, `ddd[.ddd]`, `0.000ddd`)
and `ddd.0`, the second with the ".0" appended to a whole value (`eForm`, `fFormFrac`, `fFormSmall`,
`fFormWhole`).
-/
import Anytype.Lemmas.ContractOne
import Anytype.Lemmas.FmtRound
namespace Anytype
namespace FmtT
open F64 Strict

/-- the fraction `m · 10^e` as `Strict.number` / `parseFloat` hand it to `roundRat` -/
def decRat (m : Nat) (e : Int) : Nat × Nat :=
  if e ≥ 0 then (m * 10 ^ e.toNat, 1) else (m, 10 ^ (-e).toNat)

theorem decRat_eq (m : Nat) (e : Int) : decRat m e = (m * 10 ^ e.toNat, 10 ^ (-e).toNat) := by
  unfold decRat
  by_cases h : e ≥ 0
  · rw [if_pos h, show (-e).toNat = 0 by omega]
  · rw [if_neg h, show e.toNat = 0 by omega, Nat.pow_zero, Nat.mul_one]

theorem decRat_snd_pos (m : Nat) (e : Int) : 0 < (decRat m e).2 := by
  rw [decRat_eq]; exact SVP.pow10_pos _

/-- what `m · 10^e` rounds to -/
abbrev roundDec (m : Nat) (e : Int) : Option UInt64 := roundPos (decRat m e).1 (decRat m e).2

/-- trailing zeros of the mantissa may be moved into the exponent -/
theorem roundPos_decRat_shift (m z c : Nat) (k : Int) (h : m * 10 ^ z = c) :
    roundDec m (k + z) = roundDec c k := by
  unfold roundDec
  apply FmtR.roundPos_ratio _ _ _ _ (decRat_snd_pos _ _) (decRat_snd_pos _ _)
  subst h
  simp only [decRat_eq, Nat.mul_assoc, ← Nat.pow_add]
  obtain ⟨a, a', h1, h2, _⟩ := FmtR.toNat_split k
  obtain ⟨b, b', h3, h4, _⟩ := FmtR.toNat_split (k + z)
  rw [h1, h2, h3, h4]
  congr 2
  omega

theorem takeDigits_pre (ds r : Str) (hd : ∀ c ∈ ds, isDigit c = true)
    (hr : ∀ c t, r = c :: t → isDigit c = false) : takeDigits (ds ++ r) = (ds, r) := by
  induction ds with
  | nil =>
    cases r with
    | nil => rfl
    | cons c t => simp [takeDigits, hr c t rfl]
  | cons c ds ih =>
    simp only [List.cons_append, takeDigits, hd c (by simp), if_true,
      ih (fun d h => hd d (by simp [h]))]

theorem signSplit_build (neg : Bool) (d0 : Char) (X : Str) (h : isDigit d0 = true) :
    signSplit ((if neg then ['-'] else []) ++ d0 :: X) = (neg, d0 :: X) := by
  cases neg
  · exact signSplit_of_ne (SVP.digit_ne h (Or.inl (by decide))) X
  · rfl

/-- a fraction is written iff there are fraction digits -/
theorem fracSplit_build (fp et : Str) (hfp : ∀ c ∈ fp, isDigit c = true)
    (het : ∀ c t, et = c :: t → isDigit c = false ∧ c ≠ '.') :
    fracSplit ((if !fp.isEmpty then '.' :: fp else []) ++ et) = (fp, et, !fp.isEmpty) := by
  cases fp with
  | cons c fp =>
    have := takeDigits_pre (c :: fp) et hfp (fun c t h => (het c t h).1)
    simp only [List.isEmpty_cons, Bool.not_false, if_true, List.cons_append, fracSplit] at this ⊢
    rw [this]
  | nil =>
    simp only [List.isEmpty_nil, Bool.not_true, Bool.false_eq_true, if_false, List.nil_append]
    unfold fracSplit; split
    · rename_i t; exact absurd rfl (het '.' t rfl).2
    · rfl

theorem number'_build (neg : Bool) (d0 : Char) (more fp et : Str) (ex : Option Int)
    (hip : ∀ c ∈ d0 :: more, isDigit c = true) (hz : d0 = '0' → more = [])
    (hfp : ∀ c ∈ fp, isDigit c = true)
    (het : ∀ c t, et = c :: t → isDigit c = false ∧ c ≠ '.')
    (hex : expSplit et = some (ex, [])) :
    number' (SVP.numText neg (d0 :: more) fp (!fp.isEmpty) et) =
      numFinal neg (d0 :: more) fp (!fp.isEmpty) ex [] := by
  have hstop : ∀ c t, ((if !fp.isEmpty then '.' :: fp else []) ++ et) = c :: t → isDigit c = false := by
    intro c t h
    cases fp with
    | cons _ _ => cases h; rfl
    | nil => exact (het c t h).1
  have h1 := signSplit_build neg d0 (more ++ ((if !fp.isEmpty then '.' :: fp else []) ++ et))
    (hip d0 List.mem_cons_self)
  have h2 := takeDigits_pre (d0 :: more) _ hip hstop
  have h3 := fracSplit_build fp et hfp het
  have hz' : (d0 == '0' && !more.isEmpty) = false := by
    by_cases h0 : d0 = '0'
    · rw [hz h0]; simp
    · simp [h0]
  have hf' : (!fp.isEmpty && fp.isEmpty) = false := by cases fp <;> rfl
  unfold number'
  rw [show SVP.numText neg (d0 :: more) fp (!fp.isEmpty) et =
      (if neg then ['-'] else []) ++ d0 :: (more ++ ((if !fp.isEmpty then '.' :: fp else []) ++ et)) by
    simp [SVP.numText]]
  simp only [h1, List.cons_append] at h2 ⊢
  simp only [h2, h3, hz', hf', hex, Bool.false_eq_true, if_false]

theorem digitChar_spec : ∀ d, d < 10 → isDigit (digitChar d) = true ∧ (digitChar d).toNat = d + 48 := by
  decide

theorem digitChar_ne_zero : ∀ d, d < 10 → d ≠ 0 → digitChar d ≠ '0' := by decide

theorem digitChar_zero : digitChar 0 = '0' := by decide

/-- value of a digit list, started at `x` -/
def dvalN (ds : List Nat) (x : Nat) : Nat := ds.foldl (fun n d => n * 10 + d) x

theorem dvalN_cons (d : Nat) (ds : List Nat) (x : Nat) : dvalN (d :: ds) x = dvalN ds (x * 10 + d) := rfl

theorem dvalN_append (a b : List Nat) (x : Nat) : dvalN (a ++ b) x = dvalN b (dvalN a x) := by
  simp [dvalN, List.foldl_append]

theorem dvalN_zeros (z x : Nat) : dvalN (List.replicate z 0) x = x * 10 ^ z := by
  induction z generalizing x with
  | zero => simp [dvalN]
  | succ z ih =>
    rw [List.replicate_succ, dvalN_cons, ih, Nat.pow_succ]
    simp only [Nat.add_zero]
    rw [Nat.mul_assoc, Nat.mul_comm 10]

theorem dval_map (ds : List Nat) (hd : ∀ d ∈ ds, d < 10) (x : Nat) :
    SVP.dval (ds.map digitChar) x = dvalN ds x := by
  induction ds generalizing x with
  | nil => rfl
  | cons d ds ih =>
    rw [List.map_cons, SVP.dval_cons, dvalN_cons, ih (fun e h => hd e (by simp [h])),
      (digitChar_spec d (hd d (by simp))).2]
    simp

theorem map_isDigit (ds : List Nat) (hd : ∀ d ∈ ds, d < 10) :
    ∀ c ∈ ds.map digitChar, isDigit c = true := by
  intro c hc
  obtain ⟨d, hd', rfl⟩ := List.mem_map.1 hc
  exact (digitChar_spec d (hd d hd')).1

theorem dvalN_bounds (h : Nat) (tl : List Nat) (hh0 : h ≠ 0) (hh : h < 10) (htl : ∀ d ∈ tl, d < 10) :
    10 ^ tl.length ≤ dvalN (h :: tl) 0 ∧ dvalN (h :: tl) 0 < 10 ^ (tl.length + 1) := by
  rw [dvalN_cons, ← dval_map tl htl]
  have h1 := SVP.dval_ge (tl.map digitChar) (0 * 10 + h)
  have h2 := SVP.dval_lt (tl.map digitChar) (map_isDigit tl htl) (0 * 10 + h)
  rw [List.length_map] at h1 h2
  simp only [Nat.zero_mul, Nat.zero_add] at h1 h2 ⊢
  have h3 : 1 * 10 ^ tl.length ≤ h * 10 ^ tl.length := Nat.mul_le_mul_right _ (by omega)
  have h4 : (h + 1) * 10 ^ tl.length ≤ 10 * 10 ^ tl.length := Nat.mul_le_mul_right _ (by omega)
  rw [Nat.pow_succ]
  omega

theorem decLen_ge (k : Nat) : ∀ m, 10 ^ k ≤ m → k + 1 ≤ decLen m := by
  induction k with
  | zero => intro m _; exact SVP.decLen_pos m
  | succ k ih =>
    intro m h
    have h10 : 10 ≤ m := by
      have : 10 ^ 1 ≤ 10 ^ (k + 1) := Nat.pow_le_pow_right (by decide) (by omega)
      omega
    have hk : 10 ^ k ≤ m / 10 := by
      rw [Nat.pow_succ] at h
      rw [Nat.le_div_iff_mul_le (by decide)]; exact h
    have := ih _ hk
    unfold decLen at this ⊢
    rw [Nat.toDigits_of_base_le (by decide) h10, List.length_append]
    simp
    omega

theorem decLen_eq (k m : Nat) (h1 : 10 ^ k ≤ m) (h2 : m < 10 ^ (k + 1)) : decLen m = k + 1 :=
  Nat.le_antisymm (SVP.decLen_le k m h2) (decLen_ge k m h1)

theorem zeros_lt {z d : Nat} (h : d ∈ List.replicate z 0) : d < 10 := by
  rw [(List.mem_replicate.1 h).2]; decide

/-- the reader on the text with integer digits `d0 :: more`, fraction digits `fpd` (a fraction is
written iff there are any) and exponent text `et`: the float `m · 10^e10`, `m` the value of all
the digits, of `k + 1` decimal places -/
theorem number_digits (s : Bool) (d0 : Nat) (more fpd : List Nat) (et : Str) (ex : Option Int)
    (hd0 : d0 < 10) (hmore : ∀ d ∈ more, d < 10) (hfp : ∀ d ∈ fpd, d < 10) (hz : d0 = 0 → more = [])
    (hfl : (fpd.isEmpty && ex.isNone) = false)
    (het : ∀ c t, et = c :: t → isDigit c = false ∧ c ≠ '.') (hex : expSplit et = some (ex, []))
    (m : Nat) (hm : dvalN ((d0 :: more) ++ fpd) 0 = m) (k : Nat) (hk1 : 10 ^ k ≤ m)
    (hk2 : m < 10 ^ (k + 1)) (e10 : Int) (he : ex.getD 0 - (fpd.length : Int) = e10)
    (hg1 : e10 + k ≤ 399) (hg2 : -401 ≤ e10 + k) (b : UInt64) (hr : roundDec m e10 = some b) :
    number (SVP.numText s ((d0 :: more).map digitChar) (fpd.map digitChar) (!fpd.isEmpty) et)
      = some (some (.float (withSign s ⟨b⟩)), []) := by
  have hip : ∀ d ∈ d0 :: more, d < 10 := List.forall_mem_cons.2 ⟨hd0, hmore⟩
  have hm0 : (m == 0) = false := by
    have := SVP.pow10_pos k
    rw [beq_eq_false_iff_ne]; omega
  have hdl := decLen_eq k m hk1 hk2
  have hm' : digitsVal ((d0 :: more).map digitChar ++ fpd.map digitChar) = m := by
    rw [← List.map_append, SVP.digitsVal_eq_dval,
      dval_map _ (fun d h => (List.mem_append.1 h).elim (hip d) (hfp d)), hm]
  rw [number_eq, List.map_cons, ← List.isEmpty_map (f := digitChar), number'_build s (digitChar d0) _ _ et ex
    (by rw [← List.map_cons]; exact map_isDigit _ hip)
    (fun h0 => by
      rw [hz (Classical.byContradiction fun hne => digitChar_ne_zero d0 hd0 hne h0)]
      rfl)
    (map_isDigit _ hfp) het hex]
  -- the float branch of `numFinal`, both exponent guards passed
  unfold numFinal
  rw [← List.map_cons] 
  simp only [hm', List.isEmpty_map, List.length_map, he, Bool.not_not, hfl, Bool.false_eq_true, if_false,
    hm0, hdl, if_neg (show ¬ e10 + ((k + 1 : Nat) : Int) > 400 by omega),
    if_neg (show ¬ e10 + ((k + 1 : Nat) : Int) < -400 by omega)]
  unfold roundDec decRat at hr
  by_cases hp : e10 ≥ 0
  · rw [if_pos hp] at hr ⊢
    simp only [roundRat, hr, Option.map_some]
  · rw [if_neg hp] at hr ⊢
    simp only [roundRat, hr, Option.map_some]

theorem natToStr_isDigit (n : Nat) : ∀ c ∈ natToStr n, isDigit c = true :=
  fun c hc => isDigit_of_dig c (mem_toDigits_dig hc)

/-- the exponent part `e±XX` -/
def expText (E : Int) : Str :=
  ['e'] ++ (if E < 0 then ['-'] else ['+']) ++
    (if (natToStr E.natAbs).length < 2 then '0' :: natToStr E.natAbs else natToStr E.natAbs)

theorem expSplit_expText (E : Int) (hE : E.natAbs < 1000) :
    expSplit (expText E) = some (some E, []) := by
  unfold expText
  generalize hen : (if (natToStr E.natAbs).length < 2 then '0' :: natToStr E.natAbs
      else natToStr E.natAbs) = en
  have hlen0 : (natToStr E.natAbs).length ≤ 3 :=
    COne.decLen_le_of_lt (m := E.natAbs) (k := 3) (by decide) hE
  -- `en` is `|E|` in two digits or more
  obtain ⟨hd, hlen, hemp, hval⟩ : (∀ c ∈ en, isDigit c = true) ∧ en.length ≤ 4 ∧
      en.isEmpty = false ∧ digitsVal en = E.natAbs := by
    rw [← hen]
    by_cases h2 : (natToStr E.natAbs).length < 2
    · rw [if_pos h2]
      refine ⟨fun c hc => ?_, by rw [List.length_cons]; omega, rfl, ?_⟩
      · rcases List.mem_cons.1 hc with rfl | h
        · rfl
        · exact natToStr_isDigit _ c h
      · rw [SVP.digitsVal_eq_dval, SVP.dval_cons]; exact digitsVal_toDigits _
    · rw [if_neg h2]
      exact ⟨natToStr_isDigit _, by omega, List.isEmpty_eq_false_iff.2 Nat.toDigits_ne_nil,
        digitsVal_toDigits _⟩
  have hcap : ((if (en.dropWhile (· == '0')).length > 6 then 1000000
      else digitsVal (en.dropWhile (· == '0')) : Nat)) = E.natAbs := by
    rw [if_neg (Nat.not_lt.2 (Nat.le_trans (List.dropWhile_sublist _).length_le (by omega))),
      SVP.digitsVal_eq_dval, SVP.dval_dropZeros, ← SVP.digitsVal_eq_dval, hval]
  obtain ⟨c, v, hc, hs, hv⟩ : ∃ (c : Char) (v : Int), (if E < 0 then ['-'] else ['+']) = [c] ∧
      expSign (c :: en) = (v, en) ∧ v * (E.natAbs : Int) = E := by
    by_cases hneg : E < 0
    · exact ⟨'-', -1, if_pos hneg, rfl, by omega⟩
    · exact ⟨'+', 1, if_neg hneg, rfl, by omega⟩
  rw [hc]
  show expSplit ('e' :: c :: en) = _
  rw [expSplit_eq 'e' _ rfl]
  simp only [hs, takeDigits_all en hd, hemp, Bool.false_eq_true, if_false, hcap, hv]

theorem expText_head (E : Int) : ∀ c t, expText E = c :: t → isDigit c = false ∧ c ≠ '.' := by
  intro c t h
  unfold expText at h
  simp only [List.cons_append, List.nil_append] at h
  injection h with h1 _
  rw [← h1]; exact ⟨by decide, by decide⟩

/-! ### the text shapes

In each, `h :: tl` are the digits `shortest` returns (`h ≠ 0`), `E` is the decimal exponent of `h`,
and `b` is the pattern the value `dvalN (h :: tl) · 10^(E - |tl|)` rounds to. -/

/-- the text of `fmtE` for the digits `h :: tl` -/
def eText (s : Bool) (h : Nat) (tl : List Nat) (E : Int) : Str :=
  (if s then ['-'] else []) ++ [digitChar h] ++
    (if tl.isEmpty then [] else '.' :: tl.map digitChar) ++ expText E

/-- the text of `fmtF` for the digits `ds` with exponent `E ≥ 0` -/
def fTextPos (s : Bool) (ds : List Nat) (E : Int) : Str :=
  (if s then ['-'] else []) ++
    ((ds.take (E.toNat + 1)) ++ List.replicate (E.toNat + 1 - ds.length) 0).map digitChar ++
    (if (ds.drop (E.toNat + 1)).isEmpty then [] else '.' :: (ds.drop (E.toNat + 1)).map digitChar)

/-- the text of `fmtF` for the digits `ds` with exponent `E < 0` -/
def fTextNeg (s : Bool) (ds : List Nat) (E : Int) : Str :=
  (if s then ['-'] else []) ++ ['0', '.'] ++ List.replicate ((-E).toNat - 1) '0' ++ ds.map digitChar

theorem eForm (s : Bool) (h : Nat) (tl : List Nat) (E : Int) (hh0 : h ≠ 0) (hh : h < 10)
    (htl : ∀ d ∈ tl, d < 10) (hE1 : -399 ≤ E) (hE2 : E ≤ 398) (b : UInt64)
    (hr : roundDec (dvalN (h :: tl) 0) (E - tl.length) = some b) :
    number (eText s h tl E) = some (some (.float (withSign s ⟨b⟩)), []) := by
  have hb := dvalN_bounds h tl hh0 hh htl
  have := number_digits s h [] tl (expText E) (some E) hh (by simp) htl
    (fun _ => rfl) (by simp) (expText_head E) (expSplit_expText E (by omega)) (dvalN (h :: tl) 0) rfl
    _ hb.1 hb.2 (E - tl.length) rfl (by omega) (by omega) b hr
  rw [← this]
  unfold SVP.numText eText
  cases tl <;> simp

/-- exponent ≥ 0 with a fractional part: `ddd.ddd` -/
theorem fFormFrac (s : Bool) (h : Nat) (tl : List Nat) (E : Int) (hh0 : h ≠ 0) (hh : h < 10)
    (htl : ∀ d ∈ tl, d < 10) (hE0 : 0 ≤ E) (hE2 : E ≤ 398) (hlen : E.toNat + 1 < (h :: tl).length)
    (b : UInt64)
    (hr : roundDec (dvalN (h :: tl) 0) (E - tl.length) = some b) :
    number (fTextPos s (h :: tl) E) = some (some (.float (withSign s ⟨b⟩)), []) := by
  have hb := dvalN_bounds h tl hh0 hh htl
  simp only [List.length_cons] at hlen
  have hsplit : (h :: tl.take E.toNat) ++ tl.drop E.toNat = h :: tl := by
    rw [List.cons_append, List.take_append_drop]
  have hdrop : (tl.drop E.toNat).isEmpty = false := by
    rw [List.isEmpty_eq_false_iff, ne_eq, List.drop_eq_nil_iff]; omega
  have := number_digits s h (tl.take E.toNat) (tl.drop E.toNat) [] none hh
    (fun d hd => htl d (List.mem_of_mem_take hd)) (fun d hd => htl d (List.mem_of_mem_drop hd))
    (fun h0 => absurd h0 hh0)
    (by rw [hdrop]; rfl) (by simp) rfl (dvalN (h :: tl) 0) (by rw [hsplit]) _ hb.1 hb.2 (E - tl.length)
    (by simp only [Option.getD_none, List.length_drop]; omega) (by omega) (by omega) b hr
  rw [← this, hdrop, fTextPos,
    show E.toNat + 1 - (h :: tl).length = 0 by simp only [List.length_cons]; omega]
  simp [SVP.numText, show ¬ tl.length ≤ E.toNat by omega]

/-- exponent ≥ 0, whole value: `ddd000.0` -/
theorem fFormWhole (s : Bool) (h : Nat) (tl : List Nat) (E : Int) (hh0 : h ≠ 0) (hh : h < 10)
    (htl : ∀ d ∈ tl, d < 10) (hE0 : 0 ≤ E) (hE2 : E ≤ 398) (hlen : (h :: tl).length ≤ E.toNat + 1)
    (b : UInt64)
    (hr : roundDec (dvalN (h :: tl) 0) (E - tl.length) = some b) :
    number (fTextPos s (h :: tl) E ++ ['.', '0']) = some (some (.float (withSign s ⟨b⟩)), []) := by
  simp only [List.length_cons] at hlen
  obtain ⟨z, hzE⟩ : ∃ z, E.toNat = tl.length + z := ⟨E.toNat - tl.length, by omega⟩
  -- the text is that of the digits `h :: tl` followed by `z + 1` zeros, the last after the point
  have htxt : fTextPos s (h :: tl) E ++ ['.', '0'] =
      fTextPos s (h :: (tl ++ List.replicate (z + 1) 0)) E := by
    simp [fTextPos, hzE, List.take_append, List.drop_append, List.replicate_succ', digitChar_zero]
  have hr' : roundDec (dvalN (h :: (tl ++ List.replicate (z + 1) 0)) 0)
      (E - (tl ++ List.replicate (z + 1) 0).length) = some b := by
    rw [← List.cons_append, dvalN_append, dvalN_zeros, List.length_append, List.length_replicate,
      show E - ((tl.length + (z + 1) : Nat) : Int) = -1 by omega,
      ← roundPos_decRat_shift _ (z + 1) _ (-1) rfl,
      show (-1 : Int) + ((z + 1 : Nat) : Int) = E - tl.length by omega]
    exact hr
  rw [htxt]
  exact fFormFrac s h _ E hh0 hh (fun d hd => (List.mem_append.1 hd).elim (htl d) zeros_lt) hE0 hE2
    (by simp only [List.length_cons, List.length_append, List.length_replicate]; omega) b hr'

/-- exponent < 0: `0.000ddd` -/
theorem fFormSmall (s : Bool) (h : Nat) (tl : List Nat) (E : Int) (hh0 : h ≠ 0) (hh : h < 10)
    (htl : ∀ d ∈ tl, d < 10) (hE0 : E < 0) (hE1 : -399 ≤ E) (b : UInt64)
    (hr : roundDec (dvalN (h :: tl) 0) (E - tl.length) = some b) :
    number (fTextNeg s (h :: tl) E) = some (some (.float (withSign s ⟨b⟩)), []) := by
  have hb := dvalN_bounds h tl hh0 hh htl
  unfold fTextNeg
  generalize hz : (-E).toNat - 1 = z
  have hall : ∀ d ∈ h :: tl, d < 10 := List.forall_mem_cons.2 ⟨hh, htl⟩
  have := number_digits s 0 [] (List.replicate z 0 ++ h :: tl) [] none (by decide) (by simp)
    (fun d hd => (List.mem_append.1 hd).elim zeros_lt (hall d))
    (fun _ => rfl) (by simp) (by simp) rfl (dvalN (h :: tl) 0)
    (by
      show dvalN (List.replicate (z + 1) 0 ++ h :: tl) 0 = _
      rw [dvalN_append, dvalN_zeros, Nat.zero_mul])
    _ hb.1 hb.2 (E - tl.length)
    (by simp only [Option.getD_none, List.length_append, List.length_replicate, List.length_cons]; omega)
    (by omega) (by omega) b hr
  rw [← this]
  simp [SVP.numText, digitChar_zero]

end FmtT
end Anytype
