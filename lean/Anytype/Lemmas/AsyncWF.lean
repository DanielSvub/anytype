/-
Both accepted skeletons at once: the invariants of `AsyncForEach` / `AsyncMap` as functions of a
well-formed skeleton, runs and their length, and the agreement of the executable checker
(`violation?`, `deadlocked`) with the proved invariants.
-/
import Anytype.Lemmas.AsyncForEach
import Anytype.Lemmas.AsyncMap
namespace Anytype.Async
variable {s : Skel} {n : Nat} {st st' : State}

/-- the position of the callback statement in the body -/
def callPos (s : Skel) : Nat := if s.hasResult then 1 else 0

theorem wf_cases (h : WellFormed s = true) : s = forEachSkel ∨ s = mapSkel := by
  simpa [WellFormed] using h

theorem core_of_wf (hwf : WellFormed s = true)
    (hr : Reachable s n st) : Core s.hasResult (callPos s) s.body.length n st := by
  rcases wf_cases hwf with rfl | rfl
  · exact (invFE_of_reachable hr).core
  · exact (invMap_of_reachable hr).core

theorem callPos_lt (hwf : WellFormed s = true) : callPos s + 1 < s.body.length := by
  rcases wf_cases hwf with rfl | rfl <;> decide

theorem stepWorker_log {i : Nat} {w : Worker}
    (hs : s.args = .byValue) :
    ∃ evs, (stepWorker s n st i w).log = st.log ++ evs ∧
      (∀ e ∈ evs, e.index? = some w.arg) ∧
      (∀ j, Event.write j ∈ evs → s.body[w.pc]? = some .callWrite ∧ w.inCall = true) := by
  have hra : readArg s n st w = w.arg := by simp [readArg, hs]
  have silent : ∀ {B : Prop}, ∃ evs, st.log = st.log ++ evs ∧
      (∀ e ∈ evs, e.index? = some w.arg) ∧ (∀ j, Event.write j ∈ evs → B) :=
    ⟨[], by simp, by simp, by simp⟩
  unfold stepWorker
  cases hb : s.body[w.pc]? with
  | none => exact silent
  | some b =>
    cases b <;> dsimp only
    case lock | done | «opaque» => exact silent
    case unlock => split <;> exact silent
    case call =>
      split
      · exact ⟨[.callEnd w.arg], rfl, by simp [Event.index?], by simp⟩
      · exact ⟨[.callStart w.arg], by simp [hra], by simp [Event.index?], by simp⟩
    case callWrite =>
      split
      · next hic =>
        exact ⟨[.callEnd w.arg, .write w.arg], rfl, by simp [Event.index?], fun _ _ => ⟨rfl, hic⟩⟩
      · exact ⟨[.callStart w.arg], by simp [hra], by simp [Event.index?], by simp⟩

/-- `Run s n st as st'`: the schedule `as` leads from `st` to `st'` -/
inductive Run (s : Skel) (n : Nat) : State → List Action → State → Prop
  | nil (st : State) : Run s n st [] st
  | cons {st st' : State} {a : Action} {as : List Action} :
      isEnabled s n st a = true → Run s n (step s n st a) as st' → Run s n st (a :: as) st'

theorem Run.reachable {s : Skel} {n : Nat} {st st' : State} {as : List Action}
    (h : Run s n st as st') (hr : Reachable s n st) : Reachable s n st' := by
  induction h with
  | nil => exact hr
  | cons he _ ih => exact ih (Reachable.step hr he)

theorem Run.length_le {as : List Action}
    (h : Run s n st as st') (hr : Reachable s n st) :
    as.length + measure s n st' ≤ measure s n st := by
  induction h with
  | nil => simp
  | cons he _ ih =>
    have := measure_step_lt (basic_of_reachable hr) he
    have := ih (Reachable.step hr he)
    simp only [List.length_cons]
    omega

theorem measure_init (s : Skel) (n : Nat) :
    measure s n (init s n) = n + 2 + n * (2 * s.body.length) := by
  simp [measure, init, mainMeasure, workerMeasure, List.map_replicate]

/-- every component of the executable safety check, from the common part of the invariant -/
theorem violation_none_of
    (hwf : WellFormed s = true) (hc : Core s.hasResult (callPos s) s.body.length n st)
    (hwrite : ∀ j, st.log.count (.write j) ≤ 1) (hwriteOut : ∀ j, n ≤ j → Event.write j ∉ st.log)
    (hexcl : s.hasResult = true → st.workers.countP (·.inCall) ≤ 1)
    (hres : s.hasResult = true → st.main = .returned → st.result = (List.range n).map some) :
    violation? s n st = none := by
  have hshape : s.unrecognised = false := by
    rcases wf_cases hwf with rfl | rfl <;> decide
  have hidx : st.log.any (Event.outOfRange n) = false := by
    rw [List.any_eq_false]
    intro e he
    cases e <;> simp only [Event.outOfRange, Event.index?, decide_eq_true_eq, Bool.false_eq_true,
      not_false_eq_true] <;> intro hi
    · exact (hc.no_events_out_of_range _ hi).1 he
    · exact (hc.no_events_out_of_range _ hi).2 he
    · exact hwriteOut _ hi he
  have hstart : (List.range n).any (fun i => decide (1 < st.log.count (.callStart i))) = false := by
    rw [List.any_eq_false]
    intro i _
    rw [(hc.counts i).1, decide_eq_true_eq]
    split
    · split <;> omega
    · omega
  have hwr : (List.range n).any (fun i => decide (1 < st.log.count (.write i))) = false := by
    rw [List.any_eq_false]
    intro i _
    have := hwrite i
    rw [decide_eq_true_eq]; omega
  have harg : st.workers.zipIdx.any (fun p => p.1.live && decide (p.1.arg ≠ p.2)) = false := by
    rw [List.any_eq_false]
    intro p hp
    rw [List.mem_zipIdx_iff_getElem?] at hp
    cases hl : p.1.live with
    | false => simp
    | true => simp [(hc.wk p.2 p.1 hp).arg hl]
  have hov : (s.hasResult && decide (1 < st.workers.countP (·.inCall))) = false := by
    cases hh : s.hasResult with
    | false => rfl
    | true => have := hexcl hh; simp; omega
  simp only [violation?, hc.noPanic, hc.noUnsync, hshape, hidx, hstart, hwr, harg, hov,
    Bool.false_eq_true, if_false]
  cases hm : st.main with
  | start => rfl
  | spawned k => rfl
  | returned =>
    have hfin : st.workers.all (Worker.finished s) = true := by
      rw [List.all_eq_true]
      intro w hw
      simp [Worker.finished, hc.ret hm w hw]
    simp only [hfin, hc.trace_valid hm, Bool.not_true, Bool.false_eq_true, if_false]
    cases hh : s.hasResult with
    | false => rfl
    | true => simp [hres hh hm]

/-- in a returned state, slot `j` holds the value computed from element `j` -/
theorem map_result_returned (h : InvMap n st)
    (hr : st.main = .returned) : st.result = (List.range n).map some := by
  apply List.ext_getElem?
  intro j
  by_cases hj : j < n
  · obtain ⟨w, hw, _, hpc, _, _⟩ := h.core.returned_all (by decide) hr j hj
    rw [h.res j w hw, hpc]
    simp [List.getElem?_range hj]
  · rw [List.getElem?_eq_none (by rw [h.resLen]; omega),
      List.getElem?_eq_none (by simp; omega)]

theorem map_write_count_le (h : InvMap n st) (j : Nat) :
    st.log.count (.write j) ≤ 1 := by
  by_cases hj : j < n
  · have hj' : j < st.workers.length := by rw [h.core.len]; exact hj
    rw [h.writes j _ (List.getElem?_eq_getElem hj')]
    split <;> omega
  · have := List.count_eq_zero.2 (h.writesOut j (by omega))
    omega

theorem map_inCall_le_one (h : InvMap n st) :
    st.workers.countP (·.inCall) ≤ 1 := by
  apply countP_le_one
  intro i j a b ha hb pa pb
  exact h.exclusive ha hb (Or.inl ((h.core.wk i a ha).inCall pa))
    (Or.inl ((h.core.wk j b hb).inCall pb))

/-- a `write j` event is appended only by worker `j`, and only while it holds the mutex -/
theorem map_write_owner {i : Nat} (h : InvMap n st)
    (he : isEnabled mapSkel n st (.work i) = true) (j : Nat)
    (hj : Event.write j ∈ (step mapSkel n st (.work i)).log) :
    Event.write j ∈ st.log ∨ (j = i ∧ st.mutex = some i) := by
  obtain ⟨_, w, b, hw, hl, hb, _⟩ := isEnabled_work he
  rw [step_work hw] at hj
  obtain ⟨evs, hlog, hidx, hwr⟩ :=
    stepWorker_log (s := mapSkel) (n := n) (st := st) (i := i) (w := w) rfl
  rw [hlog, List.mem_append] at hj
  rcases hj with hj | hj
  · exact Or.inl hj
  · right
    have h1 := hidx _ hj
    simp only [Event.index?, Option.some.injEq] at h1
    have ha := (h.core.wk i w hw).arg hl
    obtain ⟨hcw, _⟩ := hwr j hj
    have hpc : w.pc = 1 := by
      rcases map_body_cases hcw with ⟨_, e⟩ | ⟨e, _⟩ | ⟨_, e⟩ | ⟨_, e⟩
      · cases e
      · exact e
      · cases e
      · cases e
    exact ⟨by omega, (h.cs i w hw).1 (Or.inl hpc)⟩

theorem progress_wf (hwf : WellFormed s = true)
    (hr : Reachable s n st) (hnr : st.main ≠ .returned) :
    ∃ a, isEnabled s n st a = true := by
  rcases wf_cases hwf with rfl | rfl
  · exact forEach_progress (invFE_of_reachable hr) hnr
  · exact map_progress (invMap_of_reachable hr) hnr

theorem violation_none (hwf : WellFormed s = true)
    (hr : Reachable s n st) : violation? s n st = none := by
  have hc := core_of_wf hwf hr
  rcases wf_cases hwf with rfl | rfl
  · have I := invFE_of_reachable hr
    refine violation_none_of hwf hc ?_ (fun j _ => I.noWrite j) ?_ ?_
    · intro j; rw [List.count_eq_zero.2 (I.noWrite j)]; omega
    · intro h; cases h
    · intro h; cases h
  · have I := invMap_of_reachable hr
    exact violation_none_of hwf hc (map_write_count_le I) I.writesOut
      (fun _ => map_inCall_le_one I) (fun _ hm => map_result_returned I hm)

theorem not_deadlocked (hwf : WellFormed s = true)
    (hr : Reachable s n st) : deadlocked s n st = false := by
  by_cases hm : st.main = .returned
  · simp [deadlocked, hm]
  · obtain ⟨a, ha⟩ := progress_wf hwf hr hm
    have := mem_enabled.2 ha
    cases he : enabled s n st with
    | nil => rw [he] at this; cases this
    | cons x xs => simp [deadlocked, he]

/-- so the depth-first search of `firstViolation` finds nothing, whatever `n` and the fuel:
every state it visits is reachable -/
theorem findViolation_none (hwf : WellFormed s = true) :
    ∀ (fuel : Nat) (st : State) (acc : List Action), Reachable s n st →
      findViolation s n fuel st acc = none
  | 0, _, _, _ => rfl
  | fuel + 1, st, acc, hr => by
    rw [findViolation, violation_none hwf hr]
    dsimp only
    split
    · rw [not_deadlocked hwf hr]; rfl
    · rw [List.findSome?_eq_none_iff]
      intro a ha
      exact findViolation_none hwf fuel _ _ (hr.step (mem_enabled.1 ha))

theorem firstViolation_none (hwf : WellFormed s = true) (n : Nat) :
    firstViolation s n = none :=
  findViolation_none hwf _ _ _ .init

/-! ### explicit schedules (for non-vacuity examples) -/

/-- run a schedule, checking that every action is enabled -/
def runSchedule (s : Skel) (n : Nat) : State → List Action → Option State
  | st, [] => some st
  | st, a :: as => if isEnabled s n st a = true then runSchedule s n (step s n st a) as else none

theorem Run.of_runSchedule {as : List Action} :
    ∀ {st st' : State}, runSchedule s n st as = some st' → Run s n st as st' := by
  induction as with
  | nil => intro st st' h; cases h; exact .nil st
  | cons a as ih =>
    intro st st' h
    simp only [runSchedule] at h
    split at h
    · next he => exact .cons he (ih h)
    · cases h

theorem reachable_of_runSchedule {as : List Action} :
    ∀ {st st' : State}, Reachable s n st → runSchedule s n st as = some st' →
      Reachable s n st' :=
  fun hr h => (Run.of_runSchedule h).reachable hr

/-- a worker that has executed more `lock`s than `unlock`s -/
def betweenLockUnlock (s : Skel) (w : Worker) : Prop :=
  (s.body.take w.pc).count .unlock < (s.body.take w.pc).count .lock

theorem between_map_iff {w : Worker} (h : w.pc ≤ 4) :
    betweenLockUnlock mapSkel w ↔ w.inCS := by
  have : ∀ k, k ≤ 4 → ((mapSkel.body.take k).count .unlock < (mapSkel.body.take k).count .lock ↔
      (k = 1 ∨ k = 2)) := by decide
  exact this w.pc h

theorem between_forEach {w : Worker} : ¬ betweenLockUnlock forEachSkel w := by
  have : ∀ k, (forEachSkel.body.take k).count .lock = 0 := by
    intro k
    rw [List.count_eq_zero]
    intro h
    have := List.mem_of_mem_take h
    simp [forEachSkel] at this
  simp [betweenLockUnlock, this]

end Anytype.Async
