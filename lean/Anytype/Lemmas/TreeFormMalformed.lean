/-
GetTF / TypeOfTF on ARBITRARY texts: a text outside the grammar resolves only in two situations
(non-canonical numerals that `strconv.ParseInt(s, 0, 64)` accepts; finding K1: an empty segment
makes the rest of the text a key).
-/
import Anytype.Lemmas.TreeFormGet
namespace Anytype
namespace TFP
open Heap

/-- `ParseInt` gives up at a leading sigil (neither sign nor digit): the model evaluates on the first character -/
theorem parseIdx_sigilHead {t : Str} (ht : SigilHead t) : TF.parseIdx t = none := by
  obtain ⟨c, u, rfl, hc⟩ := ht
  rcases isSigil_iff.1 hc with rfl | rfl <;> rfl

theorem parseIdx_canon {b : Str} {m : Nat} {i : Int} (hc : canonNat b = some m)
    (hp : TF.parseIdx b = some i) : i = (m : Int) ∧ m < 2 ^ 63 := by
  rw [canonNat_some hc] at hp
  by_cases hm : m < 2 ^ 63
  · rw [parseIdx_toDigits m hm] at hp
    cases hp
    exact ⟨rfl, hm⟩
  · rw [parseIdx_toDigits_big m (by omega)] at hp
    cases hp

/-! ## texts outside the grammar -/

/-- some '#'-segment is not a canonical decimal numeral, yet `strconv.ParseInt(seg, 0, 64)` reads
it as a non-negative index (`#010`, `#0x2`, `#+1`, `#1_0`, `#-0`): the property says nothing there -/
def NonCanonicalNumeral (s : Str) : Prop :=
  ∃ (pre body post : Str) (i : Int), s = pre ++ '#' :: (body ++ post) ∧ SigilFree body ∧
    (post = [] ∨ ∃ c u, post = c :: u ∧ isSigil c = true) ∧ canonNat body = none ∧
    parseIntBase0 body = some i ∧ 0 ≤ i

/-- finding K1: after a resolvable prefix `p` comes an EMPTY segment (a sigil directly followed
by a sigil), the receiver reached by `p` is an object, and that object has the whole remaining
text `t` (which starts with a sigil) as a key -/
def SigilLeafKey (h : Heap) (v : Val) (s : Str) : Prop :=
  ∃ (p : List Seg) (t : Str) (r : Ref), s = render p ++ '.' :: t ∧
    (∃ c u, t = c :: u ∧ isSigil c = true) ∧ ValidPath p ∧
    navigate h v p = some (.obj r) ∧ (lookup (h.fields r.addr) t).isSome = true

/-- the three ways a text can resolve -/
def Explained (h : Heap) (v : Val) (s : Str) : Prop :=
  (∃ p, segments s = some p) ∨ NonCanonicalNumeral s ∨ SigilLeafKey h v s

theorem Explained.single (h : Heap) (v : Val) (s : Seg) (hs : s.Valid) : Explained h v (s.sigil :: s.text) := by
  refine Or.inl ⟨[s], ?_⟩
  have := segments_render [s] (by simp) (ValidPath.keys (fun x hx => by rw [List.mem_singleton.1 hx]; exact hs))
  rwa [render_cons, render, List.append_nil] at this

theorem Explained.cons {h : Heap} {v w : Val} (s1 : Seg) (hs1 : s1.Valid) (hn : navStep h v s1 = some w)
    {rest : Str} (he : Explained h w rest) : Explained h v (s1.sigil :: (s1.text ++ rest)) := by
  rcases he with ⟨p', hp'⟩ | ⟨pre, body, post, i, e, hb, hpost, hc, hpi, hi⟩ | ⟨p', t, r, e, ht, hv, hnav, hl⟩
  · obtain ⟨rfl, hne, hk⟩ := segments_some hp'
    refine Or.inl ⟨s1 :: p', ?_⟩
    rw [← render_cons]
    exact segments_render _ (by simp) (ValidKeys.cons (fun k ek => by subst ek; exact hs1) hk)
  · refine Or.inr (Or.inl ⟨s1.sigil :: (s1.text ++ pre), body, post, i, ?_, hb, hpost, hc, hpi, hi⟩)
    rw [e]; simp
  · refine Or.inr (Or.inr ⟨s1 :: p', t, r, ?_, ht, ?_, ?_, hl⟩)
    · rw [e, render_cons]; simp
    · intro x hx
      rcases List.mem_cons.1 hx with rfl | hx
      · exact hs1
      · exact hv x hx
    · rw [navigate_cons_of_step _ hn]; exact hnav

/-- a sigil-free segment text on which the receiver's `Get` succeeds is the text of a well-formed
segment, or a non-canonical numeral -/
theorem seg_of_readSlot {h : Heap} {v w : Val} {c : Char} {seg : Str} {sl : Slot}
    (hc : recvSigil v = some c) (hp : readSlot v seg = some sl) (hne : seg ≠ []) (hf : SigilFree seg)
    (hg : sl.get h = .ok w) :
    (∃ s : Seg, s.Valid ∧ s.sigil = c ∧ s.text = seg ∧ navStep h v s = some w) ∨
    (c = '#' ∧ ∃ i, canonNat seg = none ∧ parseIntBase0 seg = some i ∧ 0 ≤ i) := by
  cases v with
  | list r =>
    cases hc
    cases hpi : TF.parseIdx seg with
    | none => simp [readSlot, hpi] at hp
    | some i =>
      simp only [readSlot, hpi, Option.map_some, Option.some.injEq] at hp
      subst hp
      cases hcn : canonNat seg with
      | none =>
        refine Or.inr ⟨rfl, i, rfl, hpi, Decidable.byContradiction fun h0 => ?_⟩
        rw [show Slot.get h _ = L.get h r.addr i from rfl, L.get_out h r.addr i (fun hi => h0 hi.1)] at hg
        cases hg
      | some m =>
        obtain ⟨rfl, hm⟩ := parseIdx_canon hcn hpi
        exact Or.inl ⟨.idx m, hm, rfl, (canonNat_some hcn).symm, by simp only [navStep]; rw [show L.get h r.addr m = _ from hg]⟩
  | obj r =>
    cases hc
    cases hp
    exact Or.inl ⟨.key seg, ⟨hne, hf⟩, rfl, rfl, by simp only [navStep]; rw [show O.get h r.addr seg = _ from hg]⟩
  | _ => cases hc

/-- whenever GetTF returns something, the text is explained -/
theorem explained_of_get (h : Heap) : ∀ (n : Nat) (v : Val) (s : Str),
    (getV n h v s).isPanic = false → Explained h v s := by
  intro n
  induction n with
  | zero => intro v s hne; rw [getV_zero] at hne; cases hne
  | succ n ih =>
    intro v s hne
    rw [getV_succ] at hne
    cases hc : recvSigil v with
    | none => unfold walkV at hne; rw [hc] at hne; cases hne
    | some c =>
      rw [walkV_eq hc] at hne
      cases hr : readHead c s with
      | none => rw [hr] at hne; cases hne
      | some sr =>
        obtain ⟨seg, rest⟩ := sr
        obtain ⟨rfl, hsn, htxt⟩ := readHead_some hr
        simp only [hr] at hne
        cases hp : readSlot v seg with
        | none => rw [hp] at hne; cases hne
        | some sl =>
          simp only [hp] at hne
          rcases htxt with ⟨hf, hrest⟩ | ⟨hh, rfl⟩
          · cases hg : sl.get h with
            | panic p => cases rest <;> simp [hg, descend, Out.isPanic] at hne
            | ok w =>
              rcases seg_of_readSlot hc hp hsn hf hg with ⟨s1, hs1, rfl, rfl, hn⟩ | ⟨rfl, i, hcn, hpi, h0⟩
              · cases rest with
                | nil => rw [List.append_nil]; exact Explained.single h v s1 hs1
                | cons x u =>
                  simp only [hg, descend] at hne
                  split at hne
                  · exact Explained.cons s1 hs1 hn (ih w _ hne)
                  · cases hne
              · exact Or.inr (Or.inl ⟨[], seg, rest, i, rfl, hf, hrest, hcn, hpi, h0⟩)
          · -- an empty segment: a list cannot read the rest as an index, an object looks it up as a key
            cases v with
            | list r => simp [readSlot, parseIdx_sigilHead hh] at hp
            | obj r =>
              cases hc
              cases hp
              refine Or.inr (Or.inr ⟨[], seg, r, by simp [render], hh, (fun x hx => by cases hx), rfl, ?_⟩)
              simp only [Slot.get, O.get] at hne
              cases hl : lookup (h.fields r.addr) seg with
              | none => simp [hl, Out.isPanic] at hne
              | some x => rfl
            | _ => cases hc

/-! ## K1 is real: every `SigilLeafKey` instance resolves -/

/-- after a resolvable prefix, an empty segment followed by text `t` that is a key of the object
reached: GetTF returns that field -/
theorem k1_resolves (h : Heap) (t : Str) (r : Ref) (x : Val) (ht : SigilHead t)
    (hx : lookup (h.fields r.addr) t = some x) (p : List Seg) (hv : ValidPath p) (v : Val)
    (hnav : navigate h v p = some (.obj r)) : getTF h v (render p ++ '.' :: t) = .ok (h.getVal x) := by
  induction p generalizing v with
  | nil =>
    cases hnav
    rw [getTF_walk, walkV_eq (c := '.') rfl]
    simp only [render, List.nil_append, readHead_sigilHead '.' ht, readSlot, Slot.get, O.get, hx]
  | cons s p' ih =>
    obtain ⟨w, hw, hnav'⟩ := navigate_cons_some hnav
    -- the text after the first segment starts with the sigil of the kind of `w`
    have hrest : ∃ c u, render p' ++ '.' :: t = c :: u ∧ isSigil c = true ∧ w.kind = wantKind (c == '.') := by
      cases p' with
      | nil => cases hnav'; exact ⟨'.', t, rfl, rfl, rfl⟩
      | cons s' p'' =>
        refine ⟨s'.sigil, _, rfl, s'.isSigil_sigil, ?_⟩
        rw [navigate_kind hnav']; cases s' <;> rfl
    obtain ⟨c, u, e, hc, hk⟩ := hrest
    have := ih hv.tail w hnav'
    rw [render_cons, List.cons_append, List.append_assoc, getTF_walk,
      walkV_seg _ _ _ _ s hv.head (Or.inr ⟨c, u, e, hc⟩)]
    have hg := getStep_of_navStep hw
    unfold getStep at hg
    cases hsl : slotOf v s with
    | none => rw [hsl] at hg; cases hg
    | some sl =>
      rw [hsl] at hg
      rw [e] at this ⊢
      simp only [hg, descend, hk, if_true]
      exact this

/-! ## the scanner `segAux` on an empty segment (for `C10_sigil_leaf_exact`) -/

theorem segAux_sigil_head {c : Char} {u b : Str} {segs : List Seg} (hc : isSigil c = true)
    (h : segAux (c :: u) = some (b, segs)) : b = [] := by
  obtain ⟨e, hf, _⟩ := segAux_sound _ _ _ h
  cases b with
  | nil => rfl
  | cons x b' =>
    cases (List.cons.inj e).1
    rw [hf c List.mem_cons_self] at hc
    cases hc

theorem segAux_empty_segment (c : Char) (u : Str) (hc : isSigil c = true) :
    segAux ('.' :: c :: u) = none := by
  cases hcu : segAux (c :: u) with
  | none => rw [segAux, hcu]
  | some pr =>
    obtain ⟨b, segs⟩ := pr
    have hb := segAux_sigil_head hc hcu
    subst hb
    rw [segAux, hcu]
    simp

theorem segAux_none_append (pre rest : Str) (h : segAux rest = none) : segAux (pre ++ rest) = none := by
  induction pre with
  | nil => exact h
  | cons x pre ih => simp [segAux, ih]

/-! ## decidable sufficient checks for the two exclusions -/

/-- does the text contain an empty segment (a sigil directly followed by a sigil)? -/
def hasEmptySeg : Str → Bool
  | c1 :: c2 :: t => (isSigil c1 && isSigil c2) || hasEmptySeg (c2 :: t)
  | _ => false

theorem hasEmptySeg_append (pre : Str) (c1 c2 : Char) (u : Str) (h1 : isSigil c1 = true)
    (h2 : isSigil c2 = true) : hasEmptySeg (pre ++ c1 :: c2 :: u) = true := by
  induction pre with
  | nil => simp [hasEmptySeg, h1, h2]
  | cons x pre ih =>
    cases hp : pre ++ c1 :: c2 :: u with
    | nil => simp at hp
    | cons y t =>
      rw [hp] at ih
      simp only [List.cons_append, hp, hasEmptySeg, ih, Bool.or_true]

/-- is the maximal sigil-free text at the head of `rest` a non-canonical numeral that ParseInt reads
as a non-negative number? -/
def ncAt (rest : Str) : Bool :=
  let body := rest.takeWhile (fun c => !isSigil c)
  (canonNat body).isNone &&
    (match parseIntBase0 body with
     | some i => decide (0 ≤ i)
     | none => false)

/-- some '#' is followed by such a text -/
def ncCheck : Str → Bool
  | [] => false
  | c :: t => (c == '#' && ncAt t) || ncCheck t

theorem takeWhile_body (body post : Str) (hb : SigilFree body)
    (hp : post = [] ∨ SigilHead post) :
    (body ++ post).takeWhile (fun c => !isSigil c) = body := by
  induction body with
  | nil =>
    rcases hp with rfl | ⟨c, u, rfl, hc⟩
    · rfl
    · simp [hc]
  | cons x body ih =>
    have hx := hb x (by simp)
    simp only [List.cons_append, List.takeWhile, hx, Bool.not_false]
    rw [ih (fun y hy => hb y (by simp [hy]))]

theorem ncCheck_of_nonCanonical {s : Str} (hn : NonCanonicalNumeral s) : ncCheck s = true := by
  obtain ⟨pre, body, post, i, rfl, hb, hp, hc, hpi, hi⟩ := hn
  induction pre with
  | nil =>
    simp only [List.nil_append, ncCheck, ncAt, takeWhile_body body post hb hp, hc, hpi]
    simp [hi]
  | cons x pre ih => simp [ncCheck, ih]

end TFP
end Anytype
