/-
The float-formatting contract from one field: `parse_back` follows from `strict`.

`Strict.number (serF x) = some (some (.float x), [])` makes `serF x` a number literal; on number
literals shorter than `SVP.numRunBound` = 9600 characters `parseField` (hence
`F64.parseFloat`) returns the value the strict reader returns (`SVP.number_parseField`, the lemma
behind `C03_numbers`); and `serF x` is always shorter than that (crude bound: 4232 characters,
from the definitions of `serF / fmtE / fmtF / shortest / decExp`).
-/
import Anytype.Lemmas.StrictVsParserNum
namespace Anytype
namespace COne
open F64

theorem expBits_lt (x : F64) : x.expBits < 2048 := by
  unfold expBits
  simp only [UInt64.toNat_and]
  have : (0x7ff : UInt64).toNat = 2 ^ 11 - 1 := by decide
  rw [this, Nat.and_two_pow_sub_one_eq_mod]
  omega

theorem frac_lt (x : F64) : x.frac < 2 ^ 52 := by
  unfold frac
  simp only [UInt64.toNat_and]
  have : (0xfffffffffffff : UInt64).toNat = 2 ^ 52 - 1 := by decide
  rw [this, Nat.and_two_pow_sub_one_eq_mod]
  omega

theorem mant_lt (x : F64) : x.mant < 2 ^ 53 := by
  have := frac_lt x
  unfold mant; split <;> omega

theorem exp2_bounds (x : F64) : -1074 ≤ x.exp2 ∧ x.exp2 ≤ 972 := by
  have := expBits_lt x
  unfold exp2; split
  · exact ⟨by decide, by decide⟩
  · next h => simp only [beq_iff_eq] at h; constructor <;> omega

theorem two_pow_le_ten_pow (k : Nat) : 2 ^ k ≤ 10 ^ k := Nat.pow_le_pow_left (by decide) k

/-- `|x| = n / d` with `n < 10^(53+972)`, `d < 10^(1074+1)` (exponents kept symbolic so that
nothing tries to evaluate the powers) -/
theorem absRat_bounds (x : F64) {N D : Nat} (hN : N = 1025) (hD : D = 1075) :
    (absRat x).1 < 10 ^ N ∧ (absRat x).2 < 10 ^ D := by
  have hm := mant_lt x
  obtain ⟨he1, he2⟩ := exp2_bounds x
  unfold absRat
  simp only []
  split
  · next hp =>
    refine ⟨?_, Nat.one_lt_pow (by omega) (by decide)⟩
    have h1 : 53 + x.exp2.toNat ≤ N := by omega
    calc x.mant * 2 ^ x.exp2.toNat < 2 ^ 53 * 2 ^ x.exp2.toNat :=
          Nat.mul_lt_mul_of_pos_right hm (Nat.two_pow_pos _)
      _ = 2 ^ (53 + x.exp2.toNat) := by rw [← Nat.pow_add]
      _ ≤ 2 ^ N := Nat.pow_le_pow_right (by decide) h1
      _ ≤ 10 ^ N := two_pow_le_ten_pow _
  · next hp =>
    have h1 : (-x.exp2).toNat < D := by omega
    refine ⟨?_, ?_⟩
    · calc x.mant < 2 ^ 53 := hm
        _ ≤ 2 ^ N := Nat.pow_le_pow_right (by decide) (by omega)
        _ ≤ 10 ^ N := two_pow_le_ten_pow _
    · calc 2 ^ (-x.exp2).toNat ≤ 10 ^ (-x.exp2).toNat := two_pow_le_ten_pow _
        _ < 10 ^ D := Nat.pow_lt_pow_right (by decide) h1

theorem decLen_le_of_lt {m k : Nat} (hk : 0 < k) (h : m < 10 ^ k) : decLen m ≤ k := by
  obtain ⟨j, rfl⟩ : ∃ j, k = j + 1 := ⟨k - 1, by omega⟩
  exact SVP.decLen_le j m h

theorem decExp_bounds (n d N D : Nat) (hn : n < 10 ^ N) (hd : d < 10 ^ D) (hN : 0 < N)
    (hD : 0 < D) : -((D : Int) + 1) ≤ decExp n d ∧ decExp n d ≤ (N : Int) := by
  unfold decExp
  split
  · have h1 : decLen (n / d) ≤ N :=
      decLen_le_of_lt hN (Nat.lt_of_le_of_lt (Nat.div_le_self n d) hn)
    have h2 := SVP.decLen_pos (n / d)
    constructor <;> omega
  · have h1 : decLen (d / n) ≤ D :=
      decLen_le_of_lt hD (Nat.lt_of_le_of_lt (Nat.div_le_self d n) hd)
    simp only []
    have hneg : ∀ z : Int, Int.neg z = -z := fun _ => rfl
    rw [hneg]
    generalize decLen (d / n) = g at *
    split
    · constructor <;> omega
    · split <;> constructor <;> omega

theorem shortestLoop_some (t : UInt64) (n d : Nat) (E : Int) :
    ∀ (fuel p c p' : Nat), shortestLoop t n d E fuel p = some (c, p') →
      p ≤ p' ∧ p' < p + fuel ∧ tryPrec t n d E p' = some c
  | 0, p, c, p', h => by simp [shortestLoop] at h
  | fuel + 1, p, c, p', h => by
    simp only [shortestLoop] at h
    cases ht : tryPrec t n d E p with
    | some c0 =>
      rw [ht] at h
      simp only [Option.some.injEq, Prod.mk.injEq] at h
      obtain ⟨rfl, rfl⟩ := h
      exact ⟨Nat.le_refl _, by omega, ht⟩
    | none =>
      rw [ht] at h
      obtain ⟨h1, h2, h3⟩ := shortestLoop_some t n d E fuel (p + 1) c p' h
      exact ⟨by omega, by omega, h3⟩

def tpLo (n d : Nat) (E : Int) (p : Nat) : Nat :=
  if E - ((p : Int) - 1) ≥ 0 then n / (d * 10 ^ (E - ((p : Int) - 1)).toNat)
  else n * 10 ^ (-(E - ((p : Int) - 1))).toNat / d

/-- every answer of an `if` cascade whose leaves are `some lo`, `some (lo + 1)` or `none` -/
theorem atMost_ite {c lo : Nat} {p : Prop} [Decidable p] {x y : Option Nat}
    (hx : x = some c → c ≤ lo + 1) (hy : y = some c → c ≤ lo + 1) :
    (if p then x else y) = some c → c ≤ lo + 1 := by
  split <;> assumption

theorem tryPrec_le (t : UInt64) (n d : Nat) (E : Int) (p c : Nat)
    (h : tryPrec t n d E p = some c) : c ≤ tpLo n d E p + 1 := by
  have s0 : ∀ {lo : Nat}, some lo = some c → c ≤ lo + 1 := fun h => by cases h; omega
  have s1 : ∀ {lo : Nat}, some (lo + 1) = some c → c ≤ lo + 1 := fun h => by cases h; omega
  have s2 : ∀ {lo : Nat}, (none : Option Nat) = some c → c ≤ lo + 1 := fun h => by cases h
  unfold tryPrec at h
  unfold tpLo
  by_cases hk : E - ((p : Int) - 1) ≥ 0
  all_goals simp only [hk, if_true, if_false] at h ⊢
  -- for either sign of the scale: the cascade of `tryPrec`, leaf by leaf
  all_goals exact atMost_ite (atMost_ite s0 s2) (atMost_ite (atMost_ite s0 (atMost_ite s1 (atMost_ite s0 s1)))
    (atMost_ite s0 (atMost_ite s1 s2))) h

theorem natDigits_length (c : Nat) : (natDigits c).length = decLen c := by
  simp [natDigits, decLen]

theorem shortest_size (x : F64) :
    (shortest x).1.length ≤ 2118 ∧ -1076 ≤ (shortest x).2 ∧ (shortest x).2 ≤ 1026 := by
  -- the two exponents stay variables, so that no step evaluates a power of ten
  obtain ⟨N, hN⟩ : ∃ N, N = 1025 := ⟨_, rfl⟩
  obtain ⟨D, hD⟩ : ∃ D, D = 1075 := ⟨_, rfl⟩
  have hb := absRat_bounds x hN hD
  unfold shortest
  generalize absRat x = nd at hb ⊢
  obtain ⟨n, d⟩ := nd
  simp only [] at hb ⊢
  have hE := decExp_bounds n d N D hb.1 hb.2 (by omega) (by omega)
  generalize decExp n d = E at hE ⊢
  cases hs : shortestLoop x.abs.bits n d E 17 1 with
  | none => simp only [List.length_nil]; constructor <;> omega
  | some cp =>
    obtain ⟨c, p⟩ := cp
    simp only []
    obtain ⟨hp1, hp2, ht⟩ := shortestLoop_some _ _ _ _ _ _ _ _ hs
    have hc := tryPrec_le _ _ _ _ _ _ ht
    have hlo : tpLo n d E p ≤ n * 10 ^ (D + 17) := by
      unfold tpLo
      split
      · exact Nat.le_trans (Nat.div_le_self _ _) (Nat.le_mul_of_pos_right _ (Nat.pow_pos (by decide)))
      · exact Nat.le_trans (Nat.div_le_self _ _)
          (Nat.mul_le_mul_left _ (Nat.pow_le_pow_right (by decide) (by omega)))
    have hc2 : c < 10 ^ (N + D + 18) := by
      have h1 : n * 10 ^ (D + 17) + 10 ^ (D + 17) ≤ 10 ^ N * 10 ^ (D + 17) := by
        rw [← Nat.succ_mul]; exact Nat.mul_le_mul_right _ hb.1
      have h2 : 1 ≤ 10 ^ (D + 17) := Nat.pow_pos (by decide)
      have h3 : 10 ^ N * 10 ^ (D + 17) < 10 ^ (N + D + 18) := by
        rw [← Nat.pow_add]; exact Nat.pow_lt_pow_right (by decide) (by omega)
      omega
    have hd := decLen_le_of_lt (by omega) hc2
    refine ⟨?_, ?_, ?_⟩
    · rw [List.length_reverse]
      refine Nat.le_trans (List.dropWhile_sublist _).length_le ?_
      rw [List.length_reverse, natDigits_length]; omega
    · split <;> omega
    · split <;> omega

theorem sgn_length (b : Bool) : (if b = true then ['-'] else ([] : Str)).length ≤ 1 := by
  cases b <;> decide

theorem length_ite_le {c : Prop} [Decidable c] {a b : Str} {k : Nat} (ha : a.length ≤ k) (hb : b.length ≤ k) :
    (if c then a else b).length ≤ k := by
  split <;> assumption

theorem fracPart_length (l : List Nat) :
    (if l.isEmpty = true then ([] : Str) else '.' :: l.map digitChar).length ≤ l.length + 1 :=
  length_ite_le (by simp) (by simp)

theorem fmtE_length (x : F64) : (fmtE x).length ≤ 2130 := by
  have hb := shortest_size x
  have hs := sgn_length x.signBit
  unfold fmtE
  refine length_ite_le (by decide) (length_ite_le (length_ite_le (by decide) (by decide)) ?_)
  simp only []
  refine length_ite_le ?_ ?_
  · have h1 : "0e+00".toList.length = 5 := by decide
    rw [List.length_append, h1]; omega
  generalize shortest x = sh at hb ⊢
  obtain ⟨ds, E⟩ := sh
  simp only [] at hb ⊢
  simp only [List.length_append, List.length_cons, List.length_nil]
  have hes : (if E < 0 then ['-'] else ['+']).length = 1 := by split <;> rfl
  have hen : (if (natToStr E.natAbs).length < 2 then '0' :: natToStr E.natAbs
      else natToStr E.natAbs).length ≤ 5 := by
    have : (natToStr E.natAbs).length ≤ 4 :=
      decLen_le_of_lt (m := E.natAbs) (by decide) (show E.natAbs < 10000 by omega)
    exact length_ite_le (by simp only [List.length_cons]; omega) (by omega)
  cases ds with
  | nil => simp only [List.drop_nil, List.isEmpty_nil, if_true, List.length_nil, List.length_cons]; omega
  | cons d0 tl =>
    simp only [List.drop_succ_cons, List.drop_zero, List.length_cons, List.length_nil] at hb ⊢
    have hfrac := fracPart_length tl
    omega

theorem fmtF_length (x : F64) : (fmtF x).length ≤ 4230 := by
  have hb := shortest_size x
  have hs := sgn_length x.signBit
  unfold fmtF
  refine length_ite_le (by decide) (length_ite_le (length_ite_le (by decide) (by decide)) ?_)
  simp only []
  refine length_ite_le (by rw [List.length_append]; simp only [List.length_cons, List.length_nil]; omega) ?_
  generalize shortest x = sh at hb ⊢
  obtain ⟨ds, E⟩ := sh
  simp only [] at hb ⊢
  refine length_ite_le ?_ ?_
  · simp only [List.length_append, List.length_map, List.length_take, List.length_replicate]
    have hrest := fracPart_length (List.drop (E.toNat + 1) ds)
    rw [List.length_drop] at hrest
    omega
  · simp only [List.length_append, List.length_map, List.length_replicate, List.length_cons,
      List.length_nil]
    omega

/-- the serialised float is far shorter than the bound under which `parseField` provably agrees
with the strict reader -/
theorem serF_length_lt (x : F64) : (serF x).length < SVP.numRunBound := by
  have hE := fmtE_length x
  have hF := fmtF_length x
  refine Nat.lt_of_le_of_lt (?_ : _ ≤ 4232) (by decide)
  unfold serF
  refine length_ite_le (by omega) (length_ite_le (by omega) (length_ite_le (by omega) ?_))
  simp only []
  exact length_ite_le (by rw [List.length_append]; simp only [List.length_cons, List.length_nil]; omega) (by omega)

end COne

/-- `parse_back` is a consequence of `strict`: the contract needs one field only -/
theorem FmtContract.of_strict
    (hs : ∀ x : F64, x.isFinite = true → Strict.number (serF x) = some (some (.float x), [])) :
    FmtContract := by
  refine ⟨?_, hs⟩
  intro x hx
  obtain ⟨t, ht, _, _, hpf⟩ := SVP.number_parseField _ _ _ (hs x hx)
  rw [List.append_nil] at ht
  subst ht
  have h := hpf (COne.serF_length_lt x) 0
  unfold parseField at h
  split at h
  · cases h
  split at h
  · cases h
  split at h
  · next f hf =>
    injection h with h
    injection h with h
    rw [hf, h]
  · split at h <;> cases h

theorem FmtContract.iff_strict :
    FmtContract ↔
      ∀ x : F64, x.isFinite = true → Strict.number (serF x) = some (some (.float x), []) :=
  ⟨fun hf => hf.strict, FmtContract.of_strict⟩

/-! ### non-vacuity

The hypothesis of `FmtContract.of_strict` is the `strict` field for all finite floats (a theorem:
`serF_strict`, `Lemmas/FmtContractHolds.lean`); at sample points (largest finite value, smallest
subnormal, 0.1, -0) it and the derived `parse_back` hold by evaluation (`fmtContractAt_samples`,
`Lemmas/Contract.lean`), and the texts are short. -/
example : [F64.maxFinite, ⟨1⟩, ⟨0x3FB999999999999A⟩, F64.negZero].all
    (fun x => fmtContractAt x && decide ((serF x).length < SVP.numRunBound)) = true := by
  simp only [List.all_eq_true, Bool.and_eq_true, decide_eq_true_eq]
  intro x hx
  refine ⟨List.all_eq_true.mp fmtContractAt_samples x ?_, COne.serF_length_lt x⟩
  simp only [List.mem_cons, List.not_mem_nil, or_false] at hx
  rcases hx with rfl | rfl | rfl | rfl <;> decide

end Anytype

#print axioms Anytype.COne.serF_length_lt
#print axioms Anytype.FmtContract.of_strict
#print axioms Anytype.FmtContract.iff_strict
