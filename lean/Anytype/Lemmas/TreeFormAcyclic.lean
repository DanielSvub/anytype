/-
On an acyclic value (a tree or a DAG: `Acyclic h v`, i.e. some fuel reifies it) SetTF never visits
a cell twice: `(trail h v p).Nodup`.
-/
import Anytype.Lemmas.TreeFormSet
import Anytype.Lemmas.Acyclic
namespace Anytype
namespace TFP
open Heap Rf

/-- the root is a List or an Object -/
def isContainer : Val → Bool
  | .list _ => true | .obj _ => true | _ => false

theorem rok_zero_list (h : Heap) (r : Ref) : (reify 0 h (.list r)).isSome = false := by rw [reify]; rfl
theorem rok_zero_obj (h : Heap) (r : Ref) : (reify 0 h (.obj r)).isSome = false := by rw [reify]; rfl

theorem reify_getVal (n : Nat) (h : Heap) (x : Val) : reify n h (h.getVal x) = reify n h x := by
  cases x <;> cases n <;> simp only [Heap.getVal, reify]

theorem isContainer_of_kind {w : Val} {s : Seg} (hk : w.kind = s.kind) : isContainer w = true := by
  cases s <;> cases w <;> simp [Val.kind, Seg.kind] at hk <;> rfl

theorem addr?_of_container {v : Val} (hc : isContainer v = true) : v.addr? = some (addrOf v) := by
  cases v <;> first | rfl | cases hc

theorem not_reify_zero {h : Heap} {v : Val} (hc : isContainer v = true) (hv : (reify 0 h v).isSome = true) : False := by
  have := addr?_of_container hc
  rw [reify_isSome_zero.1 hv] at this
  cases this

theorem reify_child {h : Heap} {n : Nat} {v w : Val} {s : Seg} (hv : (reify (n + 1) h v).isSome = true)
    (hn : navStep h v s = some w) : (reify n h w).isSome = true := by
  have hk := navStep_kind hn
  rw [navStep_eq_slotVal hk] at hn
  obtain ⟨x, hx, rfl⟩ := Option.map_eq_some_iff.1 hn
  rw [reify_getVal]
  refine (reify_isSome_succ.1 hv).2 x ?_
  cases s <;> cases v <;> simp [Val.kind, Seg.kind] at hk
  · exact List.mem_map_of_mem (f := (·.2)) (mem_of_lookup hx)
  · exact List.mem_of_getElem? hx

theorem trail_cellOK (h : Heap) : ∀ (p : List Seg) (n : Nat) (v : Val), isContainer v = true →
    (reify (n + 1) h v).isSome = true → ∀ b ∈ trail h v p, CellOK n h b := by
  intro p
  induction p with
  | nil => intro n v _ _ b hb; cases hb
  | cons s q ih =>
    intro n v hc hv b hb
    have h0 : CellOK n h (addrOf v) := ((reify_isSome_iff_cellOK (addr?_of_container hc)).1 hv).2
    cases q with
    | nil => rw [List.mem_singleton.1 hb]; exact h0
    | cons s' q' =>
      rcases List.mem_cons.1 hb with rfl | hb
      · exact h0
      · cases hw : navStep h v s with
        | none => simp [hw] at hb
        | some w =>
          simp only [hw] at hb
          by_cases hk : w.kind = s'.kind
          · simp only [hk, if_true] at hb
            have hwm := reify_child hv hw
            cases n with
            | zero => exact (not_reify_zero (isContainer_of_kind hk) hwm).elim
            | succ m => exact (ih m w (isContainer_of_kind hk) hwm b hb).mono (Nat.le_succ m)
          · simp [hk] at hb

/-- on an acyclic value no cell is visited twice. By induction on the fuel: if less fuel reifies `v` it
decides; otherwise the cells below the child reify with less, so `v`'s own cell is not among them -/
theorem trail_nodup_of_acyclic (h : Heap) (p : List Seg) (v : Val) (hc : isContainer v = true)
    (hac : Acyclic h v) : (trail h v p).Nodup := by
  obtain ⟨n, hn⟩ := hac
  induction n generalizing v p with
  | zero => exact (not_reify_zero hc hn).elim
  | succ n ih =>
    by_cases hm : (reify n h v).isSome = true
    · exact ih p v hc hm
    · match p with
      | [] => simp [trail]
      | [s] => simp [trail]
      | s :: s' :: q' =>
        cases hw : navStep h v s with
        | none => rw [trail_of_none _ hw]; simp
        | some w =>
          by_cases hk : w.kind = s'.kind
          · have hwc := isContainer_of_kind hk
            have hwm := reify_child hn hw
            rw [trail_reuse q' hw hk, List.nodup_cons]
            refine ⟨fun hmem => hm ?_, ih _ w hwc hwm⟩
            cases n with
            | zero => exact (not_reify_zero hwc hwm).elim
            | succ k =>
              exact (reify_isSome_iff_cellOK (addr?_of_container hc)).2
                ⟨(reify_isSome_succ.1 hn).1, trail_cellOK h _ k w hwc hwm _ hmem⟩
          · simp [trail, hw, hk]

end TFP
end Anytype
