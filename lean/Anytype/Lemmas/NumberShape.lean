/-
The shape of a text that the strict `number` reader accepts: sign, integer digits without a leading
zero, fraction, exponent text (`SVP.number'_shape`); its alphabet; and the fact that a text read as a
float is not a Go integer literal.
-/
import Anytype.Lemmas.Strict
namespace Anytype
namespace Strict

theorem signSplit_spec (s : Str) :
    s = (if (signSplit s).1 then ['-'] else []) ++ (signSplit s).2 := by
  unfold signSplit
  split <;> simp

theorem takeDigits_spec (s : Str) :
    s = (takeDigits s).1 ++ (takeDigits s).2 ∧ ∀ c ∈ (takeDigits s).1, F64.isDigit c = true := by
  induction s with
  | nil => simp [takeDigits]
  | cons c s ih =>
    simp only [takeDigits]
    split
    · rename_i h
      refine ⟨by simp; exact ih.1, ?_⟩
      intro d hd
      rcases List.mem_cons.mp hd with rfl | h'
      · exact h
      · exact ih.2 d h'
    · simp

theorem fracSplit_spec (s : Str) :
    s = (if (fracSplit s).2.2 then '.' :: (fracSplit s).1 else []) ++ (fracSplit s).2.1 ∧
      (∀ c ∈ (fracSplit s).1, F64.isDigit c = true) ∧
      ((fracSplit s).2.2 = false → (fracSplit s).1 = []) := by
  unfold fracSplit
  split
  · rename_i t
    have := takeDigits_spec t
    simp only [if_true, List.cons_append]
    exact ⟨by rw [← this.1], this.2, by simp⟩
  · simp

theorem readDigits_bad (c : Char) (t : Str) (n : Nat) (base : Nat) (hb : base ≤ 10)
    (hc : c = '.' ∨ c = 'e' ∨ c = 'E') : readDigits base (c :: t) n = none := by
  have : (c == '_') = false ∧ digitVal c ≥ 10 := by rcases hc with rfl | rfl | rfl <;> decide
  simp only [readDigits, this.1]
  rw [if_neg (by simp), if_pos (by omega)]

theorem contains_us_numChars (s : Str) (h : ∀ x ∈ s, isNumChar x = true) : s.contains '_' = false := by
  simp only [List.contains_eq_mem, decide_eq_false_iff_not]
  intro hm
  have := h _ hm
  revert this; decide

end Strict

namespace SVP
open Strict

/-- the exponent magnitude as `Strict.number` reads it -/
def capS (ed : Str) : Nat :=
  if (ed.dropWhile (· == '0')).length > 6 then 1000000 else digitsVal (ed.dropWhile (· == '0'))

abbrev SignText (sg : Str) (sgn : Int) : Prop :=
  (sg = [] ∧ sgn = 1) ∨ (sg = ['+'] ∧ sgn = 1) ∨ (sg = ['-'] ∧ sgn = -1)

/-- the exponent text and the exponent value `Strict.number` derives from it -/
def ExpText (et : Str) (ex : Option Int) : Prop :=
  (ex = none ∧ et = []) ∨
  ∃ (c : Char) (sg ed : Str) (sgn : Int), et = c :: sg ++ ed ∧ (c = 'e' ∨ c = 'E') ∧ SignText sg sgn ∧
    ed ≠ [] ∧ (∀ d ∈ ed, F64.isDigit d = true) ∧ ex = some (sgn * (capS ed : Int))

theorem expSign_cases (t : Str) : ∃ sg sgn, SignText sg sgn ∧ t = sg ++ (expSign t).2 ∧ (expSign t).1 = sgn := by
  unfold expSign; split
  · exact ⟨['+'], 1, .inr (.inl ⟨rfl, rfl⟩), rfl, rfl⟩
  · exact ⟨['-'], -1, .inr (.inr ⟨rfl, rfl⟩), rfl, rfl⟩
  · exact ⟨[], 1, .inl ⟨rfl, rfl⟩, rfl, rfl⟩

theorem expSplit_text (s : Str) (ex : Option Int) (rest : Str) (h : expSplit s = some (ex, rest)) :
    ∃ et, s = et ++ rest ∧ ExpText et ex := by
  cases s with
  | nil =>
    simp [expSplit] at h
    exact ⟨[], by simp [h.2], .inl ⟨h.1.symm, rfl⟩⟩
  | cons c t =>
    by_cases hc : (c == 'e' || c == 'E') = true
    · rw [expSplit_eq _ _ hc] at h
      simp only [] at h
      split at h
      · cases h
      · rename_i hne
        simp only [Option.some.injEq, Prod.mk.injEq] at h
        have hd := takeDigits_spec (expSign t).2
        obtain ⟨sg, sgn, hsg, ht, hs⟩ := expSign_cases t
        refine ⟨c :: sg ++ (takeDigits (expSign t).2).1, ?_,
          .inr ⟨c, sg, _, sgn, rfl, by simpa using hc, hsg, fun e => hne (by rw [e]; rfl), hd.2, ?_⟩⟩
        · rw [← h.2]; simp only [List.cons_append, List.append_assoc]; rw [← hd.1, ← ht]
        · rw [← h.1, hs]; rfl
    · simp [expSplit, hc] at h
      exact ⟨[], by simp [h.2], .inl ⟨h.1.symm, rfl⟩⟩

theorem numFinal_some (neg : Bool) (ip fp : Str) (hasFrac : Bool) (ex : Option Int) (rest : Str) :
    ∃ w, numFinal neg ip fp hasFrac ex rest = some (w, rest) ∧ ∀ x, w = some x → x.isContainer = false := by
  unfold numFinal
  simp only []
  -- the conditions stay opaque: nothing should try to evaluate `(2:Int)^63`
  generalize digitsVal (ip ++ fp) = m
  by_cases h1 : (!hasFrac && ex.isNone) = true
  · rw [if_pos h1]
    generalize (if neg = true then -(m : Int) else (m : Int)) = iv
    by_cases h2 : -(2:Int)^63 ≤ iv ∧ iv < (2:Int)^63
    · rw [if_pos h2]; exact ⟨_, rfl, fun _ h => by cases h; rfl⟩
    · rw [if_neg h2]
      cases F64.roundRat neg m 1 <;> exact ⟨_, rfl, fun _ h => by cases h <;> rfl⟩
  · rw [if_neg h1]
    generalize ex.getD 0 - (fp.length : Int) = e10
    by_cases h2 : (m == 0) = true
    · rw [if_pos h2]; exact ⟨_, rfl, fun _ h => by cases h; rfl⟩
    rw [if_neg h2]
    by_cases h3 : e10 + (F64.decLen m : Int) > 400
    · rw [if_pos h3]; exact ⟨_, rfl, fun _ h => by cases h⟩
    rw [if_neg h3]
    by_cases h4 : e10 + (F64.decLen m : Int) < -400
    · rw [if_pos h4]; exact ⟨_, rfl, fun _ h => by cases h; rfl⟩
    rw [if_neg h4]
    split <;> exact ⟨_, rfl, fun _ h => by cases h <;> rfl⟩

/-- the text consumed by `number`, from its parts -/
def numText (neg : Bool) (ip fp : Str) (hasFrac : Bool) (et : Str) : Str :=
  (if neg then ['-'] else []) ++ ip ++ (if hasFrac then '.' :: fp else []) ++ et

structure NumShape (d0 : Char) (more fp : Str) (hasFrac : Bool) : Prop where
  ip : ∀ c ∈ d0 :: more, F64.isDigit c = true
  zero : d0 = '0' → more = []
  frac : ∀ c ∈ fp, F64.isDigit c = true
  noFrac : hasFrac = false → fp = []

theorem number'_shape (s : Str) (v : Option JVal) (rest : Str) (h : number' s = some (v, rest)) :
    ∃ (neg : Bool) (d0 : Char) (more fp : Str) (hasFrac : Bool) (et : Str) (ex : Option Int),
      s = numText neg (d0 :: more) fp hasFrac et ++ rest ∧ NumShape d0 more fp hasFrac ∧
      ExpText et ex ∧ numFinal neg (d0 :: more) fp hasFrac ex rest = some (v, rest) := by
  unfold number' at h
  simp only [] at h
  have h1 := signSplit_spec s
  have h2 := takeDigits_spec (signSplit s).2
  have h3 := fracSplit_spec (takeDigits (signSplit s).2).2
  generalize signSplit s = p at *
  generalize takeDigits p.2 = q at *
  generalize fracSplit q.2 = fr at *
  obtain ⟨neg, s1⟩ := p
  obtain ⟨ip, s2⟩ := q
  obtain ⟨fp, s3, hasFrac⟩ := fr
  simp only [] at h h1 h2 h3
  cases ip with
  | nil => simp at h
  | cons d0 more =>
    simp only [] at h
    by_cases hz : (d0 == '0' && !more.isEmpty) = true
    · rw [if_pos hz] at h; cases h
    rw [if_neg hz] at h
    by_cases hfe : (hasFrac && fp.isEmpty) = true
    · rw [if_pos hfe] at h; cases h
    rw [if_neg hfe] at h
    generalize hex : expSplit s3 = o at h
    rcases o with _ | ⟨ex, rest'⟩
    · cases h
    obtain ⟨et, he1, he2⟩ := expSplit_text _ _ _ hex
    obtain ⟨w, hw, _⟩ := numFinal_some neg (d0 :: more) fp hasFrac ex rest'
    obtain ⟨rfl, rfl⟩ : w = v ∧ rest' = rest := by simpa [hw] using h
    refine ⟨neg, d0, more, fp, hasFrac, et, ex, ?_, ⟨h2.2, ?_, h3.2.1, h3.2.2⟩, he2, h⟩
    · rw [h1, h2.1, h3.1, he1]; simp [numText]
    · intro e; subst e
      simpa using hz

theorem ExpText.numChars {et : Str} {ex : Option Int} (h : ExpText et ex) : ∀ c ∈ et, isNumChar c = true := by
  rcases h with ⟨_, rfl⟩ | ⟨c, sg, ed, sgn, rfl, hc, hsg, _, hd, _⟩
  · simp
  · intro x hx
    simp only [List.cons_append, List.mem_cons, List.mem_append] at hx
    rcases hx with rfl | hx | hx
    · rcases hc with rfl | rfl <;> decide
    · rcases hsg with ⟨rfl, _⟩ | ⟨rfl, _⟩ | ⟨rfl, _⟩ <;> simp at hx <;> subst hx <;> decide
    · simp [isNumChar, hd x hx]

theorem numText_numChars (neg : Bool) {d0 : Char} {more fp : Str} {hasFrac : Bool} (hsh : NumShape d0 more fp hasFrac)
    {et : Str} (het : ∀ c ∈ et, isNumChar c = true) :
    ∀ c ∈ numText neg (d0 :: more) fp hasFrac et, isNumChar c = true := by
  intro c hc
  simp only [numText, List.mem_append] at hc
  rcases hc with ((hc | hc) | hc) | hc
  · cases neg <;> simp at hc; subst hc; decide
  · simp [isNumChar, hsh.ip c hc]
  · cases hasFrac <;> simp at hc
    rcases hc with rfl | hc
    · decide
    · simp [isNumChar, hsh.frac c hc]
  · exact het c hc

theorem numTail_head (hasFrac : Bool) (fp : Str) {et : Str} {ex : Option Int} (het : ExpText et ex) :
    (hasFrac = false ∧ ex = none ∧ et = []) ∨
      ∃ c tl, (if hasFrac then '.' :: fp else []) ++ et = c :: tl ∧ (c = '.' ∨ c = 'e' ∨ c = 'E') ∧
        (!hasFrac && ex.isNone) = false := by
  cases hasFrac with
  | true => exact .inr ⟨'.', fp ++ et, by simp, .inl rfl, rfl⟩
  | false =>
    rcases het with ⟨rfl, rfl⟩ | ⟨c, sg, ed, sgn, rfl, hc, _, _, _, rfl⟩
    · exact .inl ⟨rfl, rfl, rfl⟩
    · exact .inr ⟨c, sg ++ ed, by simp, .inr hc, rfl⟩

theorem numText_eq (neg : Bool) (d0 : Char) (more fp : Str) (hasFrac : Bool) (et : Str) :
    numText neg (d0 :: more) fp hasFrac et =
      (if neg then ['-'] else []) ++ d0 :: (more ++ ((if hasFrac then '.' :: fp else []) ++ et)) := by
  simp [numText]

/-- an integer literal: both readers take it for the same `int`, or `strconv.ParseInt` rejects it (out of
range) and the strict reader rounds it -/
theorem intLit_cases (neg : Bool) {d0 : Char} {more : Str} (hsh : NumShape d0 more [] false) (rest : Str) :
    (∃ iv : Int, parseIntBase0 (numText neg (d0 :: more) [] false []) = some iv ∧
      numFinal neg (d0 :: more) [] false none rest = some (some (.int iv), rest)) ∨
    (parseIntBase0 (numText neg (d0 :: more) [] false []) = none ∧ digitsVal (d0 :: more) ≠ 0 ∧
      numFinal neg (d0 :: more) [] false none rest =
        match F64.roundRat neg (digitsVal (d0 :: more)) 1 with
        | some f => some (some (.float f), rest)
        | none => some (none, rest)) := by
  have hnt : numText neg (d0 :: more) [] false [] = (if neg then ['-'] else []) ++ d0 :: more := by
    simp [numText]
  rw [hnt, parseIntBase0_signed neg d0 more (hsh.ip d0 (by simp)), parseUintBase0_digits d0 more hsh.ip hsh.zero]
  unfold numFinal
  simp only [Option.bind_some, contains_us_numChars (d0 :: more) (fun c hc => by simp [isNumChar, hsh.ip c hc]), Bool.false_and, Bool.false_eq_true, if_false,
    List.append_nil, Bool.not_false, Option.isNone_none, Bool.and_self, if_true]
  generalize digitsVal (d0 :: more) = m
  cases neg
  · simp only [Bool.false_eq_true, if_false, Bool.not_false, Bool.true_and, Bool.false_and, decide_eq_true_eq]
    by_cases h : m ≥ 2^63
    · rw [if_pos h, if_neg (by omega)]; exact .inr ⟨rfl, by omega, rfl⟩
    · rw [if_neg h, if_pos (by omega)]; exact .inl ⟨_, rfl, rfl⟩
  · simp only [if_true, Bool.not_true, Bool.true_and, Bool.false_and, decide_eq_true_eq, Bool.false_eq_true, if_false]
    by_cases h : m > 2^63
    · rw [if_pos h, if_neg (by omega)]; exact .inr ⟨rfl, by omega, rfl⟩
    · rw [if_neg h, if_pos (by omega)]; exact .inl ⟨_, rfl, rfl⟩

theorem parseInt_tail (neg : Bool) {d0 : Char} {more fp : Str} {hasFrac : Bool} (hsh : NumShape d0 more fp hasFrac)
    {c : Char} (tl : Str) (hc : c = '.' ∨ c = 'e' ∨ c = 'E') :
    parseIntBase0 ((if neg then ['-'] else []) ++ d0 :: (more ++ c :: tl)) = none := by
  suffices h : parseUintBase0 (d0 :: (more ++ c :: tl)) = none by
    rw [parseIntBase0_signed neg d0 _ (hsh.ip d0 (by simp)), h]; rfl
  by_cases h0 : d0 = '0'
  · subst h0
    rw [hsh.zero rfl]
    have hl : (F64.lower c == 'b') = false ∧ (F64.lower c == 'o') = false ∧ (F64.lower c == 'x') = false := by
      rcases hc with rfl | rfl | rfl <;> decide
    simp only [List.nil_append, parseUintBase0]
    split
    · rename_i c' _ _ h
      have : c' = c := by simp at h; exact h.1.symm
      subst this
      simp only [hl]
      rw [if_neg (by simp), if_neg (by simp), if_neg (by simp)]
      exact readDigits_bad c' tl 0 8 (by omega) hc
    · exact readDigits_bad c tl 0 8 (by omega) hc
  · rw [parseUintBase0_of_ne h0, ← List.cons_append, readDigits_digits _ _ _ hsh.ip]
    exact readDigits_bad c tl _ 10 (by omega) hc

end SVP

namespace Strict

theorem number_chars (s : Str) (v : Option JVal) (h : number s = some (v, [])) :
    s ≠ [] ∧ ∀ c ∈ s, isNumChar c = true := by
  rw [number_eq] at h
  obtain ⟨neg, d0, more, fp, hasFrac, et, ex, rfl, hsh, het, _⟩ := SVP.number'_shape s v [] h
  rw [List.append_nil]
  exact ⟨by simp [SVP.numText], SVP.numText_numChars neg hsh het.numChars⟩

theorem parseIntBase0_of_number_float (s : Str) (x : F64)
    (h : number s = some (some (.float x), [])) : parseIntBase0 s = none := by
  rw [number_eq] at h
  obtain ⟨neg, d0, more, fp, hasFrac, et, ex, rfl, hsh, het, hfin⟩ := SVP.number'_shape s _ [] h
  rw [List.append_nil]
  rcases SVP.numTail_head hasFrac fp het with ⟨rfl, rfl, rfl⟩ | ⟨c, tl, htl, hc, _⟩
  · -- an integer literal that is read as a float is out of `int` range
    obtain rfl := hsh.noFrac rfl
    rcases SVP.intLit_cases neg hsh [] with ⟨iv, _, hn⟩ | ⟨hp, _, _⟩
    · rw [hn] at hfin; cases hfin
    · exact hp
  · rw [SVP.numText_eq, htl]
    exact SVP.parseInt_tail neg hsh tl hc

end Strict
end Anytype
