/-
Native values: `toNative` is an isomorphism between value trees and native trees, and
`parseVal` of a native tree (what `NewListFrom` / `NewObjectFrom` do) builds fresh cells that
denote exactly that tree.
-/
import Anytype.Lemmas.Reify
import Anytype.Lemmas.Normalize
namespace Anytype
open Heap
namespace Rf

/-! ### `toNative` is a bijection -/

mutual
/-- the inverse of `toNative` -/
def fromNative : NVal → JVal
  | .nil => .null | .bool b => .bool b | .int i => .int i | .float f => .float f | .str s => .str s
  | .slice xs => .list (fromNativeList xs)
  | .dict kvs => .obj (fromNativeFields kvs)
def fromNativeList : List NVal → List JVal
  | [] => [] | x :: xs => fromNative x :: fromNativeList xs
def fromNativeFields : List (Str × NVal) → List (Str × JVal)
  | [] => [] | (k, x) :: kvs => (k, fromNative x) :: fromNativeFields kvs
end

mutual
theorem fromNative_toNative : ∀ t : JVal, fromNative (toNative t) = t
  | .null | .bool _ | .int _ | .float _ | .str _ => rfl
  | .list xs => congrArg JVal.list (fromNativeList_toNativeList xs)
  | .obj kvs => congrArg JVal.obj (fromNativeFields_toNativeFields kvs)
theorem fromNativeList_toNativeList : ∀ xs : List JVal, fromNativeList (toNativeList xs) = xs
  | [] => rfl
  | x :: xs => by show _ :: _ = _; rw [fromNative_toNative x, fromNativeList_toNativeList xs]
theorem fromNativeFields_toNativeFields :
    ∀ kvs : List (Str × JVal), fromNativeFields (toNativeFields kvs) = kvs
  | [] => rfl
  | (k, x) :: kvs => by
    show (_, _) :: _ = _; rw [fromNative_toNative x, fromNativeFields_toNativeFields kvs]
end

mutual
theorem toNative_fromNative : ∀ n : NVal, toNative (fromNative n) = n
  | .nil | .bool _ | .int _ | .float _ | .str _ => rfl
  | .slice xs => congrArg NVal.slice (toNativeList_fromNativeList xs)
  | .dict kvs => congrArg NVal.dict (toNativeFields_fromNativeFields kvs)
theorem toNativeList_fromNativeList : ∀ xs : List NVal, toNativeList (fromNativeList xs) = xs
  | [] => rfl
  | x :: xs => by show _ :: _ = _; rw [toNative_fromNative x, toNativeList_fromNativeList xs]
theorem toNativeFields_fromNativeFields :
    ∀ kvs : List (Str × NVal), toNativeFields (fromNativeFields kvs) = kvs
  | [] => rfl
  | (k, x) :: kvs => by
    show (_, _) :: _ = _; rw [toNative_fromNative x, toNativeFields_fromNativeFields kvs]
end

theorem toNativeFields_keys : ∀ kvs : List (Str × JVal),
    (toNativeFields kvs).map (·.1) = kvs.map (·.1)
  | [] => rfl
  | (k, _) :: kvs => congrArg (k :: ·) (toNativeFields_keys kvs)

theorem toNativeList_length : ∀ xs : List JVal, (toNativeList xs).length = xs.length
  | [] => rfl
  | _ :: xs => congrArg (· + 1) (toNativeList_length xs)

theorem fromNativeFields_keys : ∀ kvs : List (Str × NVal),
    (fromNativeFields kvs).map (·.1) = kvs.map (·.1)
  | [] => rfl
  | (k, _) :: kvs => congrArg (k :: ·) (fromNativeFields_keys kvs)

end Rf

mutual
/-- canonical native trees: ints fit Go's `int`, the keys of every map are distinct (a Go map) -/
def NVal.WF : NVal → Prop
  | .nil => True | .bool _ => True | .float _ => True | .str _ => True
  | .int i => InRange i
  | .slice xs => WFNList xs
  | .dict kvs => (kvs.map (·.1)).Nodup ∧ WFNFields kvs
def WFNList : List NVal → Prop
  | [] => True
  | x :: xs => x.WF ∧ WFNList xs
def WFNFields : List (Str × NVal) → Prop
  | [] => True
  | (_, x) :: kvs => x.WF ∧ WFNFields kvs
end

namespace Rf

theorem nfieldsToGo_keys : ∀ kvs : List (Str × NVal), (nfieldsToGo kvs).map (·.1) = kvs.map (·.1)
  | [] => rfl
  | (k, _) :: kvs => congrArg (k :: ·) (nfieldsToGo_keys kvs)

mutual
/-- `parseVal h n.toGo` succeeds, only appends cells (at least `depth` of them), and the value it
returns denotes `fromNative n` through the new cells alone -/
theorem parseVal_native : ∀ (n : NVal), n.WF → ∀ (h : Heap),
    ∃ h' v, parseVal h n.toGo = (h', .ok v) ∧ Ext0 h h' ∧
      h.length + depth (fromNative n) ≤ h'.length ∧
      Denotes h.length h'.length h' v (fromNative n)
  | .nil, _, h | .bool _, _, h | .float _, _, h | .str _, _, h =>
    ⟨h, _, rfl, Ext0.refl h, Nat.le_refl _,
      Denotes.scalar _ _ _ ⟨nofun, nofun⟩ (by rw [reify, fromNative])⟩
  | .int i, wf, h =>
    ⟨h, .int i, by rw [NVal.toGo, parseVal, wrap64_of_inRange i wf], Ext0.refl h, Nat.le_refl _,
      Denotes.scalar _ _ _ ⟨nofun, nofun⟩ (by rw [reify, fromNative])⟩
  | .slice xs, wf, h => by
    have hl0 := length_lt_append h (.list [] 0)
    -- heap and receiver are read off `hl0`: written out they elaborate differently and unify slowly
    have ⟨H', vs, hq, e, hi, hd, ds⟩ :=
      addEach_native xs wf _ _ hl0 (isList_append_new h [] 0)
    have hlen := e.len
    rw [List.length_append, List.length_singleton] at hlen hd
    have hcell : H'[h.length]? = some (.list vs 0) := by
      rw [getElem?_of_isList ((e.isList hl0).trans (isList_append_new h [] 0)), hi, e.ego hl0,
        items_append_new, ego_append_new_list, List.nil_append]
    refine ⟨H', .list ⟨h.length, 0⟩, by rw [NVal.toGo, parseVal, hq],
      (Ext0.append h _).trans_ext e (Nat.le_refl _),
      by rw [fromNative, depth, ← Nat.add_assoc, Nat.add_right_comm]; exact hd, ?_⟩
    rw [fromNative]
    exact Denotes.list (r := ⟨h.length, 0⟩) hcell (Nat.le_refl _) hlen
      (ds.mono (AgreeOn.refl _ _ _) (Nat.le_of_lt hl0) (Nat.le_refl _))
  | .dict kvs, wf, h => by
    have hl0 := length_lt_append h (.obj [] 0)
    have ⟨H', fs, hq, e, hi, hd, ds⟩ :=
      setEach_native kvs wf.2 _ _ hl0 (isObj_append_new h [] 0) wf.1
        (by rw [fields_append_new]; exact fun _ _ => nofun)
    have hlen := e.len
    rw [List.length_append, List.length_singleton] at hlen hd
    have hcell : H'[h.length]? = some (.obj fs 0) := by
      rw [getElem?_of_isObj ((e.isObj hl0).trans (isObj_append_new h [] 0)), hi, e.ego hl0,
        fields_append_new, ego_append_new_obj, List.nil_append]
    refine ⟨H', .obj ⟨h.length, 0⟩, by rw [NVal.toGo, parseVal, hq],
      (Ext0.append h _).trans_ext e (Nat.le_refl _),
      by rw [fromNative, depth, ← Nat.add_assoc, Nat.add_right_comm]; exact hd, ?_⟩
    rw [fromNative]
    exact Denotes.obj (r := ⟨h.length, 0⟩) hcell (Nat.le_refl _) hlen
      (ds.mono (AgreeOn.refl _ _ _) (Nat.le_of_lt hl0) (Nat.le_refl _))
theorem addEach_native : ∀ (xs : List NVal), WFNList xs → ∀ (H : Heap) (a : Nat),
    a < H.length → H.isList a = true →
    ∃ H' vs, addEach H a (nvalsToGo xs) = (H', .ok ()) ∧ Ext H H' a ∧
      H'.items a = H.items a ++ vs ∧
      H.length + depthList (fromNativeList xs) ≤ H'.length ∧
      DenotesList H.length H'.length H' vs (fromNativeList xs)
  | [], _, H, a, _, _ => ⟨H, [], rfl, Ext.refl H a, (List.append_nil _).symm, Nat.le_refl _,
      DenotesList.nil _ _ _⟩
  | x :: xs, wf, H, a, ha, hl => by
    have ⟨H1, v, hp, e1, hd1, d1⟩ := parseVal_native x wf.1 H
    have hl1 : H1.isList a = true := (e1.isList ha).trans hl
    have hl2 := (isList_setItems H1 a a (H1.items a ++ [v])).trans hl1
    have ⟨H', vs, hq, e2, hi, hd2, d2⟩ := addEach_native xs wf.2 _ a (isList_lt hl2) hl2
    have e2 := (Ext.setItems H1 a (H1.items a ++ [v])).trans e2
    rw [length_setItems] at hd2 d2
    refine ⟨H', v :: vs, by rw [nvalsToGo, addEach, hp]; exact hq, (e1.toExt a).trans e2, ?_, ?_, ?_⟩
    · rw [hi, items_setItems_same _ hl1, e1.items ha, List.append_assoc]; rfl
    · rw [fromNativeList, depthList, ← Nat.add_max_add_left]
      exact Nat.max_le.2 ⟨Nat.le_trans hd1 e2.len, Nat.le_trans (Nat.add_le_add_right e1.len _) hd2⟩
    · rw [fromNativeList]
      exact DenotesList.cons
        (d1.mono (AgreeOn.of_ext e2 (Nat.le_refl _) (Or.inl ha)) (Nat.le_refl _) e2.len)
        (d2.mono (AgreeOn.refl _ _ _) e1.len (Nat.le_refl _))
theorem setEach_native : ∀ (kvs : List (Str × NVal)), WFNFields kvs → ∀ (H : Heap) (a : Nat),
    a < H.length → H.isObj a = true → (kvs.map (·.1)).Nodup →
    (∀ k ∈ kvs.map (·.1), k ∉ (H.fields a).map (·.1)) →
    ∃ H' fs, setEach H a (nfieldsToGo kvs) = (H', .ok ()) ∧ Ext H H' a ∧
      H'.fields a = H.fields a ++ fs ∧
      H.length + depthFields (fromNativeFields kvs) ≤ H'.length ∧
      DenotesFields H.length H'.length H' fs (fromNativeFields kvs)
  | [], _, H, a, _, _, _, _ => ⟨H, [], rfl, Ext.refl H a, (List.append_nil _).symm, Nat.le_refl _,
      DenotesFields.nil _ _ _⟩
  | (k, x) :: kvs, wf, H, a, ha, hl, hnd, hnew => by
    rw [List.map_cons, List.nodup_cons] at hnd
    have ⟨H1, v, hp, e1, hd1, d1⟩ := parseVal_native x wf.1 H
    have hl1 : H1.isObj a = true := (e1.isObj ha).trans hl
    have hfS : (H1.setFields a (setKV (H1.fields a) k v)).fields a = H.fields a ++ [(k, v)] := by
      rw [fields_setFields_same _ hl1, e1.fields ha,
        setKV_of_not_mem _ _ _ (hnew k List.mem_cons_self)]
    have hl2 := (isObj_setFields H1 a a (setKV (H1.fields a) k v)).trans hl1
    have ⟨H', fs, hq, e2, hi, hd2, d2⟩ := setEach_native kvs wf.2 _ a (isObj_lt hl2) hl2 hnd.2
      (fun k' hk' => by
        rw [hfS, List.map_append, List.mem_append, not_or]
        refine ⟨hnew k' (List.mem_cons_of_mem _ hk'), fun hm => ?_⟩
        rw [List.map_singleton, List.mem_singleton] at hm
        exact hnd.1 (hm ▸ hk'))
    have e2 := (Ext.setFields H1 a (setKV (H1.fields a) k v)).trans e2
    rw [length_setFields] at hd2 d2
    refine ⟨H', (k, v) :: fs, by rw [nfieldsToGo, setEach, hp]; exact hq, (e1.toExt a).trans e2,
      ?_, ?_, ?_⟩
    · rw [hi, hfS, List.append_assoc]; rfl
    · rw [fromNativeFields, depthFields, ← Nat.add_max_add_left]
      exact Nat.max_le.2 ⟨Nat.le_trans hd1 e2.len, Nat.le_trans (Nat.add_le_add_right e1.len _) hd2⟩
    · rw [fromNativeFields]
      exact DenotesFields.cons
        (d1.mono (AgreeOn.of_ext e2 (Nat.le_refl _) (Or.inl ha)) (Nat.le_refl _) e2.len)
        (d2.mono (AgreeOn.refl _ _ _) e1.len (Nat.le_refl _))
end

end Rf
end Anytype
