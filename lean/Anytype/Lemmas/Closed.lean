/-
Region closedness (`Rf.Closed`, defined in `Lemmas/Reify.lean` where `build` needs it): for a set
`P` of addresses, "every cell in `P` stores only references into `P`". It is preserved by every
mutator whose arguments reference only containers in `P` (newly allocated cells are in `P`), so
everything reachable from a value in `P` stays in `P`. At the end, `HeapWF` of a concrete heap
checked cell by cell.
-/
import Anytype.Lemmas.Mutators
namespace Anytype
open Heap

mutual
/-- every container reference occurring in a Go argument (at any depth) is in `P` -/
def GoVal.refP (P : Nat → Prop) : GoVal → Prop
  | .list r => P r.addr
  | .obj r => P r.addr
  | .slice _ xs => refPList P xs
  | .map _ kvs => refPFields P kvs
  | _ => True
def refPList (P : Nat → Prop) : List GoVal → Prop
  | [] => True
  | g :: gs => g.refP P ∧ refPList P gs
def refPFields (P : Nat → Prop) : List (Str × GoVal) → Prop
  | [] => True
  | (_, g) :: kvs => g.refP P ∧ refPFields P kvs
end

namespace Rf

variable {P : Nat → Prop} {h : Heap}

/-! ### reachability stays inside a closed region -/

theorem refP_addr {v : Val} {a : Nat} (hv : v.refP P) (ha : v.addr? = some a) :
    P a := by
  cases v <;> cases ha <;> exact hv

theorem refP_kids (cl : Closed P h) {v : Val} (hv : v.refP P) :
    ∀ x ∈ kids h v, x.refP P := by
  cases v with
  | list r => exact (cl r.addr hv).1
  | obj r =>
    intro x hx
    obtain ⟨kv, hkv, rfl⟩ := List.mem_map.1 hx
    exact (cl r.addr hv).2 kv hkv
  | _ => intro x hx; cases hx

theorem reach_closed (cl : Closed P h) (n : Nat) :
    ∀ (v : Val), v.refP P → ∀ a ∈ reach n h v, P a := by
  induction n with
  | zero => intro v _ a ha; simp only [reach] at ha; cases ha
  | succ n ih =>
    intro v hv a ha
    rcases mem_reach_succ.1 ha with ha | ⟨x, hx, ha⟩
    · exact refP_addr hv ha
    · exact ih x (refP_kids cl hv x hx) a ha

theorem Closed.setItems (cl : Closed P h) (a : Nat) (xs : List Val)
    (hx : P a → ∀ v ∈ xs, v.refP P) : Closed P (h.setItems a xs) := by
  intro b hb
  rw [items_setItems, fields_setItems]
  by_cases hc : b = a ∧ h.isList a = true
  · rw [if_pos hc]; exact ⟨hx (hc.1 ▸ hb), (cl b hb).2⟩
  · rw [if_neg hc]; exact cl b hb

theorem Closed.setItems_sub (cl : Closed P h) (a : Nat) (xs : List Val)
    (hx : ∀ v ∈ xs, v ∈ h.items a) : Closed P (h.setItems a xs) :=
  cl.setItems a xs (fun ha v hv => (cl a ha).1 v (hx v hv))

theorem Closed.setFields (cl : Closed P h) (a : Nat)
    (kvs : List (Str × Val)) (hx : P a → ∀ kv ∈ kvs, kv.2.refP P) : Closed P (h.setFields a kvs) := by
  intro b hb
  rw [items_setFields, fields_setFields]
  by_cases hc : b = a ∧ h.isObj a = true
  · rw [if_pos hc]; exact ⟨(cl b hb).1, hx (hc.1 ▸ hb)⟩
  · rw [if_neg hc]; exact cl b hb

theorem Closed.addItem (cl : Closed P h) (a : Nat) {v : Val}
    (hv : v.refP P) : Closed P (h.setItems a (h.items a ++ [v])) :=
  cl.setItems a _ fun ha w hw => by
    rcases List.mem_append.1 hw with hw | hw
    · exact (cl a ha).1 w hw
    · rw [List.mem_singleton.1 hw]; exact hv

theorem Closed.setKV (cl : Closed P h) (a : Nat) (k : Str)
    {kvs : List (Str × Val)} {v : Val} (hk : P a → ∀ kv ∈ kvs, kv.2.refP P) (hv : v.refP P) :
    Closed P (h.setFields a (Anytype.setKV kvs k v)) :=
  cl.setFields a _ fun ha w hw => by
    rcases mem_setKV hw with hw | hw
    · rw [hw]; exact hv
    · exact hk ha w hw

/-- what converting an argument returns: the heap still closed, and a value (if any) referencing `P` -/
def ClosedOut (P : Nat → Prop) (p : Heap × Out Val) : Prop :=
  Closed P p.1 ∧ ∀ v, p.2 = .ok v → v.refP P

theorem ClosedOut.pure (cl : Closed P h) {v : Val} (hv : v.refP P) :
    ClosedOut P (h, .ok v) := ⟨cl, fun _ hw => by cases hw; exact hv⟩

theorem ClosedOut.panic (cl : Closed P h) (k : PanicKind) :
    ClosedOut P (h, .panic k) := ⟨cl, fun _ hw => by cases hw⟩

mutual
theorem parseVal_closed (P : Nat → Prop) : ∀ (h : Heap) (g : GoVal), Closed P h → UpFrom P h.length →
    g.refP P → ClosedOut P (parseVal h g)
  | h, .nil, cl, _, _ | h, .bool _, cl, _, _ | h, .intw _ _, cl, _, _ | h, .f64 _, cl, _, _
  | h, .f32 _, cl, _, _ | h, .str _, cl, _, _ => by rw [parseVal]; exact ClosedOut.pure cl trivial
  | h, .unsupported, cl, _, _ => by rw [parseVal]; exact ClosedOut.panic cl _
  | h, .list r, cl, _, hg | h, .obj r, cl, _, hg => by rw [parseVal]; exact ClosedOut.pure cl hg
  | h, .slice _ xs, cl, up, hg => by
    have ih := addEach_closed P _ h.length xs (cl.append (.list [] 0) fun _ => List.forall_mem_nil _)
      (up.mono (Ext0.append h _).len) hg
    simp only [parseVal]
    generalize addEach (h ++ [Cell.list [] 0]) h.length xs = p at ih ⊢
    obtain ⟨h1, _ | k⟩ := p
    · exact ClosedOut.pure ih (up _ (Nat.le_refl _))
    · exact ClosedOut.panic ih k
  | h, .map _ kvs, cl, up, hg => by
    have ih := setEach_closed P _ h.length kvs (cl.append (.obj [] 0) fun _ => List.forall_mem_nil _)
      (up.mono (Ext0.append h _).len) hg
    simp only [parseVal]
    generalize setEach (h ++ [Cell.obj [] 0]) h.length kvs = p at ih ⊢
    obtain ⟨h1, _ | k⟩ := p
    · exact ClosedOut.pure ih (up _ (Nat.le_refl _))
    · exact ClosedOut.panic ih k
theorem addEach_closed (P : Nat → Prop) : ∀ (h : Heap) (a : Nat) (gs : List GoVal), Closed P h →
    UpFrom P h.length → refPList P gs → Closed P (addEach h a gs).1
  | h, a, [], cl, _, _ => by rw [addEach]; exact cl
  | h, a, g :: gs, cl, up, hg => by
    have ih1 := parseVal_closed P h g cl up hg.1
    rw [addEach]
    rcases hp : parseVal h g with ⟨h1, v | k⟩ <;> rw [hp] at ih1
    · exact addEach_closed P _ a gs (ih1.1.addItem a (ih1.2 v rfl))
        (up.mono (by rw [length_setItems]; exact (ext0_of_parseVal hp).len)) hg.2
    · exact ih1.1
theorem setEach_closed (P : Nat → Prop) : ∀ (h : Heap) (a : Nat) (kvs : List (Str × GoVal)),
    Closed P h → UpFrom P h.length → refPFields P kvs → Closed P (setEach h a kvs).1
  | h, a, [], cl, _, _ => by rw [setEach]; exact cl
  | h, a, (k, g) :: kvs, cl, up, hg => by
    have ih1 := parseVal_closed P h g cl up hg.1
    rw [setEach]
    rcases hp : parseVal h g with ⟨h1, v | p⟩ <;> rw [hp] at ih1
    · exact setEach_closed P _ a kvs (ih1.1.setKV a k (fun ha => (ih1.1 a ha).2) (ih1.2 v rfl))
        (up.mono (by rw [length_setFields]; exact (ext0_of_parseVal hp).len)) hg.2
    · exact ih1.1
end

theorem buildList_closed (P : Nat → Prop) : ∀ (h : Heap) (xs : List JVal), Closed P h →
    UpFrom P h.length → Closed P (buildList h xs).1 ∧ ∀ v ∈ (buildList h xs).2, v.refP P :=
  fun h _ => (buildList_ok (fun x _ h => build_full h x) h).2.2.2 P

theorem buildFields_closed (P : Nat → Prop) : ∀ (h : Heap) (kvs : List (Str × JVal)), Closed P h →
    UpFrom P h.length → Closed P (buildFields h kvs).1 ∧ ∀ kv ∈ (buildFields h kvs).2, kv.2.refP P :=
  fun h _ => (buildFields_ok (fun kv _ h => build_full h kv.2) h).2.2.2 P

/-- the container references among the arguments (at any depth) are all in `P` -/
def MOp.refP (P : Nat → Prop) : MOp → Prop
  | .add _ gs => refPList P gs
  | .insert _ _ g => g.refP P
  | .replace _ _ g => g.refP P
  | .oset _ pairs _ => ∀ p ∈ pairs, p.2.refP P
  | _ => True

theorem closed_of_parseVal {h h1 : Heap} {g : GoVal} {o : Out Val}
    (hp : parseVal h g = (h1, o)) (cl : Closed P h) (up : UpFrom P h.length) (hg : g.refP P) :
    Closed P h1 ∧ UpFrom P h1.length ∧ ∀ v, o = .ok v → v.refP P := by
  have c := parseVal_closed P h g cl up hg
  rw [hp] at c
  exact ⟨c.1, up.mono (ext0_of_parseVal hp).len, c.2⟩

theorem setLoop_closed (P : Nat → Prop) (h : Heap) (a : Nat) (pairs : O.Pairs) (cl : Closed P h)
    (up : UpFrom P h.length) (hg : ∀ p ∈ pairs, p.2.refP P) : Closed P (O.setLoop h a pairs).1 := by
  induction pairs generalizing h with
  | nil => exact cl
  | cons p pairs ih =>
    obtain ⟨_ | k, g⟩ := p
    · exact cl
    · rw [O.setLoop]
      rcases hp : parseVal h g with ⟨h1, v | p⟩ <;>
        obtain ⟨c1, u1, hv⟩ := closed_of_parseVal hp cl up (hg _ List.mem_cons_self)
      · exact ih _ (c1.setKV a k (fun ha => (c1 a ha).2) (hv v rfl)) (by rw [length_setFields]; exact u1)
          (fun p hp' => hg p (List.mem_cons_of_mem _ hp'))
      · exact c1

theorem deleteLoop_closed (P : Nat → Prop) (h : Heap) (a : Nat) (ds : List Int) (cl : Closed P h) :
    Closed P (L.deleteLoop h a ds).1 := by
  induction ds generalizing h with
  | nil => exact cl
  | cons d ds ih =>
    refine of_ite (p := fun q : Heap × Out Unit => Closed P q.1) (fun _ => cl) fun _ =>
      ih _ (cl.setItems_sub a _ (fun w hw => ?_))
    rcases List.mem_append.1 hw with hw | hw
    · exact List.mem_of_mem_take hw
    · exact List.mem_of_mem_drop hw

/-- a mutator whose arguments reference only containers in `P` keeps `P` closed -/
theorem stepM_closed (P : Nat → Prop) (h : Heap) (op : MOp) (cl : Closed P h)
    (up : UpFrom P h.length) (hop : op.refP P) : Closed P (stepM h op) := by
  cases op with
  | add a gs => rw [stepM, add_fst]; exact addEach_closed P h a gs cl up hop
  | insert a i g =>
    have ite := @of_ite _ fun q : Heap × Out Ref => Closed P q.1
    refine ite (fun _ => cl) fun _ => ite (fun _ => ?_) fun _ => ?_
    · rw [add_fst]; exact addEach_closed P h a [g] cl up ⟨hop, trivial⟩
    rcases hp : parseVal h g with ⟨h1, v | k⟩ <;> obtain ⟨c1, -, hv⟩ := closed_of_parseVal hp cl up hop
    · refine c1.setItems a _ (fun ha w hw => ?_)
      rcases List.mem_or_eq_of_mem_set hw with hw | hw
      · rcases List.mem_append.1 hw with hw | hw
        · exact (c1 a ha).1 w (List.mem_of_mem_take hw)
        · exact (c1 a ha).1 w (List.mem_of_mem_drop hw)
      · rw [hw]; exact hv v rfl
    · exact c1
  | replace a i g =>
    refine of_ite (p := fun q : Heap × Out Ref => Closed P q.1) (fun _ => cl) fun _ => ?_
    rcases hp : parseVal h g with ⟨h1, v | k⟩ <;> obtain ⟨c1, -, hv⟩ := closed_of_parseVal hp cl up hop
    · refine c1.setItems a _ (fun ha w hw => ?_)
      rcases List.mem_or_eq_of_mem_set hw with hw | hw
      · exact (c1 a ha).1 w hw
      · rw [hw]; exact hv v rfl
    · exact c1
  | delete a idx => rw [stepM, delete_fst]; exact deleteLoop_closed P h a _ cl
  | pop a => rw [stepM, L.pop, delete_fst]; exact deleteLoop_closed P h a _ cl
  | clear a => exact cl.setItems a [] (fun _ => List.forall_mem_nil _)
  | reverse a =>
    rw [stepM, L.reverse_eq]
    exact cl.setItems_sub a _ (fun w hw => List.mem_reverse.1 hw)
  | sort a =>
    -- whatever `Sort` stores is a list of scalars
    have hs : ∀ {α : Type} (f : α → Val) (s : List α), (∀ x, (f x).refP P) →
        Closed P (h.setItems a (s.map f)) := fun f s hf =>
      cl.setItems a _ (fun _ w hw => by obtain ⟨x, _, rfl⟩ := List.mem_map.1 hw; exact hf x)
    simp only [stepM, L.sort]
    rcases h.items a with _ | ⟨x, xs⟩
    · exact cl
    · cases x <;> first | exact cl | exact hs _ _ (fun _ => trivial)
  | oset a pairs odd =>
    rw [stepM, oset_fst]
    cases odd
    · exact setLoop_closed P h a pairs cl up hop
    · exact cl
  | ounset a keys =>
    exact cl.setFields a _ (fun ha kv hkv => (cl a ha).2 kv (mem_foldl_delKV keys hkv))
  | oclear a => exact cl.setFields a [] (fun _ => List.forall_mem_nil _)

/-! ### closed regions that come from well-formedness, or from having no cell -/

theorem items_none {h : Heap} {a : Nat} (ha : h.length ≤ a) : h.items a = [] := by
  rw [items, List.getElem?_eq_none ha]
theorem fields_none {h : Heap} {a : Nat} (ha : h.length ≤ a) : h.fields a = [] := by
  rw [fields, List.getElem?_eq_none ha]

theorem closed_of_ge (hP : ∀ a, P a → h.length ≤ a) : Closed P h :=
  fun a ha => by
    rw [items_none (hP a ha), fields_none (hP a ha)]
    exact ⟨List.forall_mem_nil _, List.forall_mem_nil _⟩

theorem refP_of_okIn {h : Heap} {v : Val} (hP : ∀ a, a < h.length → P a)
    (hv : v.okIn h) : v.refP P := by
  cases v <;> simp only [Val.okIn, Val.refP] at hv ⊢
  · exact hP _ (isList_lt hv)
  · exact hP _ (isObj_lt hv)

/-- in a well-formed heap that got new cells, a region made of all old cells and any of the
addresses still unused is closed -/
theorem closed_of_wf {h h' : Heap} (wf : HeapWF h) (hs : Sub h h')
    (hold : ∀ a, a < h.length → P a) (hP : ∀ a, P a → a < h.length ∨ h'.length ≤ a) :
    Closed P h' := by
  intro a ha
  rcases hP a ha with hlt | hge
  · have e : h'[a]? = h[a]? := by
      rw [List.getElem?_eq_getElem hlt]; exact hs a _ (List.getElem?_eq_getElem hlt)
    rw [items_congr e, fields_congr e]
    exact ⟨fun v hv => refP_of_okIn hold ((wf a).1 v hv),
      fun kv hkv => refP_of_okIn hold ((wf a).2 kv hkv)⟩
  · rw [items_none hge, fields_none hge]
    exact ⟨List.forall_mem_nil _, List.forall_mem_nil _⟩

theorem reach_old {h h' : Heap} (wf : HeapWF h) (hs : Sub h h') (n : Nat) (v : Val)
    (hv : v.okIn h) : ∀ a ∈ reach n h' v, a < h.length :=
  reach_closed (closed_of_wf wf hs (fun _ hb => hb) (fun _ hb => Or.inl hb)) n v
    (refP_of_okIn (fun _ hb => hb) hv)

instance (h : Heap) : DecidablePred (Val.okIn h) := fun v => by
  cases v <;> unfold Val.okIn <;> infer_instance

/-- well-formedness can be checked cell by cell (on a concrete heap: by evaluation) -/
theorem heapWF_of_cells {h : Heap} (hc : ∀ c ∈ h, ∀ v ∈ cellVals c, v.okIn h) : HeapWF h := by
  intro a
  by_cases hl : h.isList a = true
  · rw [fields_of_not_isObj (isObj_false_of_isList hl)]
    exact ⟨hc _ (List.mem_of_getElem? (getElem?_of_isList hl)), List.forall_mem_nil _⟩
  · rw [items_of_not_isList (Bool.eq_false_iff.2 hl)]
    refine ⟨List.forall_mem_nil _, ?_⟩
    by_cases ho : h.isObj a = true
    · exact fun kv hkv => hc _ (List.mem_of_getElem? (getElem?_of_isObj ho)) kv.2
        (List.mem_map_of_mem hkv)
    · rw [fields_of_not_isObj (Bool.eq_false_iff.2 ho)]; exact List.forall_mem_nil _

end Rf
end Anytype
