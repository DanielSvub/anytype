/-
Byte-level facts about the entry points: `splitAtByte`, prefixes of the input, and the shape of an
accepting / rejecting top-level run.  `ParseList` and `ParseObject` differ in the root bracket and
the machine started behind it only (`Entry`); everything is proved for an `Entry`.
-/
import Anytype.Lemmas.ParserLine
import Anytype.Lemmas.Utf8Prefix
import Anytype.Lemmas.JValEq
namespace Anytype

theorem splitAtByte_some {b : UInt8} {bs pre post : List UInt8} :
    splitAtByte b bs = some (pre, post) → bs = pre ++ b :: post ∧ b ∉ pre := by
  fun_induction splitAtByte b bs generalizing pre post with
  | case1 | case3 => nofun
  | case2 x xs hx =>
    intro h; cases h
    exact ⟨by rw [eq_of_beq hx]; rfl, List.not_mem_nil⟩
  | case4 x xs hx pre' post' hr ih =>
    intro h; cases h
    obtain ⟨e, hn⟩ := ih hr
    exact ⟨by rw [e]; rfl, fun hm => (List.mem_cons.1 hm).elim (fun e => hx (e ▸ beq_self_eq_true b)) hn⟩

theorem splitAtByte_of_not_mem {b : UInt8} {bs : List UInt8} : b ∉ bs → splitAtByte b bs = none := by
  fun_induction splitAtByte b bs with
  | case1 | case3 => exact fun _ => rfl
  | case2 x xs hx => exact fun h => absurd (eq_of_beq hx ▸ List.mem_cons_self) h
  | case4 x xs hx pre' post' hr ih =>
    exact fun h => nomatch hr.symm.trans (ih fun hm => h (List.mem_cons_of_mem _ hm))

theorem splitAtByte_append {b : UInt8} : ∀ {pre : List UInt8} (post : List UInt8), b ∉ pre →
    splitAtByte b (pre ++ b :: post) = some (pre, post) := by
  intro pre post h
  induction pre with
  | nil => simp only [List.nil_append, splitAtByte, beq_self_eq_true, if_true]
  | cons x xs ih =>
    have hx : (x == b) = false := beq_false_of_ne fun e => h (e ▸ List.mem_cons_self)
    simp only [List.cons_append, splitAtByte, hx, ih fun hm => h (List.mem_cons_of_mem _ hm)]
    rfl

theorem prefix_split {b : UInt8} {pre post p : List UInt8} (h : p <+: pre ++ b :: post) :
    p <+: pre ∨ ∃ post', p = pre ++ b :: post' ∧ post' <+: post := by
  rcases List.prefix_or_prefix_of_prefix h (List.prefix_append pre _) with h' | ⟨t, rfl⟩
  · exact .inl h'
  · rcases List.prefix_cons_iff.1 ((List.prefix_append_right_inj pre).1 h) with rfl | ⟨t', rfl, ht⟩
    · exact .inl (by rw [List.append_nil]; exact List.prefix_refl pre)
    · exact .inr ⟨t', rfl, ht⟩

/-- `parse` looks for the first byte `b` and returns what `runBytes` (the machine started in `σ`) makes
of the bytes behind it: the common shape of `ParseList` (`[`) and `ParseObject` (`{`) -/
structure Entry (b : UInt8) (σ : Cfg) (runBytes : List UInt8 → Nat → PRes)
    (parse : List UInt8 → Except PErr JVal) : Prop where
  ne_nl : b ≠ 0x0A
  run_eq : ∀ post line, runBytes post line = exec ((decodeAll post).length + 1) (decodeAll post) σ line
  parse_eq : ∀ bs, parse bs =
    match splitAtByte b bs with
    | none => .error ⟨.missingBracket, none⟩
    | some (pre, post) =>
      match runBytes post (countNL pre + 1) with
      | .ok v _ _ => .ok v
      | .err e => .error e

theorem entryList : Entry 0x5B .newL runList parseListBytes :=
  ⟨by decide, fun _ _ => by simp only [runList, pList_eq_exec, Cfg.newL], fun _ => rfl⟩

theorem entryObject : Entry 0x7B .newO runObject parseObjectBytes :=
  ⟨by decide, fun _ _ => by simp only [runObject, pObject_eq_exec, Cfg.newO], fun _ => rfl⟩

namespace Entry
variable {b : UInt8} {σ : Cfg} {runBytes : List UInt8 → Nat → PRes} {parse : List UInt8 → Except PErr JVal}
  (E : Entry b σ runBytes parse)
include E

theorem run_notFuel (post : List UInt8) (line : Nat) : (runBytes post line).NotFuel := by
  rw [E.run_eq]; exact exec_total _ _ _ _ (Nat.lt_succ_self _)

theorem ok {bs v} (h : parse bs = .ok v) :
    ∃ pre post rest l, splitAtByte b bs = some (pre, post) ∧ runBytes post (countNL pre + 1) = .ok v rest l := by
  rw [E.parse_eq] at h
  split at h
  · cases h
  · rename_i pre post hs
    split at h
    · rename_i v' rest l hr
      injection h with h; subst h
      exact ⟨pre, post, rest, l, hs, hr⟩
    · cases h

theorem error {bs e} (h : parse bs = .error e) :
    (splitAtByte b bs = none ∧ e = ⟨.missingBracket, none⟩) ∨
    ∃ pre post, splitAtByte b bs = some (pre, post) ∧ runBytes post (countNL pre + 1) = .err e := by
  rw [E.parse_eq] at h
  split at h
  · rename_i hs; injection h with h; exact .inl ⟨hs, h.symm⟩
  · rename_i pre post hs
    split at h
    · cases h
    · rename_i e' hr
      injection h with h; subst h
      exact .inr ⟨pre, post, hs, hr⟩

theorem no_bracket {p : List UInt8} (h : b ∉ p) : parse p = .error ⟨.missingBracket, none⟩ := by
  simp only [E.parse_eq, splitAtByte_of_not_mem h]

theorem notFuel (bs : List UInt8) : ∀ l, parse bs ≠ .error ⟨.fuel, l⟩ := by
  intro l h
  rcases E.error h with ⟨_, h'⟩ | ⟨pre, post, _, hr⟩
  · cases h'
  · exact E.run_notFuel _ _ l hr

theorem region {bs pre post cb : List UInt8} {v rest l}
    (hs : splitAtByte b bs = some (pre, post)) (hr : runBytes post (countNL pre + 1) = .ok v rest l)
    (hdec : decodeAll post = decodeAll cb ++ rest) :
    ∀ post', post' <+: cb → post' ≠ cb → ∃ e, parse (pre ++ b :: post') = .error e := by
  rintro post' ⟨t, rfl⟩ hne
  rw [E.run_eq] at hr
  obtain ⟨c, hc, hrun⟩ := exec_ok_run _ hr
  obtain rfl : c = decodeAll (post' ++ t) := List.append_cancel_right (hc.symm.trans hdec)
  cases hr' : runBytes post' (countNL pre + 1) with
  | err e => exact ⟨e, by simp only [E.parse_eq, splitAtByte_append post' (splitAtByte_some hs).2, hr']⟩
  | ok v' r' l'' =>
    -- the items of `post'` are a proper prefix of the run, possibly followed by an ill-formed item
    obtain ⟨p', tail, q, e1, e2, hq, ht⟩ := decodeAll_append post'.length post' t (Nat.le_refl _)
      fun ht => hne (ht ▸ (List.append_nil _).symm)
    rw [E.run_eq, e1] at hr'
    exact absurd hr' (hrun.prefix_fails p' q e2 hq _ tail ht _ _ _)

theorem consumed {bs pre post : List UInt8} {v rest l}
    (hs : splitAtByte b bs = some (pre, post)) (hr : runBytes post (countNL pre + 1) = .ok v rest l) :
    ∃ cb restb, bs = pre ++ b :: (cb ++ restb) ∧ cb ≠ [] ∧ none ∉ decodeAll cb ∧
      decodeAll restb = rest ∧ decodeAll post = decodeAll cb ++ rest ∧
      ∀ post', post' <+: cb → post' ≠ cb → ∃ e, parse (pre ++ b :: post') = .error e := by
  have hr' := hr
  rw [E.run_eq] at hr'
  obtain ⟨c, hc, hrun⟩ := exec_ok_run _ hr'
  obtain ⟨cb, restb, e1, rfl, e2, _⟩ := decodeAll_split c post rest hrun.all_some hc
  refine ⟨cb, restb, by rw [← e1]; exact (splitAtByte_some hs).1, ?_,
    fun hm => hrun.all_some _ hm rfl, e2, hc, E.region hs hr hc⟩
  rintro rfl; exact hrun.ne_nil decodeAll_nil

theorem cut {bs pre post : List UInt8} {v l}
    (hs : splitAtByte b bs = some (pre, post)) (hr : runBytes post (countNL pre + 1) = .ok v [] l) :
    ∀ p, p <+: bs → p ≠ bs → ∃ e, parse p = .error e := by
  intro p hp hne
  obtain ⟨rfl, hnm⟩ := splitAtByte_some hs
  rcases prefix_split hp with h | ⟨post', rfl, h⟩
  · exact ⟨_, E.no_bracket fun hm => hnm (h.subset hm)⟩
  · exact E.region (cb := post) hs hr (List.append_nil _).symm post' h fun e => hne (e ▸ rfl)

theorem utf8 {bs v} (h : parse bs = .ok v) :
    ∃ pre post rest l c, splitAtByte b bs = some (pre, post) ∧
      runBytes post (countNL pre + 1) = .ok v rest l ∧ decodeAll post = c ++ rest ∧ c ≠ [] ∧
      none ∉ c ∧ ∀ i, (decodeAll post)[i]? = some none → c.length ≤ i := by
  obtain ⟨pre, post, rest, l, hs, hr⟩ := E.ok h
  obtain ⟨cb, _, _, hne, hnone, _, hdec, _⟩ := E.consumed hs hr
  refine ⟨pre, post, rest, l, _, hs, hr, hdec, decodeAll_ne_nil hne, hnone, fun i hi =>
    Nat.le_of_not_lt fun hlt => ?_⟩
  rw [hdec, List.getElem?_append_left hlt] at hi
  exact hnone (List.mem_of_getElem? hi)

theorem utf8_reject {bs pre post : List UInt8} {i : Nat}
    (hs : splitAtByte b bs = some (pre, post)) (hi : (decodeAll post)[i]? = some none) :
    (∃ e, parse bs = .error e) ∨
    (∃ v rest l c, runBytes post (countNL pre + 1) = .ok v rest l ∧ decodeAll post = c ++ rest ∧
      c.length ≤ i) := by
  cases h : parse bs with
  | error e => exact .inl ⟨e, rfl⟩
  | ok v =>
    obtain ⟨pre', post', rest, l, c, hs', hr, hc, _, _, hidx⟩ := E.utf8 h
    obtain ⟨rfl, rfl⟩ : pre = pre' ∧ post = post' := by simpa [hs] using hs'
    exact .inr ⟨v, rest, l, c, hr, hc, hidx i hi⟩

theorem line {bs k L} (h : parse bs = .error ⟨k, some L⟩) :
    ∃ pre post pos e, splitAtByte b bs = some (pre, post) ∧
      (decodeAll post)[pos]? = some (some e) ∧ (∀ it ∈ (decodeAll post).take pos, it ≠ none) ∧
      L = 1 + countNL pre + nlCount ((decodeAll post).take pos) ∧ ErrAt k e := by
  rcases E.error h with ⟨_, h'⟩ | ⟨pre, post, hs, hr⟩
  · cases h'
  · obtain ⟨pos, e, h1, h2, h3, h4⟩ := exec_err_line _ (E.run_eq _ _ ▸ hr)
    exact ⟨pre, post, pos, e, hs, h1, h2, by omega, h4⟩

theorem line_bytes {bs k L} (h : parse bs = .error ⟨k, some L⟩) :
    ∃ pre cb after e, bs = (pre ++ b :: cb) ++ after ∧ b ∉ pre ∧
      none ∉ decodeAll cb ∧ (decodeAll after).head? = some (some e) ∧
      L = 1 + countNL (pre ++ b :: cb) ∧ ErrAt k e := by
  obtain ⟨pre, post, pos, e, hs, h1, h2, h3, h4⟩ := E.line h
  -- the bytes `cb` of the well-formed items before position `pos`
  obtain ⟨cb, restb, e1, e2, e3, e4⟩ :=
    decodeAll_split ((decodeAll post).take pos) post ((decodeAll post).drop pos) h2
      (List.take_append_drop _ _).symm
  obtain ⟨hbs, hnm⟩ := splitAtByte_some hs
  refine ⟨pre, cb, restb, e, ?_, hnm, ?_, ?_, ?_, h4⟩
  · rw [hbs, e1]; simp
  · rw [e2]; exact fun hm => h2 _ hm rfl
  · rw [e3, List.head?_drop, h1]
  · have : countNL (pre ++ b :: cb) = countNL pre + cb.count 0x0A := by
      simp only [countNL, List.count_append, List.count_cons, beq_false_of_ne E.ne_nl]; rfl
    rw [this, e4, h3]; exact Nat.add_assoc ..

theorem noline {bs k} (h : parse bs = .error ⟨k, none⟩) :
    k = .missingBracket ∨ k = .notUtf8 ∨ k = .unexpectedEnd := by
  rcases E.error h with ⟨_, h'⟩ | ⟨pre, post, hs, hr⟩
  · cases h'; exact .inl rfl
  · rcases exec_err_noline _ (E.run_eq _ _ ▸ hr) with h | h | h
    · exact .inr (.inl h)
    · exact .inr (.inr h)
    · subst h; exact absurd hr (E.run_notFuel _ _ none)

end Entry

theorem PRes.err_of_not_ok {r : PRes} (h : ∀ v rest l, r ≠ .ok v rest l) : ∃ e, r = .err e := by
  cases r with
  | ok v rest l => exact absurd rfl (h v rest l)
  | err e => exact ⟨e, rfl⟩

/-! ### deciding equations between results (test vectors), with `DecidableEq JVal` of `Lemmas/JValEq` -/

deriving instance DecidableEq for PRes
deriving instance DecidableEq for Except

end Anytype
