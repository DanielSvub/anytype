/-
Lemmas about `equalsJ` (model of `Equals`) and `specEq` (its specification).
-/
import Anytype.Lemmas.Assoc
namespace Anytype

theorem JVal.ind {P : JVal → Prop}
    (null : P .null) (bool : ∀ b, P (.bool b)) (int : ∀ i, P (.int i))
    (float : ∀ f, P (.float f)) (str : ∀ s, P (.str s))
    (list : ∀ xs, (∀ x ∈ xs, P x) → P (.list xs))
    (obj : ∀ kvs, (∀ kv ∈ kvs, P kv.2) → P (.obj kvs)) : ∀ a, P a :=
  JVal.rec (motive_1 := P) (motive_2 := fun xs => ∀ x ∈ xs, P x)
    (motive_3 := fun kvs => ∀ kv ∈ kvs, P kv.2) (motive_4 := fun kv => P kv.2)
    null bool int float str list obj
    (fun _ h => nomatch h) (fun _ _ h1 h2 => List.forall_mem_cons.2 ⟨h1, h2⟩)
    (fun _ h => nomatch h) (fun _ _ h1 h2 => List.forall_mem_cons.2 ⟨h1, h2⟩)
    (fun _ _ h => h)

namespace F64

theorem eqGo_iff {x y : F64} : eqGo x y = true ↔
    x.isNaN = false ∧ y.isNaN = false ∧ (x.isZero = true ∧ y.isZero = true ∨ x = y) := by
  obtain ⟨x⟩ := x; obtain ⟨y⟩ := y
  unfold eqGo
  cases isNaN ⟨x⟩ <;> cases isNaN ⟨y⟩ <;> simp

theorem eqGo_refl {x : F64} (h : x.isNaN = false) : eqGo x x = true :=
  eqGo_iff.2 ⟨h, h, .inr rfl⟩

end F64

theorem specEqFields_iff {kvs other : List (Str × JVal)} :
    specEqFields kvs other = true ↔
      ∀ kv ∈ kvs, ∃ w, lookup other kv.1 = some w ∧ specEq kv.2 w = true := by
  induction kvs with
  | nil => simp [specEqFields]
  | cons kv kvs ih =>
    simp only [specEqFields, Bool.and_eq_true, ih, List.forall_mem_cons]
    refine and_congr_left' ?_
    cases lookup other kv.1 <;> simp

theorem equalsFields_iff {kvs other : List (Str × JVal)} :
    equalsFields kvs other = true ↔
      ∀ kv ∈ kvs, ∃ w, lookup other kv.1 = some w ∧ equalsJ kv.2 w = true := by
  induction kvs with
  | nil => simp [equalsFields]
  | cons kv kvs ih =>
    simp only [equalsFields, Bool.and_eq_true, ih, List.forall_mem_cons]
    refine and_congr_left' ?_
    cases lookup other kv.1 <;> simp

theorem specEqList_iff {xs ys : List JVal} :
    specEqList xs ys = true ↔
      xs.length = ys.length ∧
      ∀ i (h : i < xs.length) (h' : i < ys.length), specEq xs[i] ys[i] = true := by
  induction xs generalizing ys with
  | nil => cases ys <;> simp [specEqList]
  | cons x xs ih =>
    cases ys with
    | nil => simp [specEqList]
    | cons y ys =>
      simp only [specEqList, Bool.and_eq_true, ih, List.length_cons, Nat.add_right_cancel_iff]
      constructor
      · rintro ⟨h0, hl, h⟩
        refine ⟨hl, fun i h1 h2 => ?_⟩
        cases i with
        | zero => exact h0
        | succ i => exact h i (Nat.lt_of_succ_lt_succ h1) (Nat.lt_of_succ_lt_succ h2)
      · rintro ⟨hl, h⟩
        exact ⟨h 0 (Nat.succ_pos _) (Nat.succ_pos _), hl,
          fun i h1 h2 => h (i + 1) (Nat.succ_lt_succ h1) (Nat.succ_lt_succ h2)⟩

theorem keysNodupFields_iff {kvs : List (Str × JVal)} :
    keysNodupFields kvs = true ↔ ∀ kv ∈ kvs, keysNodup kv.2 = true := by
  induction kvs with
  | nil => simp [keysNodupFields]
  | cons kv kvs ih => simp only [keysNodupFields, Bool.and_eq_true, ih, List.forall_mem_cons]

theorem keysNodupList_iff {xs : List JVal} :
    keysNodupList xs = true ↔ ∀ x ∈ xs, keysNodup x = true := by
  induction xs with
  | nil => simp [keysNodupList]
  | cons x xs ih => simp only [keysNodupList, Bool.and_eq_true, ih, List.forall_mem_cons]

theorem nanFreeFields_iff {kvs : List (Str × JVal)} :
    nanFreeFields kvs = true ↔ ∀ kv ∈ kvs, nanFree kv.2 = true := by
  induction kvs with
  | nil => simp [nanFreeFields]
  | cons kv kvs ih => simp only [nanFreeFields, Bool.and_eq_true, ih, List.forall_mem_cons]

theorem nanFreeList_iff {xs : List JVal} :
    nanFreeList xs = true ↔ ∀ x ∈ xs, nanFree x = true := by
  induction xs with
  | nil => simp [nanFreeList]
  | cons x xs ih => simp only [nanFreeList, Bool.and_eq_true, ih, List.forall_mem_cons]

theorem keysNodup_obj {kvs : List (Str × JVal)} :
    keysNodup (.obj kvs) = true ↔ (keysOf kvs).Nodup ∧ ∀ kv ∈ kvs, keysNodup kv.2 = true := by
  simp only [keysNodup, Bool.and_eq_true, decide_eq_true_eq, keysNodupFields_iff]

theorem specEq_obj_iff {kvs kvs' : List (Str × JVal)} :
    specEq (.obj kvs) (.obj kvs') = true ↔
      (∀ k ∈ keysOf kvs', k ∈ keysOf kvs) ∧
      ∀ kv ∈ kvs, ∃ w, lookup kvs' kv.1 = some w ∧ specEq kv.2 w = true := by
  simp only [specEq, Bool.and_eq_true, specEqFields_iff, List.all_eq_true, List.contains_iff_mem]

theorem keys_subset_of_lookup {kvs kvs' : List (Str × JVal)}
    (h : ∀ kv ∈ kvs, ∃ w, lookup kvs' kv.1 = some w ∧ specEq kv.2 w = true) :
    ∀ k ∈ keysOf kvs, k ∈ keysOf kvs' := by
  intro k hk
  obtain ⟨v, hv⟩ := mem_keysOf.1 hk
  obtain ⟨w, hw, _⟩ := h (k, v) hv
  exact mem_keys_of_lookup hw

/-! ### a value equal to `a` has the shape of `a` -/

/-- `null`, booleans, integers and strings are equal only to themselves -/
theorem eq_of_specEq_scalar {a b : JVal} (ha : a.isContainer = false) (hf : ∀ x, a ≠ .float x)
    (h : specEq a b = true) : b = a := by
  cases a with
  | null => cases b with
    | null => rfl
    | _ => cases h
  | bool x => cases b with
    | bool y => rw [← beq_iff_eq.1 h]
    | _ => cases h
  | int x => cases b with
    | int y => rw [← beq_iff_eq.1 h]
    | _ => cases h
  | str x => cases b with
    | str y => rw [← beq_iff_eq.1 h]
    | _ => cases h
  | float x => exact absurd rfl (hf x)
  | _ => cases ha

theorem specEq_float_left {x : F64} {b : JVal} (h : specEq (.float x) b = true) :
    ∃ y, b = .float y ∧ F64.eqGo x y = true := by
  cases b with
  | float y => exact ⟨y, rfl, h⟩
  | _ => cases h

theorem specEq_list_left {xs : List JVal} {b : JVal} (h : specEq (.list xs) b = true) :
    ∃ ys, b = .list ys ∧ specEqList xs ys = true := by
  cases b with
  | list ys => exact ⟨ys, rfl, h⟩
  | _ => cases h

theorem specEq_obj_left {kvs : List (Str × JVal)} {b : JVal} (h : specEq (.obj kvs) b = true) :
    ∃ kvs', b = .obj kvs' ∧ (∀ k ∈ keysOf kvs', k ∈ keysOf kvs) ∧
      ∀ kv ∈ kvs, ∃ w, lookup kvs' kv.1 = some w ∧ specEq kv.2 w = true := by
  cases b with
  | obj kvs' => exact ⟨kvs', rfl, specEq_obj_iff.1 h⟩
  | _ => cases h

/-! ### the container clauses of `equalsJ` against those of `specEq` (the list and object cases of `C07_spec`) -/

theorem equalsJ_list (xs ys : List JVal) :
    equalsJ (.list xs) (.list ys) = (xs.length == ys.length && equalsList xs ys) := by
  rw [equalsJ]

theorem equalsJ_obj (kvs kvs' : List (Str × JVal)) :
    equalsJ (.obj kvs) (.obj kvs') = (kvs.length == kvs'.length && equalsFields kvs kvs') := by
  rw [equalsJ]

theorem equalsList_eq_aux (xs : List JVal)
    (ih : ∀ x ∈ xs, ∀ b, keysNodup b = true → equalsJ x b = specEq x b) (ys : List JVal)
    (hb : ∀ y ∈ ys, keysNodup y = true) :
    (xs.length == ys.length && equalsList xs ys) = specEqList xs ys := by
  induction xs generalizing ys with
  | nil => cases ys <;> rfl
  | cons x xs ihx =>
    cases ys with
    | nil => rfl
    | cons y ys =>
      rw [List.forall_mem_cons] at ih hb
      simp only [equalsList, specEqList, ih.1 y hb.1, ← ihx ih.2 ys hb.2, List.length_cons,
        Nat.add_right_cancel_iff, Bool.and_left_comm, Bool.beq_eq_decide_eq]

theorem equalsFields_eq_aux (kvs : List (Str × JVal))
    (ih : ∀ kv ∈ kvs, ∀ b, keysNodup b = true → equalsJ kv.2 b = specEq kv.2 b)
    (other : List (Str × JVal)) (ho : ∀ kv ∈ other, keysNodup kv.2 = true) :
    equalsFields kvs other = specEqFields kvs other := by
  induction kvs with
  | nil => rfl
  | cons kv kvs ihk =>
    rw [List.forall_mem_cons] at ih
    simp only [equalsFields, specEqFields, ihk ih.2]
    cases hl : lookup other kv.1 with
    | none => rfl
    | some w => simp only [ih.1 w (ho _ (mem_of_lookup hl))]

theorem specEq_obj_iff_lookup {kvs kvs' : List (Str × JVal)} (hn : (keysOf kvs).Nodup) :
    specEq (.obj kvs) (.obj kvs') = true ↔
      (∀ k, k ∈ keysOf kvs ↔ k ∈ keysOf kvs') ∧
      ∀ k v w, lookup kvs k = some v → lookup kvs' k = some w → specEq v w = true := by
  rw [specEq_obj_iff]
  constructor
  · rintro ⟨h1, h2⟩
    refine ⟨fun k => ⟨keys_subset_of_lookup h2 k, h1 k⟩, fun k v w hv hw => ?_⟩
    obtain ⟨w', hw', e⟩ := h2 (k, v) (mem_of_lookup hv)
    cases hw.symm.trans hw'; exact e
  · rintro ⟨hk, h⟩
    refine ⟨fun k => (hk k).2, fun kv hkv => ?_⟩
    obtain ⟨w, hw⟩ := exists_lookup_of_mem_keys ((hk kv.1).1 (mem_keysOf_of_mem hkv))
    exact ⟨w, hw, h kv.1 kv.2 w (lookup_of_mem hn hkv) hw⟩

end Anytype
