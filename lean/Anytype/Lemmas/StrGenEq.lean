/-
The definitions that `vextract` (strgen.go) translates from the Go source of `unquoteJSON` (with its
closure `hex4`), `quoteJSON` and `ParseFile` (`Anytype/Generated/StrGen.lean`, regenerated on every
run) are equal to the hand-written model (`Model/Strconv.lean`, `Model/Parser.lean`) for all
arguments.

The scripts are generic in the generated side: the case analysis follows the MODEL (`fun_induction`
/ `fun_cases` on the hand-written function, which never changes); the generated definition is
unfolded once and evaluated along the path with the path's own hypotheses, and only where that does
not settle a leaf are the remaining tests split and the leaves compared (`simp_all`, `omega`).
Nothing mentions the shape of the generated decision trees, so the proofs survive regeneration and
shape-preserving edits of the Go source, and fail when the translated behaviour differs from the model.
-/
import Anytype.Generated.StrGen
namespace Anytype.SG

open Anytype Anytype.Generated.SG

/-! ### arithmetic bridges between the Go operators and the model's arithmetic -/

theorem char_le_iff (a b : Char) : a ≤ b ↔ a.toNat ≤ b.toNat := by
  rw [Char.le_def, UInt32.le_iff_toNat_le]; rfl

/-- `r<<4 | d` is `r*16 + d` for a hexadecimal digit -/
theorem shl4_or (r d : Nat) (h : d < 16) : r <<< 4 ||| d = r * 16 + d := by
  rw [← Nat.shiftLeft_add_eq_or_of_lt (i := 4) (by simpa using h), Nat.shiftLeft_eq]

theorem shl4_or' (r d : Nat) (h : d < 16) : d ||| r <<< 4 = r * 16 + d := by
  rw [Nat.or_comm, shl4_or r d h]

theorem shl10_or' (a b : Nat) (h : b < 1024) : b ||| a <<< 10 = a * 1024 + b := by
  rw [Nat.or_comm]
  rw [← Nat.shiftLeft_add_eq_or_of_lt (i := 10) (by simpa using h), Nat.shiftLeft_eq]

/-- `hi<<10 | lo` is `hi*1024 + lo` for a ten-bit `lo` -/
theorem shl10_or (a b : Nat) (h : b < 1024) : a <<< 10 ||| b = a * 1024 + b := by
  rw [← Nat.shiftLeft_add_eq_or_of_lt (i := 10) (by simpa using h), Nat.shiftLeft_eq]

theorem shr4 (n : Nat) : n >>> 4 = n / 16 := by simp [Nat.shiftRight_eq_div_pow]
theorem and15 (n : Nat) : n &&& 0xf = n % 16 := Nat.and_two_pow_sub_one_eq_mod n 4

/-- the constant `hex` of `quoteJSON`, indexed below its length -/
theorem hexTable (n : Nat) (h : n < 16) :
    ['0', '1', '2', '3', '4', '5', '6', '7', '8', '9', 'a', 'b', 'c', 'd', 'e', 'f'].getD n '\x00'
      = hexDigit n := by
  revert n; decide

theorem charOfNat_fffd : charOfNat 0xFFFD = replacementChar := by decide

/-! ### `hex4` (the closure of `unquoteJSON`) -/

-- (the lemmas for flipped comparisons / a commuted `|` are unused for the present source)
set_option linter.unusedSimpArgs false in
/-- one iteration of the loop of `hex4` is one `hexCharVal` of the model -/
theorem hex4_step (n : Nat) (c : Char) (t : Str) (r : Nat) :
    unquoteJSON_hex4_loop1Gen (n + 1) (c :: t) r =
      match hexCharVal c with
      | some d => unquoteJSON_hex4_loop1Gen n t (r * 16 + d)
      | none => none := by
  rw [unquoteJSON_hex4_loop1Gen]
  fun_cases hexCharVal c
  all_goals simp only [char_le_iff, ge_iff_le, Char.reduceToNat] at *
  all_goals repeat' split
  all_goals first
    | rfl
    | (exfalso; omega)
    | (congr 1; (simp (disch := omega) only [shl4_or, shl4_or']) <;> omega)

/-- the model's `hex4` returns the value the closure computes and the suffix behind four characters
(the Go caller advances the index by 6 = backslash, `u`, four digits) -/
theorem hex4_spec (s : Str) :
    hex4 s = (unquoteJSON_hex4Gen s).map (fun r => (r, s.drop 4)) := by
  unfold unquoteJSON_hex4Gen hex4
  match s with
  | a :: b :: c :: d :: rest =>
    simp only [hex4_step]
    cases hexCharVal a <;> cases hexCharVal b <;> cases hexCharVal c <;> cases hexCharVal d <;>
      simp +arith [unquoteJSON_hex4_loop1Gen]
  | [] | [_] | [_, _] | [_, _, _] => simp

theorem hex4_some (s : Str) (r : Nat) (rest : Str) :
    hex4 s = some (r, rest) ↔ unquoteJSON_hex4Gen s = some r ∧ s.drop 4 = rest := by
  rw [hex4_spec]; cases unquoteJSON_hex4Gen s <;> simp

theorem hex4_none (s : Str) : hex4 s = none ↔ unquoteJSON_hex4Gen s = none := by
  rw [hex4_spec]; cases unquoteJSON_hex4Gen s <;> simp

/-- the closure alone, against the model: the value (`hex4_spec` has the consumed length too) -/
theorem unquoteJSON_hex4Gen_eq (s : Str) :
    unquoteJSON_hex4Gen s = (hex4 s).map Prod.fst := by
  rw [hex4_spec]; cases unquoteJSON_hex4Gen s <;> simp

/-! ### `unquoteJSON` -/

/- Each case of the induction is one path through the model with its tests as hypotheses: rewriting with them
evaluates the generated loop along the same path. In the two surrogate cases the model's `pair` is flattened first
(model side only); what is then still open is a path on which the generated code looks at the two characters
behind the first escape one by one, where the model matches them at once. -/
theorem unquoteJSON_loop1Gen_eq (fuel : Nat) (s acc : Str) :
    unquoteJSON_loop1Gen fuel s acc = unquoteAux fuel s acc := by
  fun_induction unquoteAux fuel s acc
  case case12 pair _ _ hp ih | case13 pair hp ih =>
    simp only [pair] at hp
    repeat' split at hp
    all_goals simp_all only [hex4_some, hex4_none, reduceCtorEq, Option.some.injEq, Prod.mk.injEq]
    all_goals simp (disch := omega) only [unquoteJSON_loop1Gen, *, ↓reduceIte, Bool.false_eq_true,
      beq_self_eq_true, shl10_or, charOfNat_fffd, and_self]
    all_goals (repeat' split) <;> simp_all
  all_goals (try simp only [hex4_some, hex4_none] at *)
  all_goals simp only [unquoteJSON_loop1Gen, *, ↓reduceIte, Bool.false_eq_true]

theorem unquoteJSONGen_eq (s : Str) : unquoteJSONGen s = unquoteJSON s := by
  simp only [unquoteJSONGen, unquoteJSON, unquoteJSON_loop1Gen_eq]

/-! ### `quoteJSON`

The model is `'"' :: s.flatMap escChar ++ ['"']`; the generated loop carries the text written so far.
(The Go loop runs over bytes, the model over characters: rule S2 of strgen.go.) -/

/-- one iteration appends the model's escape of the character: the two tables are walked in lockstep as long as they
test the same condition (`ite_congr`), and are split where they part -/
theorem quoteJSON_loop1Gen_cons (c : Char) (t acc : Str) :
    quoteJSON_loop1Gen (c :: t) acc = quoteJSON_loop1Gen t (acc ++ escChar c) := by
  rw [quoteJSON_loop1Gen, escChar]
  simp only [apply_ite (fun e => quoteJSON_loop1Gen t (acc ++ e)), shr4, and15]
  repeat' first | refine ite_congr rfl (fun _ => ?_) (fun _ => ?_) | rfl | split
  all_goals first | omega | (simp (disch := omega) only [hexTable]; done) | simp_all

theorem quoteJSON_loop1Gen_eq (s : Str) :
    ∀ acc, quoteJSON_loop1Gen s acc = acc ++ quoteBody s ++ ['"'] := by
  induction s with
  | nil => intro acc; simp [quoteJSON_loop1Gen, quoteBody]
  | cons c t ih => intro acc; simp [quoteJSON_loop1Gen_cons, ih, quoteBody]

theorem quoteJSONGen_eq (s : Str) : quoteJSONGen s = quoteJSON s := by
  simp [quoteJSONGen, quoteJSON, quoteJSON_loop1Gen_eq]

/-! ### `ParseFile` -/

theorem parseFileGen_eq (fs : String → Option (List UInt8)) (path : String) :
    parseFileGen fs path = parseFile fs path := by
  unfold parseFileGen parseFile
  first
    | rfl
    | (repeat' split) <;> first | rfl | (simp_all; done)

end Anytype.SG

#print axioms Anytype.SG.unquoteJSON_hex4Gen_eq
#print axioms Anytype.SG.unquoteJSON_loop1Gen_eq
#print axioms Anytype.SG.unquoteJSONGen_eq
#print axioms Anytype.SG.quoteJSON_loop1Gen_eq
#print axioms Anytype.SG.quoteJSONGen_eq
#print axioms Anytype.SG.parseFileGen_eq
