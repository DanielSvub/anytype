/-
`decodeAll` of a byte prefix versus `decodeAll` of the whole byte string: the complete characters
of the prefix are a prefix of the items of the whole, and if the cut falls in the middle of a
multi-byte character the next item of the prefix is ill-formed (`none`).
-/
import Anytype.Model.Strconv
namespace Anytype

theorem decodeAll_nil : decodeAll [] = [] := by simp only [decodeAll]

theorem decodeAll_cons (b0 : UInt8) (r0 : List UInt8) :
    decodeAll (b0 :: r0) = (decodeOne b0 r0).1 :: decodeAll (r0.drop (decodeOne b0 r0).2) := by
  rw [decodeAll]

theorem decodeAll_ne_nil {b : List UInt8} (hb : b ≠ []) : decodeAll b ≠ [] := by
  match b, hb with
  | b0 :: r0, _ => rw [decodeAll_cons]; exact List.cons_ne_nil _ _

theorem toNat_ofNat_of_valid {n : Nat} (h : n.isValidChar) : (Char.ofNat n).toNat = n := by
  simp [Char.ofNat, h, Char.ofNatAux, Char.toNat]

theorem mkChar_some {n : Nat} {x : Char} (h : mkChar n = some x) : x.toNat = n := by
  unfold mkChar at h
  split at h
  · injection h with h; subst h; exact toNat_ofNat_of_valid ‹_›
  · cases h

theorem nl_iff_toNat (x : Char) : x = '\n' ↔ x.toNat = 10 := by
  constructor
  · intro h; subst h; rfl
  · intro h; rw [← Char.ofNat_toNat x, h]

theorem isCont_iff (b : UInt8) : isCont b = true ↔ 0x80 ≤ b.toNat ∧ b.toNat ≤ 0xBF := by
  simp only [isCont, Bool.and_eq_true, decide_eq_true_eq, UInt8.le_iff_toNat_le]; rfl

/-- turns the byte tests of `decodeOne` that are in the context into inequalities between naturals -/
local macro "bytes_to_nat" : tactic =>
  `(tactic| simp only [isCont_iff, Bool.and_eq_true, decide_eq_true_eq, UInt8.le_iff_toNat_le, UInt8.lt_iff_toNat_lt,
      ← UInt8.toNat_inj, List.take_succ_cons, List.take_zero, List.mem_cons, List.not_mem_nil, or_false,
      UInt8.reduceToNat, beq_iff_eq] at *)

/-- The case analysis of `decodeOne` (by lead-byte class, then by how many bytes follow): either the byte is
ill-formed, or the result is determined by the `w` bytes it occupies — whatever comes behind them —, and a
well-formed character is a newline iff its first byte is 0x0A, while its other bytes never are. -/
theorem decodeOne_spec {b0 : UInt8} {r0 : List UInt8} {it : Item} {w : Nat}
    (h : decodeOne b0 r0 = (it, w)) :
    (none, 0) = (it, w) ∨
    (w ≤ r0.length ∧ (∀ t, decodeOne b0 (r0.take w ++ t) = (it, w)) ∧
      ∀ x, it = some x → (x = '\n' ↔ b0 = 0x0A) ∧ (0x0A : UInt8) ∉ r0.take w) := by
  simp only [nl_iff_toNat, ← UInt8.toNat_inj]
  -- in every class: too few bytes behind `b0`, or a failed test, leave `h : (none, 0) = (it, w)`
  by_cases h1 : b0 < 0x80
  · simp only [decodeOne, h1, ↓reduceIte] at h
    obtain ⟨hx, rfl⟩ := Prod.mk.inj h
    refine .inr ⟨Nat.zero_le _, fun t => ?_, fun x e => ⟨by rw [mkChar_some (hx.trans e)]; rfl, List.not_mem_nil⟩⟩
    simp only [decodeOne, h1, ↓reduceIte, hx]
  by_cases h2 : (0xC2 ≤ b0 && b0 ≤ 0xDF) = true
  · rcases r0 with _ | ⟨b1, r⟩ <;> simp only [decodeOne, h1, h2, ↓reduceIte] at h
    · exact .inl h
    by_cases c : isCont b1 = true <;> simp only [c, ↓reduceIte, Bool.false_eq_true] at h
    · obtain ⟨hx, rfl⟩ := Prod.mk.inj h
      refine .inr ⟨by simp, fun t => by simp only [decodeOne, h1, h2, c, ↓reduceIte, hx, List.take_succ_cons,
        List.take_zero, List.cons_append], fun x e => ?_⟩
      have hx' := mkChar_some (hx.trans e)
      bytes_to_nat; omega
    · exact .inl h
  by_cases h3 : (0xE0 ≤ b0 && b0 ≤ 0xEF) = true
  · rcases r0 with _ | ⟨b1, _ | ⟨b2, r⟩⟩ <;>
      simp only [decodeOne, h1, h2, h3, ↓reduceIte, Bool.false_eq_true] at h
    iterate 2 exact .inl h
    generalize hc : (_ && isCont b2) = c at h
    cases c <;> simp only [↓reduceIte, Bool.false_eq_true] at h
    · exact .inl h
    obtain ⟨hx, rfl⟩ := Prod.mk.inj h
    refine .inr ⟨by simp, fun t => by simp only [decodeOne, h1, h2, h3, hc, ↓reduceIte, hx, List.take_succ_cons,
      List.take_zero, List.cons_append, Bool.false_eq_true], fun x e => ?_⟩
    have hx' := mkChar_some (hx.trans e)
    bytes_to_nat
    split at hc <;> split at hc <;> simp only [UInt8.reduceToNat] at hc <;> omega
  by_cases h4 : (0xF0 ≤ b0 && b0 ≤ 0xF4) = true
  · rcases r0 with _ | ⟨b1, _ | ⟨b2, _ | ⟨b3, r⟩⟩⟩ <;>
      simp only [decodeOne, h1, h2, h3, h4, ↓reduceIte, Bool.false_eq_true] at h
    iterate 3 exact .inl h
    generalize hc : (_ && isCont b3) = c at h
    cases c <;> simp only [↓reduceIte, Bool.false_eq_true] at h
    · exact .inl h
    obtain ⟨hx, rfl⟩ := Prod.mk.inj h
    refine .inr ⟨by simp, fun t => by simp only [decodeOne, h1, h2, h3, h4, hc, ↓reduceIte, hx, List.take_succ_cons,
      List.take_zero, List.cons_append, Bool.false_eq_true], fun x e => ?_⟩
    have hx' := mkChar_some (hx.trans e)
    bytes_to_nat
    split at hc <;> split at hc <;> simp only [UInt8.reduceToNat] at hc <;> omega
  · simp only [decodeOne, h1, h2, h3, h4, ↓reduceIte, Bool.false_eq_true] at h
    exact .inl h

/-- extending the lookahead does not change a decoded character, unless the shorter lookahead
made it ill-formed -/
theorem decodeOne_append (b0 : UInt8) (r0 b : List UInt8) :
    (decodeOne b0 (r0 ++ b) = decodeOne b0 r0 ∧ (decodeOne b0 r0).2 ≤ r0.length) ∨
      decodeOne b0 r0 = (none, 0) := by
  cases hd : decodeOne b0 r0 with | mk it w
  rcases decodeOne_spec hd with e | ⟨hw, hloc, -⟩
  · exact .inr e.symm
  · refine .inl ⟨?_, hw⟩
    rw [← hloc (r0.drop w ++ b), ← List.append_assoc, List.take_append_drop]

/-- `decodeAll` of a proper byte prefix `a` of `a ++ b`: complete characters `p'` shared with the
whole, after which the whole goes on (`q ≠ []`) while the prefix either ends or shows an
ill-formed item (the cut fell inside a multi-byte character) -/
theorem decodeAll_append : ∀ (n : Nat) (a b : List UInt8), a.length ≤ n → b ≠ [] →
    ∃ p' tail q, decodeAll a = p' ++ tail ∧ decodeAll (a ++ b) = p' ++ q ∧ q ≠ [] ∧
      (tail = [] ∨ tail.head? = some none) := by
  intro n
  induction n with
  | zero =>
    intro a b ha hb
    have : a = [] := List.length_eq_zero_iff.1 (by omega)
    subst this
    exact ⟨[], [], decodeAll b, by simp [decodeAll_nil], by simp, decodeAll_ne_nil hb, .inl rfl⟩
  | succ n ih =>
    intro a b ha hb
    match a with
    | [] => exact ⟨[], [], decodeAll b, by simp [decodeAll_nil], by simp, decodeAll_ne_nil hb, .inl rfl⟩
    | b0 :: r0 =>
      rcases decodeOne_append b0 r0 b with ⟨h1, h2⟩ | h
      · simp only [List.length_cons] at ha
        have hdrop : (r0 ++ b).drop (decodeOne b0 r0).2 = r0.drop (decodeOne b0 r0).2 ++ b := by
          rw [List.drop_append_of_le_length h2]
        obtain ⟨p', tail, q, e1, e2, hq, ht⟩ :=
          ih (r0.drop (decodeOne b0 r0).2) b (by simp only [List.length_drop]; omega) hb
        refine ⟨(decodeOne b0 r0).1 :: p', tail, q, ?_, ?_, hq, ht⟩
        · rw [decodeAll_cons, e1, List.cons_append]
        · rw [List.cons_append, decodeAll_cons, h1, hdrop, e2, List.cons_append]
      · refine ⟨[], decodeAll (b0 :: r0), decodeAll (b0 :: r0 ++ b), by simp, by simp,
          decodeAll_ne_nil (by simp), .inr ?_⟩
        rw [decodeAll_cons, h]; rfl

/-- a well-formed item prefix `c` of `decodeAll post` is the decoding of a byte prefix `cb` of
`post` that ends at a character boundary, and has as many newline characters as `cb` has 0x0A
bytes -/
theorem decodeAll_split : ∀ (c : List Item) (post : List UInt8) (rest : List Item),
    (∀ it ∈ c, it ≠ none) → decodeAll post = c ++ rest →
    ∃ cb restb, post = cb ++ restb ∧ decodeAll cb = c ∧ decodeAll restb = rest ∧
      cb.count 0x0A = c.count (some '\n') := by
  intro c
  induction c with
  | nil => intro post rest _ h; exact ⟨[], post, rfl, decodeAll_nil, h, rfl⟩
  | cons it c' ih =>
    intro post rest hc h
    match post with
    | [] => rw [decodeAll_nil] at h; cases h
    | b0 :: r0 =>
      rw [decodeAll_cons, List.cons_append] at h
      injection h with h1 h2
      obtain ⟨x, rfl⟩ : ∃ x, it = some x := by
        cases it with
        | none => exact absurd rfl (hc none List.mem_cons_self)
        | some x => exact ⟨x, rfl⟩
      have hd : decodeOne b0 r0 = (some x, (decodeOne b0 r0).2) := by rw [← h1]
      generalize (decodeOne b0 r0).2 = w at hd h2
      obtain ⟨cb', restb, e1, e2, e3, e4⟩ :=
        ih (r0.drop w) rest (fun it hit => hc it (List.mem_cons_of_mem _ hit)) h2
      obtain ⟨hw, hloc, hnl⟩ := (decodeOne_spec hd).resolve_left (by simp)
      have hlen : (r0.take w).length = w := by rw [List.length_take]; omega
      have hloc := hloc cb'
      obtain ⟨hnl, hnm⟩ := hnl x rfl
      refine ⟨b0 :: (r0.take w ++ cb'), restb, ?_, ?_, e3, ?_⟩
      · rw [List.cons_append, List.append_assoc, ← e1, List.take_append_drop]
      · rw [decodeAll_cons, hloc]
        show some x :: decodeAll ((r0.take w ++ cb').drop w) = some x :: c'
        rw [List.drop_left' hlen, e2]
      · rw [List.count_cons, List.count_cons, List.count_append, List.count_eq_zero.2 hnm, e4]
        by_cases hx : x = '\n'
        · have hb := hnl.1 hx
          subst hx hb
          simp
        · have hb : ¬ b0 = 0x0A := fun hb => hx (hnl.2 hb)
          simp [hx, hb]

end Anytype
