/-
The deriving operations (those documented as producing a new container) as one alphabet `DOp`:
every one of them leaves all existing cells untouched and returns a cell that did not exist.
-/
import Anytype.Lemmas.Mutators
namespace Anytype
open Heap
namespace Rf

/-! ### the loops only touch the result cell -/

theorem lmapLoop_ext (res : Nat) (f : Int → Val → GoVal) (h : Heap) (xs : List Val) (i : Int) :
    Ext h (L.mapLoop res f h xs i).1 res := by
  induction xs generalizing h i with
  | nil => exact Ext.refl _ _
  | cons x xs ih =>
    have e := addEach_ext h res [f i (h.getVal x)]
    rw [L.mapLoop]
    generalize addEach h res [f i (h.getVal x)] = p at e ⊢
    obtain ⟨h1, _ | k⟩ := p
    · exact e.trans (ih h1 (i + 1))
    · exact e

theorem lmapKLoop_ext (res : Nat) (k : Kind) (f : Val → GoVal) (h : Heap) (xs : List Val) :
    Ext h (L.mapKLoop res k f h xs).1 res := by
  induction xs generalizing h with
  | nil => exact Ext.refl _ _
  | cons x xs ih =>
    rw [L.mapKLoop]
    rcases L.sel h (L.viaGetValL k) k x with _ | v <;> dsimp only
    · exact ih h
    · have e := addEach_ext h res [f v]
      generalize addEach h res [f v] = p at e ⊢
      obtain ⟨h1, _ | k⟩ := p
      · exact e.trans (ih h1)
      · exact e

theorem pluckLoop_ext (a res : Nat) (h : Heap) (ks : List Str) :
    Ext h (O.pluckLoop h a res ks).1 res := by
  induction ks generalizing h with
  | nil => exact Ext.refl _ _
  | cons k ks ih =>
    rw [O.pluckLoop]
    cases O.get h a k with
    | panic _ => exact Ext.refl _ _
    | ok v => exact (Ext.setFields h res _).trans (ih _)

theorem omapLoop_ext (res : Nat) (f : Str → Val → GoVal) (h : Heap) (kvs : List (Str × Val)) :
    Ext h (O.mapLoop res f h kvs).1 res := by
  induction kvs generalizing h with
  | nil => exact Ext.refl _ _
  | cons kv kvs ih =>
    rw [O.mapLoop]
    rcases hp : parseVal h (f kv.1 (h.getVal kv.2)) with ⟨h1, v | p⟩
    · exact ((ext0_of_parseVal hp).toExt res).trans ((Ext.setFields h1 res _).trans (ih _))
    · exact (ext0_of_parseVal hp).toExt res

theorem omapKLoop_ext (res : Nat) (kd : Kind) (f : Val → GoVal) (h : Heap)
    (kvs : List (Str × Val)) : Ext h (O.mapKLoop res kd f h kvs).1 res := by
  induction kvs generalizing h with
  | nil => exact Ext.refl _ _
  | cons kv kvs ih =>
    rw [O.mapKLoop]
    rcases L.sel h (L.viaGetValL kd) kd kv.2 with _ | y <;> dsimp only
    · exact ih h
    · rcases hp : parseVal h (f y) with ⟨h1, v | p⟩
      · exact ((ext0_of_parseVal hp).toExt res).trans ((Ext.setFields h1 res _).trans (ih _))
      · exact (ext0_of_parseVal hp).toExt res

/-- one deriving call: receiver address, arguments, callbacks (any functions) -/
inductive DOp
  | concat (a : Nat) (another : Ref)
  | subList (a : Nat) (s e : Int)
  | filter (a : Nat) (p : Val → Bool)
  | filterK (a : Nat) (k : Kind) (p : Val → Bool)
  | map (a : Nat) (f : Int → Val → GoVal)
  | mapValues (a : Nat) (f : Val → GoVal)
  | mapK (a : Nat) (k : Kind) (f : Val → GoVal)
  | keys (a : Nat)
  | values (a : Nat)
  | pluck (a : Nat) (ks : List Str)
  | omap (a : Nat) (f : Str → Val → GoVal)
  | omapValues (a : Nat) (f : Val → GoVal)
  | omapK (a : Nat) (kd : Kind) (f : Val → GoVal)
  | merge (a another : Nat)
  | clone (v : Val)

/-- the reference a call returned; `none` for a panic -/
def outRef : Heap × Out Ref → Heap × Option Ref
  | (h, .ok r) => (h, some r)
  | (h, .panic _) => (h, none)

/-- the reference a container value is; `none` on a scalar -/
def valRef : Val → Option Ref
  | .list r => some r
  | .obj r => some r
  | _ => none

/-- the heap after the call (at the panic point if it panics) and the reference of the result
container (`none`: panic / failure / a scalar clone) -/
def derive (h : Heap) : DOp → Heap × Option Ref
  | .concat a another => outRef (L.concat h a another)
  | .subList a s e => outRef (L.subList h a s e)
  | .filter a p => ((L.filter h a p).1, some (L.filter h a p).2)
  | .filterK a k p => ((L.filterK h a k p).1, some (L.filterK h a k p).2)
  | .map a f => outRef (L.map h a f)
  | .mapValues a f => outRef (L.mapValues h a f)
  | .mapK a k f => outRef (L.mapK h a k f)
  | .keys a => ((O.keys h a).1, some (O.keys h a).2)
  | .values a => ((O.values h a).1, some (O.values h a).2)
  | .pluck a ks => outRef (O.pluck h a ks)
  | .omap a f => outRef (O.map h a f)
  | .omapValues a f => outRef (O.mapValues h a f)
  | .omapK a kd f => outRef (O.mapK h a kd f)
  | .merge a another =>
    match O.merge h a another with
    | some (h1, r) => (h1, some r)
    | none => (h, none)
  | .clone v =>
    match O.clone h v with
    | some (h1, c) => (h1, valRef c)
    | none => (h, none)

/-- `h1` has every cell of `h` unchanged, and `r` is a cell of `h1` that `h` did not have -/
structure Derived (h h1 : Heap) (r : Option Ref) : Prop where
  ext0 : Ext0 h h1
  fresh : ∀ q, r = some q → h.length ≤ q.addr ∧ q.addr < h1.length

theorem Derived.of_loop_ok {h hh : Heap} {c : Cell} (e : Ext (h ++ [c]) hh h.length) :
    Derived h hh (some ⟨h.length, 0⟩) :=
  ⟨(Ext0.append h c).trans_ext e (Nat.le_refl _), fun q hq => by
    cases hq; exact ⟨Nat.le_refl _, by have := e.len; rw [List.length_append] at this; exact this⟩⟩

theorem Derived.of_loop_panic {h hh : Heap} {c : Cell} (e : Ext (h ++ [c]) hh h.length) :
    Derived h hh none :=
  ⟨(Ext0.append h c).trans_ext e (Nat.le_refl _), fun q hq => by cases hq⟩

theorem Derived.append (h : Heap) (c : Cell) : Derived h (h ++ [c]) (some ⟨h.length, 0⟩) :=
  ⟨Ext0.append h c, fun q hq => by cases hq; simp⟩

theorem Derived.none_refl (h : Heap) : Derived h h none := ⟨Ext0.refl h, fun q hq => by cases hq⟩

theorem Derived.of_clone {h h1 : Heap} {v c : Val} (hc : O.clone h v = some (h1, c)) :
    Derived h h1 (valRef c) := by
  obtain ⟨t, _, ⟨extra, he⟩, _, d, _⟩ := clone_spec hc
  refine ⟨he ▸ ext0_of_append h extra, fun q hq => ?_⟩
  refine d.reach h1 (AgreeOn.refl _ _ _) 1 q.addr (mem_reach_succ.2 (Or.inl ?_))
  cases c <;> cases hq <;> rfl

/-! `Map`, `MapX`, `Pluck` on lists and objects: a loop fills the cell allocated for the result,
whose address is returned unless the loop panics -/

theorem derive_lmap (h : Heap) (a : Nat) (f : Int → Val → GoVal) :
    Derived h (outRef (L.map h a f)).1 (outRef (L.map h a f)).2 := by
  have e := lmapLoop_ext h.length f (h ++ [.list [] 0]) (h.items a) 0
  simp only [L.map]
  generalize L.mapLoop h.length f (h ++ [.list [] 0]) (h.items a) 0 = p at e ⊢
  obtain ⟨hh, _ | k⟩ := p
  · exact Derived.of_loop_ok e
  · exact Derived.of_loop_panic e

theorem derive_lmapK (h : Heap) (a : Nat) (k : Kind) (f : Val → GoVal) :
    Derived h (outRef (L.mapK h a k f)).1 (outRef (L.mapK h a k f)).2 := by
  have e := lmapKLoop_ext h.length k f (h ++ [.list [] 0]) (h.items a)
  simp only [L.mapK]
  generalize L.mapKLoop h.length k f (h ++ [.list [] 0]) (h.items a) = p at e ⊢
  obtain ⟨hh, _ | k⟩ := p
  · exact Derived.of_loop_ok e
  · exact Derived.of_loop_panic e

theorem derive_pluck (h : Heap) (a : Nat) (ks : List Str) :
    Derived h (outRef (O.pluck h a ks)).1 (outRef (O.pluck h a ks)).2 := by
  have e := pluckLoop_ext a h.length (h ++ [.obj [] 0]) ks
  simp only [O.pluck]
  generalize O.pluckLoop (h ++ [.obj [] 0]) a h.length ks = p at e ⊢
  obtain ⟨hh, _ | k⟩ := p
  · exact Derived.of_loop_ok e
  · exact Derived.of_loop_panic e

theorem derive_omap (h : Heap) (a : Nat) (f : Str → Val → GoVal) :
    Derived h (outRef (O.map h a f)).1 (outRef (O.map h a f)).2 := by
  have e := omapLoop_ext h.length f (h ++ [.obj [] 0]) (h.fields a)
  simp only [O.map]
  generalize O.mapLoop h.length f (h ++ [.obj [] 0]) (h.fields a) = p at e ⊢
  obtain ⟨hh, _ | k⟩ := p
  · exact Derived.of_loop_ok e
  · exact Derived.of_loop_panic e

theorem derive_omapK (h : Heap) (a : Nat) (kd : Kind) (f : Val → GoVal) :
    Derived h (outRef (O.mapK h a kd f)).1 (outRef (O.mapK h a kd f)).2 := by
  have e := omapKLoop_ext h.length kd f (h ++ [.obj [] 0]) (h.fields a)
  simp only [O.mapK]
  generalize O.mapKLoop h.length kd f (h ++ [.obj [] 0]) (h.fields a) = p at e ⊢
  obtain ⟨hh, _ | k⟩ := p
  · exact Derived.of_loop_ok e
  · exact Derived.of_loop_panic e

theorem derive_spec (h : Heap) (op : DOp) : Derived h (derive h op).1 (derive h op).2 := by
  -- a call that panics before touching the heap, or goes on
  have guard := @of_ite _ fun q : Heap × Out Ref => Derived h (outRef q).1 (outRef q).2
  cases op with
  | concat a r => exact guard (fun _ => Derived.none_refl h) fun _ => Derived.append h _
  | subList a s e =>
    exact guard (fun _ => Derived.none_refl h) fun _ => guard (fun _ => Derived.none_refl h) fun _ =>
      guard (fun _ => Derived.none_refl h) fun _ => Derived.append h _
  | filter a p => exact Derived.append h _
  | filterK a k p => exact Derived.append h _
  | map a f => exact derive_lmap h a f
  | mapValues a f => exact derive_lmap h a _
  | mapK a k f => exact derive_lmapK h a k f
  | keys a => exact Derived.append h _
  | values a => exact Derived.append h _
  | pluck a ks => exact derive_pluck h a ks
  | omap a f => exact derive_omap h a f
  | omapValues a f => exact derive_omap h a _
  | omapK a kd f => exact derive_omapK h a kd f
  | merge a another =>
    simp only [derive, O.merge]
    rcases hc : O.clone h (.obj ⟨a, 0⟩) with _ | ⟨h1, c⟩
    · exact Derived.none_refl h
    · cases c with
      | obj r =>
        have d := Derived.of_clone hc
        exact ⟨d.ext0.trans_ext (Ext.setFields h1 r.addr _) (d.fresh r rfl).1,
          fun q hq => by cases hq; rw [length_setFields]; exact d.fresh r rfl⟩
      | _ => exact Derived.none_refl h
  | clone v =>
    simp only [derive]
    rcases hc : O.clone h v with _ | ⟨h1, c⟩
    · exact Derived.none_refl h
    · exact Derived.of_clone hc

end Rf
end Anytype
