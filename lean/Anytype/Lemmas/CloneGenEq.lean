/-
`copy()` / `isEqual()` of the seven field types, `Clone`, `Equals` (anytype.go, list_impl.go,
object_impl.go): the definitions `vextract` translates from the Go source
(`Anytype/Generated/CloneGen.lean`, regenerated on every run) against the hand-written model.

The model does not walk the heap (`O.clone h v = (reifyF h v).map (build h)`, `Equals` is `equalsJ`
of the two reified trees); the Go code does, and it allocates a container *before* its children where
`build` allocates it after them.  So the statement is a refinement, not an equality: on a heap where
the value reifies to `t` (object keys distinct, ints in the Go `int` range) the walk succeeds without
a panic, only appends cells, and returns a value that denotes `t` through the new cells alone — what
`Rf.clone_spec` proves of `O.clone`; and `isEqual` returns `equalsJ` of the two trees, whatever the
embedding levels of the references (`another.(List)` holds for a derived type, `base()` yields the cell).

The generated container methods are proved equal, by generic scripts that survive regeneration and
harmless edits and fail when the translated behaviour changes, to a hand-written walk of one container
level (`CloneRef`) that takes the dispatcher it calls on the elements as a parameter.  The refinement
is proved of that walk for any dispatcher that refines one level down (`CopyOK`, `EqOK`); one
induction on the fuel then gives it for the generated dispatchers, and `Clone` / `Equals` follow.
-/
import Anytype.Generated.CloneGen
import Anytype.Lemmas.Acyclic
import Anytype.Lemmas.Assoc
namespace Anytype
open Heap

/-! ## the reference walk -/
namespace CloneRef

/-- `copy()` of the five scalar field types -/
def scalarCopy : Val → GoVal
  | .bool b => .bool b
  | .int i => .intw .int i
  | .float f => .f64 f
  | .str s => .str s
  | _ => .nil

/-- `isEqual(another)` of the five scalar field types: the same dynamic type and an equal payload;
`another` is `none` for a nil interface (`obj.val[k]` of a missing key) -/
def scalarIsEqual : Val → Option Val → Bool
  | .nil, some .nil => true
  | .bool a, some (.bool b) => a == b
  | .int a, some (.int b) => a == b
  | .float a, some (.float b) => F64.eqGo a b
  | .str a, some (.str b) => a == b
  | _, _ => false

/-- the loop of `(*list).copy`; `copy` is `value.copy()` on a stored field -/
def listCopyLoopRef (copy : Heap → Val → Option (Heap × Out GoVal)) :
    Heap → Nat → List Val → Nat → Option (Heap × Out Unit)
  | h, _, [], _ => some (h, .ok ())
  | h, list, value :: rest, i =>
    match copy h value with
    | none => none
    | some (h1, .panic k) => some (h1, .panic k)
    | some (h1, .ok g) =>
      match parseVal h1 g with
      | (h2, .panic k) => some (h2, .panic k)
      | (h2, .ok v) =>
        if i < (h2.items list).length then
          listCopyLoopRef copy (h2.setItems list ((h2.items list).set i v)) list rest (i + 1)
        else some (h2, .panic .runtime)

/-- `(*list).copy`: the new cell first (`make([]field, Count())`), then the children in order -/
def listCopyRef (copy : Heap → Val → Option (Heap × Out GoVal)) (h : Heap) (a : Nat) :
    Option (Heap × Out GoVal) :=
  if (L.count h a) < 0 then some (h, .panic .runtime)
  else
    let list := h.length
    let h1 := h ++ [Cell.list (List.replicate (L.count h a).toNat Val.nil) 0]
    match listCopyLoopRef copy h1 list (h1.items a) 0 with
    | none => none
    | some (h2, .panic k) => some (h2, .panic k)
    | some (h2, .ok _) => some (h2, .ok (.list ⟨list, 0⟩))

/-- the loop of `(*object).copy`: `obj.Set(key, value.copy())` per field, the `Set` of one pair
written out (`set_one_unfold`) -/
def objectCopyLoopRef (copy : Heap → Val → Option (Heap × Out GoVal)) :
    Heap → Nat → List (Str × Val) → Option (Heap × Out Unit)
  | h, _, [] => some (h, .ok ())
  | h, obj, (key, value) :: rest =>
    match copy h value with
    | none => none
    | some (h1, .panic k) => some (h1, .panic k)
    | some (h1, .ok g) =>
      match parseVal h1 g with
      | (h2, .panic k) => some (h2, .panic k)
      | (h2, .ok v) => objectCopyLoopRef copy (h2.setFields obj (setKV (h2.fields obj) key v)) obj rest

/-- `(*object).copy`: `NewObject()` (an empty cell, `new_empty`), then the fields -/
def objectCopyRef (copy : Heap → Val → Option (Heap × Out GoVal)) (h : Heap) (a : Nat) :
    Option (Heap × Out GoVal) :=
  let obj := h.length
  let h1 := h ++ [Cell.obj [] 0]
  match objectCopyLoopRef copy h1 obj (h1.fields a) with
  | none => none
  | some (h2, .panic k) => some (h2, .panic k)
  | some (h2, .ok _) => some (h2, .ok (.obj ⟨obj, 0⟩))

/-- the loop of `(*list).isEqual`; `isEq` is `x.isEqual(another)` on a stored field -/
def listIsEqualLoopRef (isEq : Heap → Val → Option Val → Option (Out Bool)) (h : Heap) (a list : Nat) :
    List Val → Nat → Option (Out Bool)
  | [], _ => some (.ok true)
  | _ :: rest, i =>
    match (h.items a)[i]? with
    | none => some (.panic .runtime)
    | some x =>
      match (h.items list)[i]? with
      | none => some (.panic .runtime)
      | some y =>
        match isEq h x (some y) with
        | none => none
        | some (.panic k) => some (.panic k)
        | some (.ok b) =>
          if !b then some (.ok false)
          else listIsEqualLoopRef isEq h a list rest (i + 1)

/-- `(*list).isEqual`: `another.(List)` of any embedding level, its `base()`, the two `Count()`s, the loop -/
def listIsEqualRef (isEq : Heap → Val → Option Val → Option (Out Bool)) (h : Heap) (a : Nat)
    (another : Option Val) : Option (Out Bool) :=
  match another with
  | some (.list r) =>
    if (L.count h a) != (L.count h r.addr) then some (.ok false)
    else listIsEqualLoopRef isEq h a r.addr (h.items a) 0
  | _ => some (.ok false)

/-- the loop of `(*object).isEqual`: every key of the receiver, looked up in the other map (a missing
key gives the nil interface) -/
def objectIsEqualLoopRef (isEq : Heap → Val → Option Val → Option (Out Bool)) (h : Heap) (a obj : Nat) :
    List (Str × Val) → Option (Out Bool)
  | [] => some (.ok true)
  | (k, _) :: rest =>
    match lookup (h.fields a) k with
    | none => some (.panic .runtime)
    | some x =>
      match isEq h x (lookup (h.fields obj) k) with
      | none => none
      | some (.panic p) => some (.panic p)
      | some (.ok b) =>
        if !b then some (.ok false)
        else objectIsEqualLoopRef isEq h a obj rest

/-- `(*object).isEqual`: as for lists, with `another.(Object)` -/
def objectIsEqualRef (isEq : Heap → Val → Option Val → Option (Out Bool)) (h : Heap) (a : Nat)
    (another : Option Val) : Option (Out Bool) :=
  match another with
  | some (.obj r) =>
    if (O.count h a) != (O.count h r.addr) then some (.ok false)
    else objectIsEqualLoopRef isEq h a r.addr (h.fields a)
  | _ => some (.ok false)

end CloneRef

/-! ## refinement of the reference walk to the model -/
namespace CloneRef
open Rf

variable {copy : Heap → Val → Option (Heap × Out GoVal)}
  {isEq : Heap → Val → Option Val → Option (Out Bool)}

mutual
/-- every int of the tree is a Go `int` (64 bit): `JVal.intsOK` of `Lemmas/IntsInvariantO` as a `Bool` -/
def intsInRange : JVal → Bool
  | .int i => decide (InRange i)
  | .list xs => intsInRangeList xs
  | .obj kvs => intsInRangeFields kvs
  | _ => true
def intsInRangeList : List JVal → Bool
  | [] => true | x :: xs => intsInRange x && intsInRangeList xs
def intsInRangeFields : List (Str × JVal) → Bool
  | [] => true | (_, x) :: kvs => intsInRange x && intsInRangeFields kvs
end

theorem reifyFields_cons_inv {n : Nat} {h : Heap} {k : Str} {x : Val} {fs : List (Str × Val)}
    {ts : List (Str × JVal)} (hr : reifyFields n h ((k, x) :: fs) = some ts) :
    ∃ t ts', ts = (k, t) :: ts' ∧ reify n h x = some t ∧ reifyFields n h fs = some ts' := by
  rw [reifyFields] at hr
  split at hr
  · next t ts' ht hts => cases hr; exact ⟨t, ts', rfl, ht, hts⟩
  · cases hr

theorem reifyList_length {n : Nat} {h : Heap} : ∀ {xs : List Val} {ts : List JVal},
    reifyList n h xs = some ts → ts.length = xs.length
  | [], ts, e => by simp only [reifyList] at e; cases e; rfl
  | x :: xs, ts, e => by
    obtain ⟨t, ts', _, hts, rfl⟩ := reifyList_cons_eq_some e
    simp only [List.length_cons, reifyList_length hts]

theorem reifyFields_keys {n : Nat} {h : Heap} {fs : List (Str × Val)} {ts : List (Str × JVal)}
    (e : reifyFields n h fs = some ts) : keysOf ts = keysOf fs := by
  rw [reifyFields_eq] at e
  obtain ⟨us, hus, rfl⟩ := Option.map_eq_some_iff.1 e
  exact List.map_fst_zip (by simp [reifyList_length hus])

theorem reifyFields_length {n : Nat} {h : Heap} {fs : List (Str × Val)} {ts : List (Str × JVal)}
    (e : reifyFields n h fs = some ts) : ts.length = fs.length := by
  rw [← length_keysOf, reifyFields_keys e, length_keysOf]

theorem reifyFields_lookup {n : Nat} {h : Heap} : ∀ {fs : List (Str × Val)} {ts : List (Str × JVal)},
    reifyFields n h fs = some ts → ∀ {k : Str} {w : Val}, lookup fs k = some w →
      ∃ t, lookup ts k = some t ∧ reify n h w = some t
  | [], _, _, _, _, hw => by cases hw
  | (k', x) :: fs, ts, e, k, w, hw => by
    obtain ⟨t, ts', rfl, hx, hts⟩ := reifyFields_cons_inv e
    rw [lookup_cons] at hw ⊢
    by_cases hk : k' = k
    · rw [if_pos hk] at hw ⊢; cases hw; exact ⟨t, rfl, hx⟩
    · rw [if_neg hk] at hw ⊢; exact reifyFields_lookup hts hw

theorem mem_of_lookup' {α} {fs : List (Str × α)} {k : Str} {w : α} (hl : lookup fs k = some w) :
    ∃ k', (k', w) ∈ fs := by
  induction fs with
  | nil => simp [lookup] at hl
  | cons kv fs ih =>
    obtain ⟨k', v⟩ := kv
    simp only [lookup] at hl
    split at hl
    · cases hl; exact ⟨k', by simp⟩
    · obtain ⟨k'', hm⟩ := ih hl; exact ⟨k'', by simp [hm]⟩

theorem reify_list_inv {m : Nat} {h : Heap} {r : Ref} {jy : JVal} (hjy : reify m h (.list r) = some jy) :
    ∃ m' ts, m = m' + 1 ∧ r.addr < h.length ∧ reifyList m' h (h.items r.addr) = some ts ∧
      jy = .list ts := by
  cases m with
  | zero => simp only [reify] at hjy; cases hjy
  | succ m' =>
    rw [reify_list_succ] at hjy
    split at hjy
    · next hl =>
      obtain ⟨ts, hq, rfl⟩ := Option.map_eq_some_iff.1 hjy
      exact ⟨m', ts, rfl, isList_lt hl, hq, rfl⟩
    · cases hjy

theorem reify_obj_inv {m : Nat} {h : Heap} {r : Ref} {jy : JVal} (hjy : reify m h (.obj r) = some jy) :
    ∃ m' ts, m = m' + 1 ∧ r.addr < h.length ∧ reifyFields m' h (h.fields r.addr) = some ts ∧
      jy = .obj ts := by
  cases m with
  | zero => simp only [reify] at hjy; cases hjy
  | succ m' =>
    rw [reify_obj_succ] at hjy
    split at hjy
    · next hl =>
      obtain ⟨ts, hq, rfl⟩ := Option.map_eq_some_iff.1 hjy
      exact ⟨m', ts, rfl, isObj_lt hl, hq, rfl⟩
    · cases hjy

theorem scalarIsEqual_some {n m : Nat} {h : Heap} {x y : Val} {jx jy : JVal}
    (hx : (∀ r, x ≠ .list r) ∧ (∀ r, x ≠ .obj r))
    (hjx : reify n h x = some jx) (hjy : reify m h y = some jy) :
    scalarIsEqual x (some y) = equalsJ jx jy := by
  cases x with
  | list r => exact absurd rfl (hx.1 r)
  | obj r => exact absurd rfl (hx.2 r)
  | _ =>
    simp only [reify] at hjx; cases hjx
    cases y with
    | list r => obtain ⟨_, ts, _, _, _, rfl⟩ := reify_list_inv hjy; rfl
    | obj r => obtain ⟨_, ts, _, _, _, rfl⟩ := reify_obj_inv hjy; rfl
    | _ => simp only [reify] at hjy; cases hjy; rfl

/-- the refinement statement for a dispatcher `isEq` at the values that reify with fuel `n`: a nil
interface as argument is never equal; a stored field is compared by `equalsJ` of the two trees,
provided the keys in every object of the receiver are distinct (the Go-map invariant) -/
def EqOK (isEq : Heap → Val → Option Val → Option (Out Bool)) (n : Nat) (h : Heap) : Prop :=
  ∀ x jx, reify n h x = some jx →
    isEq h x none = some (.ok false) ∧
    ∀ y jy, reify n h y = some jy → keysNodup jx = true →
      isEq h x (some y) = some (.ok (equalsJ jx jy))

/-- the loop of `(*list).isEqual` at index `pre.length`, the two slices split there -/
theorem listIsEqualLoopRef_spec {n : Nat} {h : Heap} {a b : Nat} (ih : EqOK isEq n h) :
    ∀ (rest rest' pre pre' : List Val) (ts ts' : List JVal),
      h.items a = pre ++ rest → h.items b = pre' ++ rest' →
      pre'.length = pre.length → rest'.length = rest.length →
      reifyList n h rest = some ts → reifyList n h rest' = some ts' → keysNodupList ts = true →
      listIsEqualLoopRef isEq h a b rest pre.length = some (.ok (equalsList ts ts')) := by
  intro rest
  induction rest with
  | nil =>
    intro rest' pre pre' ts ts' _ _ _ _ hr _ _
    simp only [reifyList] at hr; cases hr
    rw [listIsEqualLoopRef, equalsList]
  | cons x rest ihr =>
    intro rest' pre pre' ts ts' hxs hys hpl hrl hr hr' hnd
    obtain ⟨y, rest', rfl⟩ : ∃ y r, rest' = y :: r := by
      cases rest' with
      | nil => cases hrl
      | cons y r => exact ⟨y, r, rfl⟩
    obtain ⟨tx, ts, hx, hrest, rfl⟩ := reifyList_cons_eq_some hr
    obtain ⟨ty, ts', hy, hrest', rfl⟩ := reifyList_cons_eq_some hr'
    simp only [keysNodupList, Bool.and_eq_true] at hnd
    have hxi : (h.items a)[pre.length]? = some x := by rw [hxs]; simp
    have hyi : (h.items b)[pre.length]? = some y := by rw [hys, ← hpl]; simp
    have hnext := ihr rest' (pre ++ [x]) (pre' ++ [y]) ts ts' (by simp [hxs]) (by simp [hys])
      (by simp [hpl]) (by simpa using hrl) hrest hrest' hnd.2
    rw [List.length_append, List.length_singleton] at hnext
    rw [listIsEqualLoopRef, hxi, hyi]
    simp only
    rw [(ih x tx hx).2 y ty hy hnd.1]
    simp only
    rw [hnext, equalsList]
    cases equalsJ tx ty <;> simp

theorem objectIsEqualLoopRef_spec {n : Nat} {h : Heap} {a b : Nat} {tgs : List (Str × JVal)}
    (ih : EqOK isEq n h) (hgs : reifyFields n h (h.fields b) = some tgs)
    (hnd : (keysOf (h.fields a)).Nodup) :
    ∀ (rest : List (Str × Val)) (trest : List (Str × JVal)), (∀ kv ∈ rest, kv ∈ h.fields a) →
      reifyFields n h rest = some trest → keysNodupFields trest = true →
      objectIsEqualLoopRef isEq h a b rest = some (.ok (equalsFields trest tgs)) := by
  intro rest
  induction rest with
  | nil =>
    intro trest _ hr _
    simp only [reifyFields] at hr; cases hr
    rw [objectIsEqualLoopRef, equalsFields]
  | cons kv rest ih2 =>
    obtain ⟨k, v⟩ := kv
    intro trest hsub hr hndc
    obtain ⟨tv, trest, rfl, hv, hrest⟩ := reifyFields_cons_inv hr
    simp only [keysNodupFields, Bool.and_eq_true] at hndc
    rw [objectIsEqualLoopRef, lookup_of_mem hnd (hsub _ List.mem_cons_self)]
    simp only
    have hnext := ih2 trest (fun kv hm => hsub kv (List.mem_cons_of_mem _ hm)) hrest hndc.2
    cases hw : lookup (h.fields b) k with
    | none =>
      rw [(ih v tv hv).1]
      have : lookup tgs k = none :=
        lookup_eq_none_iff.2 (reifyFields_keys hgs ▸ lookup_eq_none_iff.1 hw)
      simp [equalsFields, this]
    | some w =>
      obtain ⟨tw, htw, hrw⟩ := reifyFields_lookup hgs hw
      rw [(ih v tv hv).2 w tw hrw hndc.1]
      simp only
      rw [hnext, equalsFields, htw]
      cases he : equalsJ tv tw <;> simp [he]

/-- the guard of both `isEqual`s: `Count()` of the two containers (as Go `int`s), then the loop -/
theorem count_guard {m n : Nat} {loop : Option (Out Bool)} {b : Bool} (hl : m = n → loop = some (.ok b)) :
    (if ((m : Int) != (n : Int)) = true then some (.ok false) else loop) = some (.ok (m == n && b)) := by
  by_cases e : m = n
  · subst e; simp [hl rfl]
  · have : ((m : Int) != (n : Int)) = true := by
      simp only [bne_iff_ne, ne_eq, Int.natCast_inj]; exact e
    simp [this, e]

theorem listIsEqualRef_spec {n : Nat} {h : Heap} (ih : EqOK isEq n h) {r : Ref} {y : Val} {jx jy : JVal}
    (hx : reify (n + 1) h (.list r) = some jx) (hy : reify (n + 1) h y = some jy)
    (hnd : keysNodup jx = true) :
    listIsEqualRef isEq h r.addr (some y) = some (.ok (equalsJ jx jy)) := by
  obtain ⟨n', txs, hn, _, hxs, rfl⟩ := reify_list_inv hx
  cases hn
  cases y with
  | list ry =>
    obtain ⟨_, tys, hn', _, hys, rfl⟩ := reify_list_inv hy
    cases hn'
    simp only [keysNodup] at hnd
    simp only [listIsEqualRef, L.count, equalsJ, reifyList_length hxs, reifyList_length hys]
    exact count_guard fun hlen =>
      listIsEqualLoopRef_spec ih _ _ [] [] txs tys rfl rfl rfl hlen.symm hxs hys hnd
  | obj ry =>
    obtain ⟨_, ts, _, _, _, rfl⟩ := reify_obj_inv hy
    simp only [listIsEqualRef, equalsJ]
  | _ => simp only [reify] at hy; cases hy; simp only [listIsEqualRef, equalsJ]

theorem objectIsEqualRef_spec {n : Nat} {h : Heap} (ih : EqOK isEq n h) {r : Ref} {y : Val} {jx jy : JVal}
    (hx : reify (n + 1) h (.obj r) = some jx) (hy : reify (n + 1) h y = some jy)
    (hnd : keysNodup jx = true) :
    objectIsEqualRef isEq h r.addr (some y) = some (.ok (equalsJ jx jy)) := by
  obtain ⟨n', tfs, hn, _, hfs, rfl⟩ := reify_obj_inv hx
  cases hn
  cases y with
  | obj ry =>
    obtain ⟨_, tgs, hn', _, hgs, rfl⟩ := reify_obj_inv hy
    cases hn'
    simp only [keysNodup, Bool.and_eq_true, decide_eq_true_eq] at hnd
    simp only [objectIsEqualRef, O.count, equalsJ, reifyFields_length hfs, reifyFields_length hgs]
    exact count_guard fun _ =>
      objectIsEqualLoopRef_spec ih hgs (reifyFields_keys hfs ▸ hnd.1) _ tfs (fun _ hm => hm) hfs hnd.2
  | list ry =>
    obtain ⟨_, ts, _, _, _, rfl⟩ := reify_list_inv hy
    simp only [objectIsEqualRef, equalsJ]
  | _ => simp only [reify] at hy; cases hy; simp only [objectIsEqualRef, equalsJ]

/-- the specification of a deep copy: only appends cells, and the value returned denotes the tree
through the new cells alone.  This is what `Rf.clone_spec` proves of the model's `O.clone`. -/
def CopySpec (h : Heap) (t : JVal) (h' : Heap) (c : Val) : Prop :=
  (∃ extra, h' = h ++ extra) ∧ Denotes h.length h'.length h' c t

/-- the refinement statement for a dispatcher `copy` at the values that reify with fuel `n` -/
def CopyOK (copy : Heap → Val → Option (Heap × Out GoVal)) (n : Nat) : Prop :=
  ∀ (h : Heap) (v : Val) (t : JVal), reify n h v = some t → keysNodup t = true → intsInRange t = true →
    ∃ h' g c, copy h v = some (h', .ok g) ∧ parseVal h' g = (h', .ok c) ∧ CopySpec h t h' c

theorem setItems_cell {h : Heap} {a : Nat} {xs0 : List Val} {e : Nat} (hc : h[a]? = some (.list xs0 e))
    (xs : List Val) : (h.setItems a xs)[a]? = some (.list xs e) := by
  have hlt := (List.getElem?_eq_some_iff.1 hc).1
  simp only [setItems, hc]
  simp [hlt]

theorem setFields_cell {h : Heap} {a : Nat} {fs0 : List (Str × Val)} {e : Nat}
    (hc : h[a]? = some (.obj fs0 e)) (fs : List (Str × Val)) :
    (h.setFields a fs)[a]? = some (.obj fs e) := by
  have hlt := (List.getElem?_eq_some_iff.1 hc).1
  simp only [setFields, hc]
  simp [hlt]

theorem prefix_of_sub {h H : Heap} (hs : Sub h H) : ∃ extra, H = h ++ extra := by
  refine ⟨H.drop h.length, ?_⟩
  apply List.ext_getElem?
  intro i
  by_cases hi : i < h.length
  · rw [List.getElem?_append_left hi]
    rw [hs i _ (List.getElem?_eq_getElem hi), List.getElem?_eq_getElem hi]
  · rw [List.getElem?_append_right (by omega), List.getElem?_drop]
    congr 1; omega

theorem sub_length {h H : Heap} (hs : Sub h H) : h.length ≤ H.length := by
  obtain ⟨e, rfl⟩ := prefix_of_sub hs; simp

/-- the step both copy loops share: the element is copied in the current heap `H` (new cells on top,
the container's cell `c` as it was); after any store `H2` into cell `c` the old cells are still there,
what was denoted through the cells above `c` still is, and the copy denotes the element's tree -/
theorem copy_step {n : Nat} (ih : CopyOK copy n)
    {h0 H : Heap} (hs : Sub h0 H) {c : Nat} (hc0 : h0.length ≤ c) (hcH : c < H.length) {x : Val} {tx : JVal}
    (hx : reify n h0 x = some tx) (hnd : keysNodup tx = true) (hir : intsInRange tx = true) :
    ∃ H1 g cv, copy H x = some (H1, .ok g) ∧ parseVal H1 g = (H1, .ok cv) ∧ H1[c]? = H[c]? ∧
      ∀ H2 : Heap, (∀ b, b ≠ c → H2[b]? = H1[b]?) → H2.length = H1.length →
        Sub h0 H2 ∧ AgreeOn (c + 1) H.length H H2 ∧ H.length ≤ H2.length ∧
          Denotes (c + 1) H2.length H2 cv tx := by
  obtain ⟨H1, g, cv, hcopy, hparse, ⟨ex1, rfl⟩, dc⟩ :=
    ih H x tx (reify_mono_sub hs n n (Nat.le_refl _) x tx hx) hnd hir
  have hlen : H.length ≤ (H ++ ex1).length := by simp
  refine ⟨_, g, cv, hcopy, hparse, List.getElem?_append_left hcH, fun H2 hne hl => ⟨?_, ?_, by omega, ?_⟩⟩
  · intro b cl hb
    have := (List.getElem?_eq_some_iff.1 hb).1
    rw [hne b (by omega)]; exact Sub.append H ex1 b cl (hs b cl hb)
  · exact (agreeOn_append _ H ex1).trans (fun b hb _ => hne b (by omega)) (Nat.le_refl _) hlen
  · rw [hl]; exact dc.mono (fun b hb _ => hne b (by omega)) (by omega) (Nat.le_refl _)

/-- the loop of `(*list).copy`: `cs` are the copies stored so far (they denote `tdone` through cells
above the new list cell), the rest of the new cell's slice is still the placeholder -/
theorem listCopyLoopRef_spec {n : Nat} (ih : CopyOK copy n) {h0 : Heap} (list : Nat)
    (hlist : h0.length ≤ list) :
    ∀ (rest : List Val) (H : Heap) (cs : List Val) (tdone trest : List JVal),
      Sub h0 H → H[list]? = some (.list (cs ++ List.replicate rest.length Val.nil) 0) →
      DenotesList (list + 1) H.length H cs tdone →
      reifyList n h0 rest = some trest → keysNodupList trest = true → intsInRangeList trest = true →
      ∃ H' cs', listCopyLoopRef copy H list rest cs.length = some (H', .ok ()) ∧ Sub h0 H' ∧
        H'[list]? = some (.list (cs ++ cs') 0) ∧
        DenotesList (list + 1) H'.length H' (cs ++ cs') (tdone ++ trest) := by
  intro rest
  induction rest with
  | nil =>
    intro H cs tdone trest hs hc ds hr _ _
    simp only [reifyList] at hr; cases hr
    refine ⟨H, [], by rw [listCopyLoopRef], hs, by simpa using hc, by simpa using ds⟩
  | cons x rest ihr =>
    intro H cs tdone trest hs hc ds hr hnd hir
    obtain ⟨tx, trest', hx, hrest, rfl⟩ := reifyList_cons_eq_some hr
    simp only [keysNodupList, intsInRangeList, Bool.and_eq_true] at hnd hir
    have hlistH : list < H.length := (List.getElem?_eq_some_iff.1 hc).1
    obtain ⟨H1, g, c, hcopy, hparse, hc1, step⟩ := copy_step ih hs hlist hlistH hx hnd.1 hir.1
    rw [hc, List.length_cons, List.replicate_succ'] at hc1
    have hitems : H1.items list = cs ++ (List.replicate rest.length Val.nil ++ [Val.nil]) := by
      simp only [items, hc1]
    have hset : (cs ++ (List.replicate rest.length Val.nil ++ [Val.nil])).set cs.length c
        = (cs ++ [c]) ++ List.replicate rest.length Val.nil := by
      rw [← List.replicate_succ', List.set_append_right _ _ (Nat.le_refl _)]
      simp [List.replicate_succ]
    obtain ⟨hs2, ag, hlen, dc⟩ := step (H1.setItems list ((cs ++ [c]) ++ List.replicate rest.length Val.nil))
      (fun b => getElem?_setItems_ne H1 _) (length_setItems _ _ _)
    have hc2 := setItems_cell hc1 ((cs ++ [c]) ++ List.replicate rest.length Val.nil)
    have ds2 := (ds.mono ag (Nat.le_refl _) hlen).snoc dc
    obtain ⟨H', cs', hloop, hs', hc', ds'⟩ :=
      ihr _ (cs ++ [c]) (tdone ++ [tx]) trest' hs2 hc2 ds2 hrest hnd.2 hir.2
    refine ⟨H', c :: cs', ?_, hs', by simpa using hc', by simpa using ds'⟩
    rw [listCopyLoopRef, hcopy]
    simp only [hparse, hitems, hset]
    rw [if_pos (by simp)]
    simpa using hloop

theorem objectCopyLoopRef_spec {n : Nat} (ih : CopyOK copy n) {h0 : Heap} (obj : Nat)
    (hobj : h0.length ≤ obj) :
    ∀ (rest : List (Str × Val)) (H : Heap) (fs : List (Str × Val)) (tdone trest : List (Str × JVal)),
      Sub h0 H → H[obj]? = some (.obj fs 0) →
      DenotesFields (obj + 1) H.length H fs tdone →
      reifyFields n h0 rest = some trest → (keysOf fs ++ keysOf rest).Nodup →
      keysNodupFields trest = true → intsInRangeFields trest = true →
      ∃ H' fs', objectCopyLoopRef copy H obj rest = some (H', .ok ()) ∧ Sub h0 H' ∧
        H'[obj]? = some (.obj (fs ++ fs') 0) ∧
        DenotesFields (obj + 1) H'.length H' (fs ++ fs') (tdone ++ trest) := by
  intro rest
  induction rest with
  | nil =>
    intro H fs tdone trest hs hc ds hr _ _ _
    simp only [reifyFields] at hr; cases hr
    refine ⟨H, [], by rw [objectCopyLoopRef], hs, by simpa using hc, by simpa using ds⟩
  | cons kx rest ihr =>
    obtain ⟨k, x⟩ := kx
    intro H fs tdone trest hs hc ds hr hkeys hnd hir
    obtain ⟨tx, trest', rfl, hx, hrest⟩ := reifyFields_cons_inv hr
    simp only [keysNodupFields, intsInRangeFields, Bool.and_eq_true] at hnd hir
    have hoH : obj < H.length := (List.getElem?_eq_some_iff.1 hc).1
    obtain ⟨H1, g, c, hcopy, hparse, hc1, step⟩ := copy_step ih hs hobj hoH hx hnd.1 hir.1
    rw [hc] at hc1
    have hfields : H1.fields obj = fs := by simp only [fields, hc1]
    have hk : k ∉ keysOf fs := by
      simp only [keysOf, List.map_cons] at hkeys
      have := (List.nodup_append.1 hkeys).2.2
      intro hmem
      exact this k hmem k (by simp) rfl
    obtain ⟨hs2, ag, hlen, dc⟩ := step (H1.setFields obj (fs ++ [(k, c)]))
      (fun b => getElem?_setFields_ne H1 _) (length_setFields _ _ _)
    have hc2 := setFields_cell hc1 (fs ++ [(k, c)])
    have ds2 := (ds.mono ag (Nat.le_refl _) hlen).snoc (k := k) dc
    have hkeys2 : (keysOf (fs ++ [(k, c)]) ++ keysOf rest).Nodup := by
      simpa [keysOf] using hkeys
    obtain ⟨H', fs', hloop, hs', hc', ds'⟩ :=
      ihr _ (fs ++ [(k, c)]) (tdone ++ [(k, tx)]) trest' hs2 hc2 ds2 hrest hkeys2 hnd.2 hir.2
    refine ⟨H', (k, c) :: fs', ?_, hs', by simpa using hc', by simpa using ds'⟩
    rw [objectCopyLoopRef, hcopy]
    simp only [hparse, hfields, setKV_of_not_mem fs k c hk]
    exact hloop

theorem copyOK_scalar {n : Nat} {h : Heap} {v : Val} {t : JVal} (hv : (∀ r, v ≠ .list r) ∧ (∀ r, v ≠ .obj r))
    (hc : copy h v = some (h, .ok (scalarCopy v))) (ht : reify n h v = some t)
    (hir : intsInRange t = true) :
    ∃ h' g c, copy h v = some (h', .ok g) ∧ parseVal h' g = (h', .ok c) ∧ CopySpec h t h' c := by
  refine ⟨h, _, v, hc, ?_, ⟨[], by simp⟩,
    Denotes.scalar _ _ _ hv (by rw [← ht]; exact reify_scalar_eq _ _ _ _ _ hv)⟩
  cases v with
  | list r => exact absurd rfl (hv.1 r)
  | obj r => exact absurd rfl (hv.2 r)
  | int i =>
    simp only [reify] at ht; cases ht
    simp only [intsInRange, decide_eq_true_eq] at hir
    have : wrap64 i = i := by unfold InRange at hir; unfold wrap64; simp only []; omega
    simp only [scalarCopy, parseVal, this]
  | _ => simp only [scalarCopy, parseVal]

theorem listCopyRef_spec {n : Nat} (ih : CopyOK copy n) {h : Heap} {r : Ref} {t : JVal}
    (ht : reify (n + 1) h (.list r) = some t) (hnd : keysNodup t = true) (hir : intsInRange t = true) :
    ∃ h', listCopyRef copy h r.addr = some (h', .ok (.list ⟨h.length, 0⟩)) ∧
      CopySpec h t h' (.list ⟨h.length, 0⟩) := by
  obtain ⟨n', txs, hn, hra, hxs, rfl⟩ := reify_list_inv ht
  cases hn
  simp only [keysNodup, intsInRange] at hnd hir
  obtain ⟨H', cs', hloop, hs', hc', ds'⟩ :=
    listCopyLoopRef_spec ih (h0 := h) h.length (Nat.le_refl _) (h.items r.addr)
      (h ++ [Cell.list (List.replicate (h.items r.addr).length Val.nil) 0]) [] [] txs (Sub.append h _)
      (by simp) (DenotesList.nil _ _ _) hxs hnd hir
  simp only [List.nil_append, List.length_nil] at hloop hc' ds'
  have hlt : h.length < H'.length := (List.getElem?_eq_some_iff.1 hc').1
  refine ⟨H', ?_, prefix_of_sub hs', ?_⟩
  · rw [listCopyRef]
    have hcnt : ¬ (L.count h r.addr < 0) := by simp [L.count]
    rw [if_neg hcnt]
    simp only [L.count, Int.toNat_natCast, items_append_old h _ hra, hloop]
  · exact Denotes.list (r := ⟨h.length, 0⟩) hc' (Nat.le_refl _) hlt
      (ds'.mono (AgreeOn.refl _ _ _) (Nat.le_succ _) (Nat.le_refl _))

theorem objectCopyRef_spec {n : Nat} (ih : CopyOK copy n) {h : Heap} {r : Ref} {t : JVal}
    (ht : reify (n + 1) h (.obj r) = some t) (hnd : keysNodup t = true) (hir : intsInRange t = true) :
    ∃ h', objectCopyRef copy h r.addr = some (h', .ok (.obj ⟨h.length, 0⟩)) ∧
      CopySpec h t h' (.obj ⟨h.length, 0⟩) := by
  obtain ⟨n', tfs, hn, hra, hfs, rfl⟩ := reify_obj_inv ht
  cases hn
  have hkx := reifyFields_keys hfs
  simp only [keysNodup, intsInRange, Bool.and_eq_true, decide_eq_true_eq] at hnd hir
  obtain ⟨H', fs', hloop, hs', hc', ds'⟩ :=
    objectCopyLoopRef_spec ih (h0 := h) h.length (Nat.le_refl _) (h.fields r.addr)
      (h ++ [Cell.obj [] 0]) [] [] tfs (Sub.append h _)
      (by simp) (DenotesFields.nil _ _ _) hfs (by rw [hkx] at hnd; simpa [keysOf] using hnd.1) hnd.2 hir
  simp only [List.nil_append] at hloop hc' ds'
  have hlt : h.length < H'.length := (List.getElem?_eq_some_iff.1 hc').1
  refine ⟨H', ?_, prefix_of_sub hs', ?_⟩
  · rw [objectCopyRef]
    simp only [fields_append_old h _ hra, hloop]
  · exact Denotes.obj (r := ⟨h.length, 0⟩) hc' (Nat.le_refl _) hlt
      (ds'.mono (AgreeOn.refl _ _ _) (Nat.le_succ _) (Nat.le_refl _))

/-- the model's `Clone` on the same value: defined, and with the same specification -/
theorem clone_copySpec {n : Nat} {h : Heap} {v : Val} {t : JVal} (ht : reify n h v = some t) :
    ∃ h'' c'', O.clone h v = some (h'', c'') ∧ CopySpec h t h'' c'' := by
  have hF := reifyF_eq_of_reify ht
  refine ⟨(build h t).1, (build h t).2, by simp [O.clone, hF], ?_⟩
  obtain ⟨he, _, d⟩ := build_spec h t
  exact ⟨he, d⟩

end CloneRef

/-! ## the generated definitions against the reference walk (generic scripts) and the model -/
namespace Generated.CG
open CloneRef Rf

/-- closes one case of a step: syntactic agreement, or exhaustive splitting with `simp_all` at the
leaves and `grind` as the last resort -/
local macro "gen_case" : tactic =>
  `(tactic| first
    | rfl
    | (repeat' split) <;> first | rfl | (simp_all; done) | grind)

theorem copyGen_scalar (fuel : Nat) (h : Heap) {v : Val} (hv : (∀ r, v ≠ .list r) ∧ (∀ r, v ≠ .obj r)) :
    copyGen fuel h v = some (h, .ok (scalarCopy v)) := by
  cases v with
  | list r => exact absurd rfl (hv.1 r)
  | obj r => exact absurd rfl (hv.2 r)
  | _ => unfold copyGen <;> rfl

theorem copyGen_list (fuel : Nat) (h : Heap) (r : Ref) :
    copyGen (fuel + 1) h (.list r) = listCopyGen fuel h r.addr := by
  unfold copyGen <;> rfl

theorem copyGen_obj (fuel : Nat) (h : Heap) (r : Ref) :
    copyGen (fuel + 1) h (.obj r) = objectCopyGen fuel h r.addr := by
  unfold copyGen <;> rfl

theorem isEqualGen_scalar (fuel : Nat) (h : Heap) {x : Val} (hx : (∀ r, x ≠ .list r) ∧ (∀ r, x ≠ .obj r))
    (another : Option Val) : isEqualGen fuel h x another = some (.ok (scalarIsEqual x another)) := by
  cases x with
  | list r => exact absurd rfl (hx.1 r)
  | obj r => exact absurd rfl (hx.2 r)
  | _ =>
    unfold isEqualGen
    cases another with
    | none => rfl
    | some y => cases y <;> rfl

theorem isEqualGen_list (fuel : Nat) (h : Heap) (r : Ref) (another : Option Val) :
    isEqualGen (fuel + 1) h (.list r) another = listIsEqualGen fuel h r.addr another := by
  unfold isEqualGen <;> rfl

theorem isEqualGen_obj (fuel : Nat) (h : Heap) (r : Ref) (another : Option Val) :
    isEqualGen (fuel + 1) h (.obj r) another = objectIsEqualGen fuel h r.addr another := by
  unfold isEqualGen <;> rfl

theorem listCopyLoopGen_eq (fuel : Nat) : ∀ (xs : List Val) (list : Nat) (h : Heap) (i : Nat),
    listCopyLoopGen fuel h list xs i = listCopyLoopRef (copyGen fuel) h list xs i := by
  intro xs
  induction xs with
  | nil => intro list h i; unfold listCopyLoopGen listCopyLoopRef <;> rfl
  | cons x xs ih => intro list h i; unfold listCopyLoopGen listCopyLoopRef <;>
      (try simp only [ih]) <;> gen_case

/-- How the loop helper of `(*object).copy` receives the clone under construction.  The helper's
parameters are the locals its body mentions, with their types: the `Object` value returned by
`NewObject()` (a `Ref`), or — when the source allocates the struct in place,
`obj := &object{val: map[string]field{}}; obj.Init(obj)` — the address of the new cell (a `Nat`).
The reference walk takes the address; `OfRef.of` hands a `Ref` to the generated helper in the form
it expects, so the statement below is the same for both shapes of the generated code. -/
class OfRef (α : Type) where
  of : Ref → α
instance : OfRef Ref := ⟨fun r => r⟩
instance : OfRef Nat := ⟨fun r => r.addr⟩

/-- `obj.Set(key, g)` (one pair) step by step: `obj.val[key] = parseVal(g)` -/
theorem set_one_unfold (H : Heap) (o : Nat) (k : Str) (g : GoVal) :
    O.set H o [(some k, g)] false =
      match parseVal H g with
      | (H1, .panic p) => (H1, .panic p)
      | (H1, .ok c) => (H1.setFields o (setKV (H1.fields o) k c),
          .ok ((H1.setFields o (setKV (H1.fields o) k c)).egoRef o)) := by
  simp only [O.set, O.setLoop, Bool.false_eq_true, ↓reduceIte]
  rcases parseVal H g with ⟨H1, _ | _⟩ <;> rfl

/-- `NewObject()`: `&object{val: map[string]field{}}`, `Init`, and a `Set()` of nothing -/
theorem new_empty (h : Heap) : O.new h [] false = (h ++ [Cell.obj [] 0], .ok ⟨h.length, 0⟩) := by
  simp [O.new, O.set, O.setLoop]

theorem objectCopyLoopGen_eq (fuel : Nat) : ∀ (fs : List (Str × Val)) (obj : Ref) (h : Heap),
    objectCopyLoopGen fuel h (OfRef.of obj) fs = objectCopyLoopRef (copyGen fuel) h obj.addr fs := by
  intro fs
  induction fs with
  | nil => intro obj h; unfold objectCopyLoopGen objectCopyLoopRef <;> rfl
  | cons kv fs ih =>
    obtain ⟨k, v⟩ := kv
    intro obj h; unfold objectCopyLoopGen objectCopyLoopRef <;>
      (try simp only [ih]) <;> (try simp only [OfRef.of]) <;> (try simp only [set_one_unfold]) <;>
      gen_case

theorem listCopyGen_eq (fuel : Nat) (h : Heap) (a : Nat) :
    listCopyGen fuel h a = listCopyRef (copyGen fuel) h a := by
  unfold listCopyGen listCopyRef <;>
      (try simp only [listCopyLoopGen_eq]) <;> gen_case

theorem objectCopyGen_eq (fuel : Nat) (h : Heap) (a : Nat) :
    objectCopyGen fuel h a = objectCopyRef (copyGen fuel) h a := by
  have hl : ∀ (fs : List (Str × Val)) (n : Nat) (H : Heap),
      objectCopyLoopGen fuel H (OfRef.of (⟨n, 0⟩ : Ref)) fs = objectCopyLoopRef (copyGen fuel) H n fs :=
    fun fs n H => objectCopyLoopGen_eq fuel fs ⟨n, 0⟩ H
  simp only [OfRef.of] at hl
  unfold objectCopyGen objectCopyRef <;>
      (try simp only [new_empty, hl]) <;> gen_case

/-- **`copy` refines `build ∘ reify`.**  With fuel `n` for which the value reifies to `t` (distinct
keys, ints in range) the walk succeeds without a panic, only appends cells, and returns a value that
denotes `t` through the new cells alone. -/
theorem copyGen_ok (n : Nat) : CopyOK (copyGen n) n := by
  induction n using Nat.strongRecOn with | _ n ih
  intro h v t ht hnd hir
  cases v with
  | list r =>
    obtain ⟨m, _, rfl, _⟩ := reify_list_inv ht
    obtain ⟨h', hcopy, spec⟩ := listCopyRef_spec (ih m (Nat.lt_succ_self m)) ht hnd hir
    exact ⟨h', _, .list ⟨h.length, 0⟩, by rw [copyGen_list, listCopyGen_eq, hcopy],
      by simp only [parseVal], spec⟩
  | obj r =>
    obtain ⟨m, _, rfl, _⟩ := reify_obj_inv ht
    obtain ⟨h', hcopy, spec⟩ := objectCopyRef_spec (ih m (Nat.lt_succ_self m)) ht hnd hir
    exact ⟨h', _, .obj ⟨h.length, 0⟩, by rw [copyGen_obj, objectCopyGen_eq, hcopy],
      by simp only [parseVal], spec⟩
  | _ => exact copyOK_scalar (by simp) (copyGen_scalar n h (by simp)) ht hir

theorem listIsEqualLoopGen_eq (fuel : Nat) : ∀ (xs : List Val) (h : Heap) (a list i : Nat),
    listIsEqualLoopGen fuel h a list xs i = listIsEqualLoopRef (isEqualGen fuel) h a list xs i := by
  intro xs
  induction xs with
  | nil => intro h a list i; unfold listIsEqualLoopGen listIsEqualLoopRef <;> rfl
  | cons x xs ih =>
    intro h a list i; unfold listIsEqualLoopGen listIsEqualLoopRef <;>
      (try simp only [ih]) <;> gen_case

theorem objectIsEqualLoopGen_eq (fuel : Nat) : ∀ (fs : List (Str × Val)) (h : Heap) (a obj : Nat),
    objectIsEqualLoopGen fuel h a obj fs = objectIsEqualLoopRef (isEqualGen fuel) h a obj fs := by
  intro fs
  induction fs with
  | nil => intro h a obj; unfold objectIsEqualLoopGen objectIsEqualLoopRef <;> rfl
  | cons kv fs ih =>
    obtain ⟨k, v⟩ := kv
    intro h a obj; unfold objectIsEqualLoopGen objectIsEqualLoopRef <;>
      (try simp only [ih]) <;> gen_case

theorem listIsEqualGen_eq (fuel : Nat) (h : Heap) (a : Nat) (another : Option Val) :
    listIsEqualGen fuel h a another = listIsEqualRef (isEqualGen fuel) h a another := by
  unfold listIsEqualGen listIsEqualRef <;>
      (try simp only [listIsEqualLoopGen_eq]) <;> gen_case

theorem objectIsEqualGen_eq (fuel : Nat) (h : Heap) (a : Nat) (another : Option Val) :
    objectIsEqualGen fuel h a another = objectIsEqualRef (isEqualGen fuel) h a another := by
  unfold objectIsEqualGen objectIsEqualRef <;>
      (try simp only [objectIsEqualLoopGen_eq]) <;> gen_case

/-- **`isEqual` refines `equalsJ`.**  With fuel `n` for which both values reify and distinct keys in
every object of the receiver, the walk returns — without a panic — `equalsJ` of the two trees,
whatever the embedding levels of the references. -/
theorem isEqualGen_ok (h : Heap) (n : Nat) : EqOK (isEqualGen n) n h := by
  induction n using Nat.strongRecOn with | _ n ih
  intro x jx hx
  cases x with
  | list r =>
    obtain ⟨m, _, rfl, _⟩ := reify_list_inv hx
    simp only [isEqualGen_list, listIsEqualGen_eq]
    exact ⟨rfl, fun y jy hy hnd => listIsEqualRef_spec (ih m (Nat.lt_succ_self m)) hx hy hnd⟩
  | obj r =>
    obtain ⟨m, _, rfl, _⟩ := reify_obj_inv hx
    simp only [isEqualGen_obj, objectIsEqualGen_eq]
    exact ⟨rfl, fun y jy hy hnd => objectIsEqualRef_spec (ih m (Nat.lt_succ_self m)) hx hy hnd⟩
  | _ =>
    refine ⟨?_, fun y jy hy _ => ?_⟩ <;> rw [isEqualGen_scalar n h (by simp)]
    · rfl
    · rw [scalarIsEqual_some (by simp) hx hy]

/-- the generated `copy()` against `build ∘ reify` -/
theorem copyGen_refines {n : Nat} {h : Heap} {v : Val} {t : JVal} (ht : reify n h v = some t)
    (hnd : keysNodup t = true) (hir : intsInRange t = true) :
    ∃ h' g c, copyGen n h v = some (h', .ok g) ∧ parseVal h' g = (h', .ok c) ∧ CopySpec h t h' c :=
  copyGen_ok n h v t ht hnd hir

/-- the generated `isEqual()` against `equalsJ` -/
theorem isEqualGen_refines {n : Nat} {h : Heap} {x y : Val} {jx jy : JVal}
    (hx : reify n h x = some jx) (hy : reify n h y = some jy)
    (hnd : keysNodup jx = true) : isEqualGen n h x (some y) = some (.ok (equalsJ jx jy)) :=
  (isEqualGen_ok h n x jx hx).2 y jy hy hnd

/-- the generated `(*list).Clone` against the model's `O.clone`: both succeed, both only append
cells, both return a value denoting the reified tree through the new cells alone -/
theorem listCloneGen_refines {n : Nat} {h : Heap} {a : Nat} {t : JVal}
    (ht : reify (n + 1) h (.list ⟨a, 0⟩) = some t) (hnd : keysNodup t = true)
    (hir : intsInRange t = true) :
    (∃ h' r, listCloneGen n h a = some (h', .ok r) ∧ CopySpec h t h' (.list r)) ∧
    (∃ h'' c'', O.clone h (.list ⟨a, 0⟩) = some (h'', c'') ∧ CopySpec h t h'' c'') := by
  obtain ⟨h', hcopy, spec⟩ := listCopyRef_spec (copyGen_ok n) ht hnd hir
  refine ⟨⟨h', ⟨h.length, 0⟩, ?_, spec⟩, clone_copySpec ht⟩
  simp [listCloneGen, listCopyGen_eq, hcopy]

theorem objectCloneGen_refines {n : Nat} {h : Heap} {a : Nat} {t : JVal}
    (ht : reify (n + 1) h (.obj ⟨a, 0⟩) = some t) (hnd : keysNodup t = true)
    (hir : intsInRange t = true) :
    (∃ h' r, objectCloneGen n h a = some (h', .ok r) ∧ CopySpec h t h' (.obj r)) ∧
    (∃ h'' c'', O.clone h (.obj ⟨a, 0⟩) = some (h'', c'') ∧ CopySpec h t h'' c'') := by
  obtain ⟨h', hcopy, spec⟩ := objectCopyRef_spec (copyGen_ok n) ht hnd hir
  refine ⟨⟨h', ⟨h.length, 0⟩, ?_, spec⟩, clone_copySpec ht⟩
  simp [objectCloneGen, objectCopyGen_eq, hcopy]

/-- the generated `(*list).Equals` against the model (`equalsJ` of the reified trees, as
`Driver/Exec` computes it) -/
theorem listEqualsGen_refines {n : Nat} {h : Heap} {a : Nat} {another : Ref} {jx jy : JVal}
    (hx : reify (n + 1) h (.list ⟨a, 0⟩) = some jx) (hy : reify (n + 1) h (.list another) = some jy)
    (hnd : keysNodup jx = true) :
    listEqualsGen n h a another = some (.ok (equalsJ jx jy)) := by
  have := isEqualGen_refines hx hy hnd
  rw [isEqualGen_list] at this
  simp only [listEqualsGen, this]

theorem objectEqualsGen_refines {n : Nat} {h : Heap} {a : Nat} {another : Ref} {jx jy : JVal}
    (hx : reify (n + 1) h (.obj ⟨a, 0⟩) = some jx) (hy : reify (n + 1) h (.obj another) = some jy)
    (hnd : keysNodup jx = true) :
    objectEqualsGen n h a another = some (.ok (equalsJ jx jy)) := by
  have := isEqualGen_refines hx hy hnd
  rw [isEqualGen_obj] at this
  simp only [objectEqualsGen, this]

end Generated.CG

/-! ## non-vacuity, the two allocation orders, and an argument of embedding level 1 -/
namespace CloneRef
open Generated.CG

/-- `[[1]]` at address 0 -/
def exH : Heap := [.list [.list ⟨1, 0⟩] 0, .list [.int 1] 0]
def exT : JVal := .list [.list [.int 1]]

/-- it reifies to `exT` whatever the embedding level of the reference, and `exT` has no duplicate keys -/
theorem exH_reify (l : Nat) : reify 2 exH (.list ⟨0, l⟩) = some exT := by
  simp [reify, reifyList, exH, exT]
theorem exT_keysNodup : keysNodup exT = true := by simp [keysNodup, keysNodupList, exT]

-- the hypotheses of the refinement theorems hold for a nested value
example : reify 2 exH (.list ⟨0, 0⟩) = some exT := exH_reify 0
example : keysNodup exT = true := exT_keysNodup
example : intsInRange exT = true := by simp [intsInRange, intsInRangeList, exT, InRange]

-- the Go code allocates the outer list (address 2) before its child (address 3) …
set_option maxRecDepth 2000 in
example : listCloneGen 1 exH 0 =
    some (exH ++ [.list [.list ⟨3, 0⟩] 0, .list [.int 1] 0], .ok ⟨2, 0⟩) := by
  simp [listCloneGen, listCopyGen_eq, listCopyRef, listCopyLoopRef, copyGen_list, copyGen_scalar,
    scalarCopy, parseVal, L.count, Heap.items, Heap.setItems, exH, wrap64]

-- … the model's `build` the child (address 2) before the outer list (address 3): the two heaps are
-- equal only up to this renaming, which is why the refinement is stated with `CopySpec`
example : O.clone exH (.list ⟨0, 0⟩) =
    some (exH ++ [.list [.int 1] 0, .list [.list ⟨2, 0⟩] 0], .list ⟨3, 0⟩) := by
  simp [O.clone, reifyF, reify, reifyList, build, buildList, exH]

-- the embedding level of the argument does not matter (`another.(List)` holds for a derived type,
-- `base()` yields the same cell): `Equals` of a value of embedding level 1 is `equalsJ` as well
example : listEqualsGen 1 exH 0 ⟨0, 1⟩ = some (.ok true) := by
  rw [listEqualsGen_refines (exH_reify 0) (exH_reify 1) exT_keysNodup]
  simp [equalsJ, equalsList, exT]

end CloneRef
end Anytype

#print axioms Anytype.Generated.CG.listCopyGen_eq
#print axioms Anytype.Generated.CG.objectCopyGen_eq
#print axioms Anytype.Generated.CG.listIsEqualGen_eq
#print axioms Anytype.Generated.CG.objectIsEqualGen_eq
#print axioms Anytype.Generated.CG.copyGen_refines
#print axioms Anytype.Generated.CG.isEqualGen_refines
#print axioms Anytype.Generated.CG.listCloneGen_refines
#print axioms Anytype.Generated.CG.objectCloneGen_refines
#print axioms Anytype.Generated.CG.listEqualsGen_refines
#print axioms Anytype.Generated.CG.objectEqualsGen_refines
