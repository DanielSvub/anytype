/-
The trace monitor behind `validTrace` (Model/Async.lean): unfolding lemmas and what an accepted
(prefix of a) trace looks like, declaratively.
-/
import Anytype.Lemmas.Async
namespace Anytype.Async
variable {isMap : Bool} {n : Nat} {tr : List Event} {m : Mon}

theorem list_snoc_induction {α} {P : List α → Prop} (nil : P [])
    (snoc : ∀ l a, P l → P (l ++ [a])) : ∀ l, P l := by
  intro l
  have : ∀ r : List α, P r.reverse := by
    intro r
    induction r with
    | nil => exact nil
    | cons a r ih => rw [List.reverse_cons]; exact snoc _ _ ih
  simpa using this l.reverse

theorem runMon_nil (isMap : Bool) (n : Nat) : runMon isMap n [] = some (monInit n) := rfl

theorem runMon_snoc (isMap : Bool) (n : Nat) (tr : List Event) (e : Event) :
    runMon isMap n (tr ++ [e]) = (runMon isMap n tr).bind (fun m => monStep isMap m e) := by
  simp [runMon, List.foldl_append]

theorem observe_snoc_obs (log : List Event) {e : Event} (h : e.observable = true) :
    observe (log ++ [e]) = observe log ++ [e] := by
  simp [observe, List.filter_append, h]

theorem observe_snoc_write (log : List Event) (i : Nat) :
    observe (log ++ [.write i]) = observe log := by
  simp [observe, List.filter_append, Event.observable]

theorem count_observe (log : List Event) {e : Event} (h : e.observable = true) :
    (observe log).count e = log.count e :=
  List.count_filter h

def Phase.started : Phase → Bool
  | .idle => false
  | _ => true

/-- relation between a trace and the monitor state it leads to -/
structure MonSeen (n : Nat) (tr : List Event) (m : Mon) : Prop where
  len : m.phases.length = n
  starts : ∀ i, tr.count (.callStart i)
      = if m.phases[i]? = some .running ∨ m.phases[i]? = some .finished then 1 else 0
  ends : ∀ i, tr.count (.callEnd i) = if m.phases[i]? = some .finished then 1 else 0
  noWrite : ∀ i, Event.write i ∉ tr
  rets : tr.count .ret = if m.ret = true then 1 else 0
  retLast : m.ret = true → tr.getLast? = some .ret
  retAll : m.ret = true → ∀ p ∈ m.phases, p = Phase.finished

theorem count_snoc (tr : List Event) (a e : Event) :
    (tr ++ [a]).count e = tr.count e + if a = e then 1 else 0 := by
  simp [List.count_append, List.count_singleton]

theorem monStep_cases {m m' : Mon} {e : Event} (h : monStep isMap m e = some m') :
    m.ret = false ∧
    ((∃ j, e = .callStart j ∧ m.phases[j]? = some .idle ∧
        (isMap = true → ∀ p ∈ m.phases, p ≠ Phase.running) ∧
        m' = { m with phases := m.phases.set j .running }) ∨
     (∃ j, e = .callEnd j ∧ m.phases[j]? = some .running ∧
        m' = { m with phases := m.phases.set j .finished }) ∨
     (e = .ret ∧ (∀ p ∈ m.phases, p = Phase.finished) ∧ m' = { m with ret := true })) := by
  cases e <;> simp only [monStep, reduceCtorEq] at h <;> split at h <;> cases h
  · next j hc => exact ⟨hc.1, .inl ⟨j, rfl, hc.2.1, hc.2.2, rfl⟩⟩
  · next j hc => exact ⟨hc.1, .inr (.inl ⟨j, rfl, hc.2, rfl⟩)⟩
  · next hc => exact ⟨hc.1, .inr (.inr ⟨rfl, hc.2, rfl⟩)⟩

theorem runMon_induction {P : List Event → Mon → Prop}
    (nil : P [] (monInit n))
    (snoc : ∀ tr m e m', runMon isMap n tr = some m → P tr m → monStep isMap m e = some m' →
    P (tr ++ [e]) m') :
    ∀ tr m, runMon isMap n tr = some m → P tr m := by
  intro tr
  induction tr using list_snoc_induction with
  | nil => intro m h; cases h; exact nil
  | snoc tr e ih =>
    intro m' h
    rw [runMon_snoc] at h
    cases hm : runMon isMap n tr with
    | none => rw [hm] at h; cases h
    | some m => rw [hm] at h; exact snoc tr m e m' hm (ih m hm) h

theorem MonSeen.advance (S : MonSeen n tr m)
    (hr : m.ret = false) {j : Nat} {e : Event} {p0 p1 : Phase} (hj : m.phases[j]? = some p0)
    (hk : (e = .callStart j ∧ p0 = .idle ∧ p1 = .running) ∨
    (e = .callEnd j ∧ p0 = .running ∧ p1 = .finished)) :
    MonSeen n (tr ++ [e]) { m with phases := m.phases.set j p1 } := by
  have hjl : j < m.phases.length := lt_length_of_getElem? hj
  have hset : ∀ i, (m.phases.set j p1)[i]? = if j = i then some p1 else m.phases[i]? := by
    intro i; rw [List.getElem?_set]; simp [hjl]
  refine ⟨by simpa using S.len, fun i => ?_, fun i => ?_, fun i => ?_, ?_, fun h => ?_, fun h => ?_⟩
  · rw [count_snoc, S.starts i]
    simp only [hset]
    by_cases hij : j = i
    · subst hij; rcases hk with ⟨rfl, rfl, rfl⟩ | ⟨rfl, rfl, rfl⟩ <;> simp [hj]
    · rcases hk with ⟨rfl, _⟩ | ⟨rfl, _⟩ <;> simp [hij]
  · rw [count_snoc, S.ends i]
    simp only [hset]
    by_cases hij : j = i
    · subst hij; rcases hk with ⟨rfl, rfl, rfl⟩ | ⟨rfl, rfl, rfl⟩ <;> simp [hj]
    · rcases hk with ⟨rfl, _⟩ | ⟨rfl, _⟩ <;> simp [hij]
  · rcases hk with ⟨rfl, _⟩ | ⟨rfl, _⟩ <;> simp [S.noWrite i]
  · rw [count_snoc, S.rets]
    rcases hk with ⟨rfl, _⟩ | ⟨rfl, _⟩ <;> simp
  · rw [hr] at h; cases h
  · rw [hr] at h; cases h

theorem monSeen_of_runMon :
    ∀ (tr : List Event) (m : Mon), runMon isMap n tr = some m → MonSeen n tr m := by
  refine runMon_induction ?_ ?_
  · refine ⟨by simp [monInit], ?_, ?_, by simp, by simp [monInit], by simp [monInit],
      by simp [monInit]⟩
    · intro i; simp [monInit, List.getElem?_replicate]
    · intro i; simp [monInit, List.getElem?_replicate]
  · intro tr m e m' _ S h
    obtain ⟨hr, ⟨j, rfl, hj, _, rfl⟩ | ⟨j, rfl, hj, rfl⟩ | ⟨rfl, hall, rfl⟩⟩ := monStep_cases h
    · exact S.advance hr hj (.inl ⟨rfl, rfl, rfl⟩)
    · exact S.advance hr hj (.inr ⟨rfl, rfl, rfl⟩)
    · refine ⟨S.len, ?_, ?_, ?_, ?_, ?_, ?_⟩
      · intro i; rw [count_snoc, S.starts i]; simp
      · intro i; rw [count_snoc, S.ends i]; simp
      · intro i; simp [S.noWrite i]
      · rw [count_snoc, S.rets]; simp [hr]
      · intro _; simp
      · intro _; exact hall

theorem MonSeen.mem_start (S : MonSeen n tr m) {i : Nat}
    (h : m.phases[i]? = some .running ∨ m.phases[i]? = some .finished) :
    Event.callStart i ∈ tr := by
  rw [← List.count_pos_iff, S.starts i, if_pos h]; omega

theorem MonSeen.mem_end (S : MonSeen n tr m) {i : Nat}
    (h : m.phases[i]? = some .finished) : Event.callEnd i ∈ tr := by
  rw [← List.count_pos_iff, S.ends i, if_pos h]; omega

theorem MonSeen.not_mem_start (S : MonSeen n tr m) {i : Nat}
    (h : m.phases[i]? = some .idle) : Event.callStart i ∉ tr := by
  rw [← List.count_eq_zero, S.starts i, h]; simp

theorem MonSeen.not_mem_end (S : MonSeen n tr m) {i : Nat}
    (h : m.phases[i]? = some .running) : Event.callEnd i ∉ tr := by
  rw [← List.count_eq_zero, S.ends i, h]; simp

theorem MonSeen.finished (S : MonSeen n tr m)
    (hr : m.ret = true) {i : Nat} (hi : i < n) : m.phases[i]? = some .finished := by
  have hi' : i < m.phases.length := by rw [S.len]; exact hi
  rw [List.getElem?_eq_getElem hi']
  exact congrArg some (S.retAll hr _ (List.getElem_mem hi'))

theorem validTrace_mon
    (h : validTrace isMap n tr = true) : ∃ m, runMon isMap n tr = some m ∧ m.ret = true := by
  simp only [validTrace] at h
  split at h
  · exact ⟨_, ‹_›, h⟩
  · cases h

/-- **what `validTrace` accepts** (counts): every index below `n` is entered exactly once and left
exactly once, nothing else occurs, `ret` occurs exactly once and is the last event -/
theorem validTrace_counts
    (h : validTrace isMap n tr = true) :
    (∀ i, i < n → tr.count (.callStart i) = 1 ∧ tr.count (.callEnd i) = 1) ∧
    (∀ i, n ≤ i → Event.callStart i ∉ tr ∧ Event.callEnd i ∉ tr) ∧
    (∀ i, Event.write i ∉ tr) ∧
    tr.count .ret = 1 ∧ tr.getLast? = some .ret := by
  obtain ⟨m, hm, hr⟩ := validTrace_mon h
  have S := monSeen_of_runMon tr m hm
  refine ⟨?_, ?_, S.noWrite, by rw [S.rets]; simp [hr], S.retLast hr⟩
  · intro i hi
    rw [S.starts i, S.ends i, S.finished hr hi]; simp
  · intro i hi
    have hnone : m.phases[i]? = none := List.getElem?_eq_none (by rw [S.len]; exact hi)
    have h1 := S.starts i
    have h2 := S.ends i
    rw [hnone] at h1 h2
    simp only [reduceCtorEq, or_self, if_false] at h1 h2
    exact ⟨List.count_eq_zero.1 h1, List.count_eq_zero.1 h2⟩

/-- `a` occurs in `tr`, and before any `b` -/
def Before (tr : List Event) (a b : Event) : Prop := a ∈ tr ∧ tr.idxOf a < tr.idxOf b

theorem Before.snoc {a b : Event} (e : Event) (h : Before tr a b) :
    Before (tr ++ [e]) a b := by
  have := List.idxOf_lt_length_of_mem h.1
  refine ⟨List.mem_append_left _ h.1, ?_⟩
  rw [List.idxOf_append, if_pos h.1, List.idxOf_append]
  split
  · exact h.2
  · omega

theorem Before.new {a b : Event} (ha : a ∈ tr) (hb : b ∉ tr) :
    Before (tr ++ [b]) a b := by
  refine ⟨List.mem_append_left _ ha, ?_⟩
  rw [List.idxOf_append, if_pos ha, List.idxOf_append, if_neg hb, List.idxOf_cons_self]
  exact Nat.lt_of_lt_of_le (List.idxOf_lt_length_of_mem ha) (Nat.le_add_left _ _)

/-- the order facts the monitor guarantees, as a property of the trace alone: a callback is left
after it was entered; for Map at most one callback is open, and of two callbacks one is left
before the other is entered -/
structure Ordered (isMap : Bool) (tr : List Event) : Prop where
  order : ∀ i, Event.callEnd i ∈ tr → Before tr (.callStart i) (.callEnd i)
  one : isMap = true → ∀ i j, Event.callStart i ∈ tr → Event.callEnd i ∉ tr →
    Event.callStart j ∈ tr → Event.callEnd j ∉ tr → i = j
  disj : isMap = true → ∀ i j, i ≠ j → Event.callEnd i ∈ tr → Event.callStart j ∈ tr →
    Before tr (.callEnd i) (.callStart j) ∨ Before tr (.callEnd j) (.callStart i)

theorem Ordered.snoc_ret (O : Ordered isMap tr) : Ordered isMap (tr ++ [.ret]) := by
  refine ⟨fun i hi => ?_, fun hM i j hi hi' hj hj' => ?_, fun hM i j hij hi hj => ?_⟩ <;>
    simp only [List.mem_append, List.mem_singleton, reduceCtorEq, or_false] at *
  · exact (O.order i hi).snoc _
  · exact O.one hM i j hi hi' hj hj'
  · exact (O.disj hM i j hij hi hj).imp (.snoc _) (.snoc _)

theorem Ordered.snoc_start (O : Ordered isMap tr) {j0 : Nat} (hnew : Event.callStart j0 ∉ tr)
    (hclosed : isMap = true → ∀ i, Event.callStart i ∈ tr → Event.callEnd i ∈ tr) :
    Ordered isMap (tr ++ [.callStart j0]) := by
  refine ⟨fun i hi => ?_, fun hM i j hi hi' hj hj' => ?_, fun hM i j hij hi hj => ?_⟩ <;>
    simp only [List.mem_append, List.mem_singleton, reduceCtorEq, or_false, Event.callStart.injEq]
      at *
  · exact (O.order i hi).snoc _
  · have key : ∀ k, Event.callStart k ∈ tr ∨ k = j0 → Event.callEnd k ∉ tr → k = j0 :=
      fun k h h' => h.elim (fun h => absurd (hclosed hM k h) h') id
    rw [key i hi hi', key j hj hj']
  · rcases hj with hj | rfl
    · exact (O.disj hM i j hij hi hj).imp (.snoc _) (.snoc _)
    · exact .inl (.new hi hnew)

theorem Ordered.snoc_end (O : Ordered isMap tr) {j0 : Nat} (hs : Event.callStart j0 ∈ tr)
    (he : Event.callEnd j0 ∉ tr) : Ordered isMap (tr ++ [.callEnd j0]) := by
  refine ⟨fun i hi => ?_, fun hM i j hi hi' hj hj' => ?_, fun hM i j hij hi hj => ?_⟩ <;>
    simp only [List.mem_append, List.mem_singleton, reduceCtorEq, or_false, Event.callEnd.injEq,
      not_or] at *
  · rcases hi with hi | rfl
    · exact (O.order i hi).snoc _
    · exact .new hs he
  · exact O.one hM i j hi hi'.1 hj hj'.1
  · rcases hi with hi | rfl
    · exact (O.disj hM i j hij hi hj).imp (.snoc _) (.snoc _)
    · -- `j` is not open, since `i` is: it was left before `i` was entered
      have hje : Event.callEnd j ∈ tr := Classical.byContradiction fun h =>
        hij (O.one hM i j hs he hj h)
      rcases O.disj hM j i (Ne.symm hij) hje hs with h | h
      · exact .inr (h.snoc _)
      · exact absurd h.1 he

theorem MonSeen.started_of_mem (S : MonSeen n tr m) {i : Nat} (h : Event.callStart i ∈ tr) :
    m.phases[i]? = some .running ∨ m.phases[i]? = some .finished := by
  rw [← List.count_pos_iff, S.starts i] at h
  exact Classical.byContradiction fun hn => by rw [if_neg hn] at h; cases h

theorem ordered_of_runMon :
    ∀ (tr : List Event) (m : Mon), runMon isMap n tr = some m → Ordered isMap tr := by
  refine runMon_induction (P := fun tr _ => Ordered isMap tr) ?_ ?_
  · exact ⟨fun _ h => (nomatch h), fun _ _ _ h => (nomatch h), fun _ _ _ _ h => (nomatch h)⟩
  · intro tr m e m' hm O h
    have S := monSeen_of_runMon tr m hm
    obtain ⟨_, ⟨j, rfl, hj, hnorun, _⟩ | ⟨j, rfl, hj, _⟩ | ⟨rfl, _, _⟩⟩ := monStep_cases h
    · refine O.snoc_start (S.not_mem_start hj) fun hM i hi => ?_
      rcases S.started_of_mem hi with h | h
      · exact absurd rfl (hnorun hM _ (List.mem_iff_getElem?.2 ⟨i, h⟩))
      · exact S.mem_end h
    · exact O.snoc_end (S.mem_start (.inl hj)) (S.not_mem_end hj)
    · exact O.snoc_ret

/-- **what `validTrace` accepts** (order): every callback is entered before it is left, and for
Map the intervals `[callStart i, callEnd i]` are pairwise disjoint -/
theorem validTrace_order
    (h : validTrace isMap n tr = true) :
    (∀ i, i < n → tr.idxOf (.callStart i) < tr.idxOf (.callEnd i)) ∧
    (isMap = true → ∀ i j, i < n → j < n → i ≠ j →
      tr.idxOf (.callEnd i) < tr.idxOf (.callStart j) ∨
      tr.idxOf (.callEnd j) < tr.idxOf (.callStart i)) := by
  obtain ⟨m, hm, hr⟩ := validTrace_mon h
  have S := monSeen_of_runMon tr m hm
  have O := ordered_of_runMon tr m hm
  exact ⟨fun i hi => (O.order i (S.mem_end (S.finished hr hi))).2, fun hM i j hi hj hij =>
    (O.disj hM i j hij (S.mem_end (S.finished hr hi))
      (S.mem_start (.inr (S.finished hr hj)))).imp And.right And.right⟩

end Anytype.Async
