/-
Strict decoder vs. lenient parser, part 3: structure and entry points.

By induction on the fuel of `Strict.value / elements / members`: whenever the strict decoder
accepts an array (object) body, the list (object) machine started behind the opening bracket
returns the same tree and stops at the same place.  Whitespace is skipped by the `.val`,
`.keyStart`, `.afterKey`, `.afterVal` states (and by `.afterStr`, which skips anything); the line
counter is quantified existentially (`LOk` / `OOk`).

The only restriction is `NumRunsShort`: no run of number characters reaches `numRunBound` = 9600
characters (see `StrictVsParserNum.lean` and `Props/C03.lean` for why it cannot be dropped).
-/
import Anytype.Lemmas.StrictVsParserStr
import Anytype.Lemmas.ParserBytes
import Anytype.Lemmas.ParseTop
import Anytype.Lemmas.StrictRoundTrip
namespace Anytype
namespace SVP
open Strict RT

/-! ### runs that end in `.ok`, whatever the line counter -/

def LOk (items : List Item) (st : LSt) (acc : List JVal) (val : Str) (iv : Bool) (v : JVal)
    (rest : List Item) : Prop :=
  ∀ line, ∃ line', LRun items st acc val iv line (.ok v rest line')

def OOk (items : List Item) (st : OSt) (acc : List (Str × JVal)) (key val : Str) (iv : Bool) (v : JVal)
    (rest : List Item) : Prop :=
  ∀ line, ∃ line', ORun items st acc key val iv line (.ok v rest line')

/-- a run that ends in `.ok` stays one when steps are put in front of it -/
theorem ok_lift {A B : Nat → Nat → Prop} (h : ∀ {line l}, B line l → A line l) (hk : ∀ line, ∃ l, B line l) :
    ∀ line, ∃ l, A line l :=
  fun line => let ⟨l, hl⟩ := hk line; ⟨l, h hl⟩

/-- a nested container: the nested machine's run, then the rest of the outer one from the line where the
nested one stopped -/
theorem ok_call {N K Out : Nat → Nat → Prop} (hn : ∀ line, ∃ l1, N line l1) (hk : ∀ l1, ∃ l2, K l1 l2)
    (step : ∀ {line l1 l2}, N line l1 → K l1 l2 → Out line l2) : ∀ line, ∃ l2, Out line l2 :=
  fun line => let ⟨_, h1⟩ := hn line; let ⟨l2, h2⟩ := hk _; ⟨l2, step h1 h2⟩

theorem I_cons' (c : Char) (s : Str) : I (c :: s) = some c :: I s := rfl
theorem I_app (a b : Str) : I (a ++ b) = I a ++ I b := by simp [I]

theorem isWs_cases {c : Char} (h : isWs c = true) : c = ' ' ∨ c = '\t' ∨ c = '\n' ∨ c = '\r' := by
  simpa [isWs, or_assoc] using h

theorem isWs_isSpace {c : Char} (h : isWs c = true) : isSpace c = true := by
  rcases isWs_cases h with rfl | rfl | rfl | rfl <;> decide

theorem isWs_ne {c : Char} (h : isWs c = true) : c ≠ ',' ∧ c ≠ ']' ∧ c ≠ '}' := by
  rcases isWs_cases h with rfl | rfl | rfl | rfl <;> decide

theorem skipWs_spec (s : Str) : ∃ w, s = w ++ skipWs s ∧ Ws w := by
  induction s with
  | nil => exact ⟨[], rfl, ws_nil⟩
  | cons c t ih =>
    by_cases hc : isWs c = true
    · obtain ⟨w, hw, hw'⟩ := ih
      refine ⟨c :: w, by simp only [skipWs, hc, if_true, List.cons_append]; rw [← hw], fun d hd => ?_⟩
      rcases List.mem_cons.mp hd with rfl | hd
      · exact hc
      · exact hw' d hd
    · exact ⟨[], by simp [skipWs, hc], ws_nil⟩

theorem skipWs_suffix (s : Str) : skipWs s <:+ s := by
  obtain ⟨w, hw, _⟩ := skipWs_spec s
  exact ⟨w, hw.symm⟩

/-- a character on which a state loops (whitespace; anything but `,` and the closing bracket behind a
string) is skipped; it may be a newline, which is why the line counter is quantified -/
theorem LOk.skip {c : Char} {rest st acc val iv v R}
    (hs : ∀ n line, pList (n + 1) (some c :: rest) st acc val iv line = pList n rest st acc val iv (bumpLine c line))
    (h : LOk rest st acc val iv v R) : LOk (some c :: rest) st acc val iv v R := by
  intro line
  obtain ⟨l', hl⟩ := h (bumpLine c line)
  refine ⟨l', fun fuel hf => ?_⟩
  cases fuel with
  | zero => simp at hf
  | succ n => rw [hs]; exact hl n (by simpa using hf)

theorem OOk.skip {c : Char} {rest st acc key val iv v R}
    (hs : ∀ n line, pObject (n + 1) (some c :: rest) st acc key val iv line =
      pObject n rest st acc key val iv (bumpLine c line))
    (h : OOk rest st acc key val iv v R) : OOk (some c :: rest) st acc key val iv v R := by
  intro line
  obtain ⟨l', hl⟩ := h (bumpLine c line)
  refine ⟨l', fun fuel hf => ?_⟩
  cases fuel with
  | zero => simp at hf
  | succ n => rw [hs]; exact hl n (by simpa using hf)

/-- what every whitespace character preserves holds before a whitespace run if it holds behind it -/
theorem skipWs_ind (P : List Item → Prop) (hstep : ∀ c r, isWs c = true → P r → P (some c :: r)) (s : Str)
    (h : P (I (skipWs s))) : P (I s) := by
  induction s with
  | nil => exact h
  | cons c t ih =>
    by_cases hc : isWs c = true
    · rw [skipWs, if_pos hc] at h
      exact hstep c _ hc (ih h)
    · rwa [skipWs, if_neg hc] at h

theorem LOk_skipWs_val (s : Str) {acc val iv v R}
    (h : LOk (I (skipWs s)) .val acc val iv v R) : LOk (I s) .val acc val iv v R :=
  skipWs_ind (LOk · .val acc val iv v R)
    (fun _ _ hc => LOk.skip fun _ _ => by simp only [pList, isWs_isSpace hc, if_true]) s h

theorem LOk_skipWs_afterStr (s : Str) {acc val iv v R}
    (h : LOk (I (skipWs s)) .afterStr acc val iv v R) : LOk (I s) .afterStr acc val iv v R :=
  skipWs_ind (LOk · .afterStr acc val iv v R)
    (fun _ _ hc => LOk.skip fun _ _ => by
      simp only [pList, beq_iff_eq, (isWs_ne hc).1, (isWs_ne hc).2.1, if_false]) s h

theorem OOk_skipWs (s : Str) {st : OSt} (hst : st = .keyStart ∨ st = .afterKey ∨ st = .val ∨ st = .afterVal)
    {acc key val iv v R}
    (h : OOk (I (skipWs s)) st acc key val iv v R) : OOk (I s) st acc key val iv v R :=
  skipWs_ind (OOk · st acc key val iv v R)
    (fun _ _ hc => OOk.skip fun _ _ => by
      rcases hst with rfl | rfl | rfl | rfl <;> simp only [pObject, isWs_isSpace hc, if_true]) s h

theorem OOk_skipWs_afterStr (s : Str) {acc key val iv v R}
    (h : OOk (I (skipWs s)) .afterStr acc key val iv v R) : OOk (I s) .afterStr acc key val iv v R :=
  skipWs_ind (OOk · .afterStr acc key val iv v R)
    (fun _ _ hc => OOk.skip fun _ _ => by
      simp only [pObject, beq_iff_eq, (isWs_ne hc).1, (isWs_ne hc).2.2, if_false]) s h

/-- no run of number characters reaches `numRunBound` (= 9600) characters -/
def NumRunsShort (s : Str) : Prop :=
  ∀ t, t <:+: s → (∀ c ∈ t, isNumChar c = true) → t.length < numRunBound

theorem NumRunsShort.of_suffix {s r : Str} (h : NumRunsShort s) (hs : r <:+ s) : NumRunsShort r :=
  fun t ht hc => h t (ht.trans hs.isInfix) hc

theorem NumRunsShort.of_length {s : Str} (h : s.length < numRunBound) : NumRunsShort s :=
  fun _ ht _ => Nat.lt_of_le_of_lt ht.length_le h

/-- a scalar literal at the head of `s`: its text, and what `parseField` makes of it provided the text
is not a run of `numRunBound` number characters -/
def ScalarAt (s : Str) (v : JVal) (r : Str) : Prop :=
  ∃ c txt, s = (c :: txt) ++ r ∧ (∀ d ∈ c :: txt, PlainChar d) ∧
    (NumRunsShort s → ∀ line, parseField (c :: txt) line = .ok v) ∧ v.isContainer = false

theorem number_kind {s : Str} {v : JVal} {r : Str} (h : number s = some (some v, r)) : v.isContainer = false := by
  rw [number_eq] at h
  obtain ⟨neg, d0, more, fp, hasFrac, et, ex, _, _, _, hfin⟩ := number'_shape s _ r h
  obtain ⟨w, hw, hk⟩ := numFinal_some neg (d0 :: more) fp hasFrac ex r
  exact hk v (by simpa [hw] using hfin)

theorem startsWith_spec {s lit r : Str} (h : startsWith s lit = some r) : s = lit ++ r := by
  unfold startsWith at h
  split at h
  · rename_i hp
    obtain ⟨u, hu⟩ := List.isPrefixOf_iff_prefix.mp hp
    simp only [Option.some.injEq] at h
    rw [← hu] at h
    simp at h
    rw [← hu, h]
  · cases h

theorem stringBody_body {f : Nat} {t k r : Str} (h : stringBody f t [] false = some (some k, r)) :
    ∃ body, t = body ++ '"' :: r ∧ RawBody body ∧ unquoteJSON body = k :=
  (stringBody_sound _ _ _ _ _ _ h).2.unquote

theorem suffix_quote (body r : Str) : r <:+ '"' :: (body ++ '"' :: r) :=
  ((List.suffix_cons _ _).trans (List.suffix_append _ _)).trans (List.suffix_cons _ _)

theorem value_at_lbrack {f : Nat} {t : Str} {v : JVal} {r : Str} (h : value (f + 1) ('[' :: t) = .ok v r) :
    (skipWs t = ']' :: r ∧ v = .list []) ∨ elements f (skipWs t) [] = .ok v r := by
  simp only [value, beq_self_eq_true, if_true] at h
  split at h
  · rename_i r' hr
    cases h
    exact .inl ⟨hr, rfl⟩
  · exact .inr h

theorem value_at_lbrace {f : Nat} {t : Str} {v : JVal} {r : Str} (h : value (f + 1) ('{' :: t) = .ok v r) :
    (skipWs t = '}' :: r ∧ v = .obj []) ∨ members f (skipWs t) [] = .ok v r := by
  simp only [value, show ('{' == '[') = false from rfl, beq_self_eq_true, Bool.false_eq_true, if_false, if_true] at h
  split at h
  · rename_i r' hr
    cases h
    exact .inl ⟨hr, rfl⟩
  · exact .inr h

theorem value_cases (f : Nat) (s : Str) (v : JVal) (r : Str) (h : value (f + 1) s = .ok v r) :
    (∃ t, s = '[' :: t) ∨ (∃ t, s = '{' :: t) ∨
    (∃ body, s = '"' :: (body ++ '"' :: r) ∧ RawBody body ∧ v = .str (unquoteJSON body)) ∨
    ScalarAt s v r := by
  -- the three literals: the text is the literal, and `parseField` reads it as the same value
  have lit : ∀ {c0 : Char} {lit : Str} {w : JVal},
      (match startsWith s (c0 :: lit) with | some r => R.ok w r | none => .bad) = .ok v r →
      (∀ c ∈ c0 :: lit, PlainChar c) → (∀ line, parseField (c0 :: lit) line = .ok w) →
      w.isContainer = false → ScalarAt s v r := by
    intro c0 lit w h hp hpf hk
    generalize hr : startsWith s (c0 :: lit) = o at h
    rcases o with _ | r' <;> cases h
    exact ⟨c0, lit, startsWith_spec hr, hp, fun _ => hpf, hk⟩
  cases s with
  | nil => simp [value] at h
  | cons c t =>
    by_cases h1 : c = '['
    · exact .inl ⟨t, h1 ▸ rfl⟩
    by_cases h2 : c = '{'
    · exact .inr (.inl ⟨t, h2 ▸ rfl⟩)
    simp only [value, beq_iff_eq, h1, h2, if_false] at h
    by_cases h3 : c = '"'
    · subst h3
      rw [if_pos rfl] at h
      generalize hs : stringBody (t.length + 1) t [] false = sb at h
      rcases sb with _ | ⟨_ | str, r'⟩ <;> cases h
      obtain ⟨body, rfl, hraw, rfl⟩ := stringBody_body hs
      exact .inr (.inr (.inl ⟨body, rfl, hraw, rfl⟩))
    rw [if_neg h3] at h
    refine .inr (.inr (.inr ?_))
    by_cases h4 : c = 't'
    · subst h4
      rw [if_pos rfl, toList_true] at h
      exact lit h (by decide +kernel) parseField_true rfl
    rw [if_neg h4] at h
    by_cases h5 : c = 'f'
    · subst h5
      rw [if_pos rfl, toList_false] at h
      exact lit h (by decide +kernel) parseField_false rfl
    rw [if_neg h5] at h
    by_cases h6 : c = 'n'
    · subst h6
      rw [if_pos rfl, toList_null] at h
      exact lit h (by decide +kernel) parseField_null rfl
    rw [if_neg h6] at h
    generalize hn : number (c :: t) = o at h
    rcases o with _ | ⟨_ | v', r'⟩ <;> cases h
    obtain ⟨txt, hs, hne, hnc, hpf⟩ := number_parseField _ _ _ hn
    cases txt with
    | nil => contradiction
    | cons d txt =>
      exact ⟨d, txt, hs, fun c hc => plain_of_numChar (hnc c hc),
        fun hns => hpf (hns _ (hs ▸ (List.prefix_append _ _).isInfix) hnc), number_kind hn⟩

theorem elements_cases (f : Nat) (s : Str) (acc : List JVal) (v : JVal) (r : Str)
    (h : elements (f + 1) s acc = .ok v r) :
    ∃ x r1, value f s = .ok x r1 ∧
      ((∃ r', skipWs r1 = ',' :: r' ∧ elements f (skipWs r') (acc ++ [x]) = .ok v r) ∨
       (skipWs r1 = ']' :: r ∧ v = .list (acc ++ [x]))) := by
  simp only [elements] at h
  split at h
  · cases h
  · cases h
  · rename_i x r1 hv
    refine ⟨x, r1, hv, ?_⟩
    split at h
    · rename_i r' hr
      exact .inl ⟨r', hr, h⟩
    · rename_i r' hr
      cases h
      exact .inr ⟨hr, rfl⟩
    · cases h

theorem members_cases (f : Nat) (s : Str) (acc : List (Str × JVal)) (v : JVal) (r : Str)
    (h : members (f + 1) s acc = .ok v r) :
    ∃ body r0 r1 x r2, s = '"' :: (body ++ '"' :: r0) ∧ RawBody body ∧
      skipWs r0 = ':' :: r1 ∧ value f (skipWs r1) = .ok x r2 ∧
      ((∃ r', skipWs r2 = ',' :: r' ∧ members f (skipWs r') (setField acc (unquoteJSON body) x) = .ok v r) ∨
       (skipWs r2 = '}' :: r ∧ v = .obj (setField acc (unquoteJSON body) x))) := by
  simp only [members] at h
  split at h
  · rename_i t
    split at h
    · cases h
    · cases h
    · rename_i k r0 hk
      split at h
      · rename_i r1 hr1
        split at h
        · cases h
        · cases h
        · rename_i x r2 hv
          obtain ⟨body, rfl, hraw, rfl⟩ := stringBody_body hk
          refine ⟨body, r0, r1, x, r2, rfl, hraw, hr1, hv, ?_⟩
          split at h
          · rename_i r' hr
            exact .inl ⟨r', hr, h⟩
          · rename_i r' hr
            cases h
            exact .inr ⟨hr, rfl⟩
          · cases h
      · cases h
  · cases h

theorem suffix_of_cons_eq {a : Char} {s r r' : Str} (h : skipWs s = a :: r') (hr : r <:+ r') : r <:+ s :=
  (hr.trans (List.suffix_cons a r')).trans (h ▸ skipWs_suffix s)

/-- the strict decoder returns a suffix of its input; `elements` returns an array, `members` an object -/
theorem out_all : ∀ n,
    (∀ s v r, value n s = .ok v r → r <:+ s) ∧
    (∀ s acc v r, elements n s acc = .ok v r → r <:+ s ∧ ∃ xs, v = .list xs) ∧
    (∀ s acc v r, members n s acc = .ok v r → r <:+ s ∧ ∃ kvs, v = .obj kvs) := by
  intro n
  induction n with
  | zero =>
    refine ⟨?_, ?_, ?_⟩
    · intro s v r h; simp [value] at h
    · intro s acc v r h; simp [elements] at h
    · intro s acc v r h; simp [members] at h
  | succ n ih =>
    obtain ⟨ihv, ihe, ihm⟩ := ih
    refine ⟨?_, ?_, ?_⟩
    · intro s v r h
      rcases value_cases n s v r h with ⟨t, rfl⟩ | ⟨t, rfl⟩ | ⟨body, rfl, _⟩ | ⟨c, txt, hs, _⟩
      · rcases value_at_lbrack h with h | h
        · exact (suffix_of_cons_eq h.1 (List.suffix_refl r)).trans (List.suffix_cons _ _)
        · exact (((ihe _ _ _ _ h).1).trans (skipWs_suffix t)).trans (List.suffix_cons _ _)
      · rcases value_at_lbrace h with h | h
        · exact (suffix_of_cons_eq h.1 (List.suffix_refl r)).trans (List.suffix_cons _ _)
        · exact (((ihm _ _ _ _ h).1).trans (skipWs_suffix t)).trans (List.suffix_cons _ _)
      · exact suffix_quote body r
      · rw [hs]; exact List.suffix_append _ _
    · intro s acc v r h
      obtain ⟨x, r1, hv, h | h⟩ := elements_cases n s acc v r h
      · obtain ⟨r', hr, he⟩ := h
        exact ⟨(suffix_of_cons_eq hr (((ihe _ _ _ _ he).1).trans (skipWs_suffix r'))).trans (ihv _ _ _ hv),
          (ihe _ _ _ _ he).2⟩
      · exact ⟨(suffix_of_cons_eq h.1 (List.suffix_refl r)).trans (ihv _ _ _ hv), _, h.2⟩
    · intro s acc v r h
      obtain ⟨body, r0, r1, x, r2, rfl, _, hr1, hv, h⟩ := members_cases n s acc v r h
      have h2 : r2 <:+ '"' :: (body ++ '"' :: r0) :=
        (suffix_of_cons_eq hr1 ((ihv _ _ _ hv).trans (skipWs_suffix r1))).trans (suffix_quote body r0)
      rcases h with ⟨r', hr, hm⟩ | ⟨hr, hv'⟩
      · exact ⟨(suffix_of_cons_eq hr (((ihm _ _ _ _ hm).1).trans (skipWs_suffix r'))).trans h2, (ihm _ _ _ _ hm).2⟩
      · exact ⟨(suffix_of_cons_eq hr (List.suffix_refl r)).trans h2, _, hv'⟩

/-! ### what follows a value -/

/-- after an element: whitespace, then `,` and the rest of the elements, or the closing bracket -/
def LEnd (r : Str) (acc' : List JVal) (tgt : JVal) (R : List Item) : Prop :=
  (∃ r', skipWs r = ',' :: r' ∧ LOk (I r') .val acc' [] false tgt R) ∨
  (∃ r', skipWs r = ']' :: r' ∧ tgt = .list acc' ∧ R = I r')

/-- after a field value: whitespace, then `,` and the rest of the members, or the closing brace -/
def OEnd (r : Str) (acc' : List (Str × JVal)) (key : Str) (tgt : JVal) (R : List Item) : Prop :=
  (∃ r', skipWs r = ',' :: r' ∧ ∀ val iv, OOk (I r') .keyStart acc' key val iv tgt R) ∨
  (∃ r', skipWs r = '}' :: r' ∧ tgt = .obj acc' ∧ R = I r')

theorem LEnd.container {r acc' tgt R} (h : LEnd r acc' tgt R) : LOk (I r) .val acc' [] false tgt R := by
  apply LOk_skipWs_val
  rcases h with ⟨r', hr, hk⟩ | ⟨r', hr, rfl, rfl⟩
  · rw [hr, I_cons']
    exact ok_lift LRun_val_comma0 hk
  · rw [hr, I_cons']
    exact fun line => ⟨line, LRun_val_close0⟩

theorem LEnd.string {r acc' tgt R} (h : LEnd r acc' tgt R) : LOk (I r) .afterStr acc' [] false tgt R := by
  apply LOk_skipWs_afterStr
  rcases h with ⟨r', hr, hk⟩ | ⟨r', hr, rfl, rfl⟩
  · rw [hr, I_cons']
    exact ok_lift LRun_afterStr_comma hk
  · rw [hr, I_cons']
    exact fun line => ⟨line, LRun_afterStr_close⟩

theorem LEnd.scalar {r acc tgt R} {v : JVal} {txt : Str} (h : LEnd r (acc ++ [v]) tgt R) (hne : txt ≠ [])
    (hpf : ∀ line, parseField txt line = .ok v) : LOk (I r) .val acc txt true tgt R := by
  apply LOk_skipWs_val
  rcases h with ⟨r', hr, hk⟩ | ⟨r', hr, rfl, rfl⟩
  · rw [hr, I_cons']
    exact ok_lift (LRun_val_comma hne (hpf _)) hk
  · rw [hr, I_cons']
    exact fun line => ⟨line, LRun_val_close hne (hpf line)⟩

theorem OEnd.container {r acc' key val iv tgt R} (h : OEnd r acc' key tgt R) :
    OOk (I r) .afterVal acc' key val iv tgt R := by
  apply OOk_skipWs _ (.inr (.inr (.inr rfl)))
  rcases h with ⟨r', hr, hk⟩ | ⟨r', hr, rfl, rfl⟩
  · rw [hr, I_cons']
    exact ok_lift ORun_afterVal_comma (hk val iv)
  · rw [hr, I_cons']
    exact fun line => ⟨line, ORun_afterVal_close⟩

theorem OEnd.string {r acc' key val iv tgt R} (h : OEnd r acc' key tgt R) :
    OOk (I r) .afterStr acc' key val iv tgt R := by
  apply OOk_skipWs_afterStr
  rcases h with ⟨r', hr, hk⟩ | ⟨r', hr, rfl, rfl⟩
  · rw [hr, I_cons']
    exact ok_lift ORun_afterStr_comma (hk val iv)
  · rw [hr, I_cons']
    exact fun line => ⟨line, ORun_afterStr_close⟩

theorem OEnd.scalar {r acc key tgt R} {v : JVal} {txt : Str} (h : OEnd r (setField acc key v) key tgt R)
    (hne : txt ≠ []) (hpf : ∀ line, parseField txt line = .ok v) :
    OOk (I r) .val acc key txt true tgt R := by
  apply OOk_skipWs _ (.inr (.inr (.inl rfl)))
  rcases h with ⟨r', hr, hk⟩ | ⟨r', hr, rfl, rfl⟩
  · rw [hr, I_cons']
    exact ok_lift (ORun_val_comma hne (hpf _)) (hk txt true)
  · rw [hr, I_cons']
    exact fun line => ⟨line, ORun_val_close hne (hpf line)⟩

/-- the list machine follows `elements` at fuel `f` -/
def EProp (f : Nat) : Prop := ∀ s acc v r, NumRunsShort s → elements f s acc = .ok v r →
  LOk (I s) .val acc [] false v (I r)

/-- the object machine follows `members` at fuel `f` -/
def MProp (f : Nat) : Prop := ∀ s acc v r, NumRunsShort s → members f s acc = .ok v r →
  ∀ key val iv, OOk (I s) .keyStart acc key val iv v (I r)

theorem nestedL {f : Nat} (hE : EProp f) {t : Str} {v : JVal} {r : Str} (hns : NumRunsShort t)
    (h : value (f + 1) ('[' :: t) = .ok v r) : LOk (I t) .val [] [] false v (I r) := by
  apply LOk_skipWs_val
  rcases value_at_lbrack h with ⟨hr, rfl⟩ | h
  · rw [hr, I_cons']
    exact fun line => ⟨line, LRun_val_close0⟩
  · exact hE _ _ _ _ (hns.of_suffix (skipWs_suffix t)) h

theorem nestedO {f : Nat} (hM : MProp f) {t : Str} {v : JVal} {r : Str} (hns : NumRunsShort t)
    (h : value (f + 1) ('{' :: t) = .ok v r) : OOk (I t) .keyStart [] [] [] false v (I r) := by
  apply OOk_skipWs _ (.inl rfl)
  rcases value_at_lbrace h with ⟨hr, rfl⟩ | h
  · rw [hr, I_cons']
    exact fun line => ⟨line, ORun_keyStart_close⟩
  · exact hM _ _ _ _ (hns.of_suffix (skipWs_suffix t)) h _ _ _

/-- a value in element position -/
theorem valueL {f : Nat} (hE : EProp f) (hM : MProp f) {s : Str} {v : JVal} {r : Str} (hns : NumRunsShort s)
    (h : value (f + 1) s = .ok v r) {acc : List JVal} {tgt : JVal} {R : List Item}
    (hend : LEnd r (acc ++ [v]) tgt R) : LOk (I s) .val acc [] false tgt R := by
  rcases value_cases f s v r h with ⟨t, rfl⟩ | ⟨t, rfl⟩ | ⟨body, rfl, hraw, rfl⟩ | hsc
  · rw [I_cons']
    exact ok_call (nestedL hE (hns.of_suffix (List.suffix_cons _ _)) h) hend.container fun h1 h2 =>
      LRun_val_list h1 (Nat.le_of_lt (pList_ok_length (h1 _ (Nat.lt_succ_self _)))) h2
  · rw [I_cons']
    exact ok_call (nestedO hM (hns.of_suffix (List.suffix_cons _ _)) h) hend.container fun h1 h2 =>
      LRun_val_obj h1 (Nat.le_of_lt (pObject_ok_length (h1 _ (Nat.lt_succ_self _)))) h2
  · rw [I_cons', I_app, I_cons']
    refine ok_lift (fun h => LRun_val_quote (LRun_raw hraw (LRun_str_end h))) ?_
    rw [List.nil_append]
    exact hend.string
  · obtain ⟨c, txt, rfl, hp, hpf, _⟩ := hsc
    have hpf := hpf hns
    rw [I_app]
    refine ok_lift (fun h =>
      LRun_val_plain (fun d hd => hp d (by simp [hd])) (hp c (by simp)) h) ?_
    rw [List.nil_append]
    exact hend.scalar (by simp) hpf

/-- a value in field position -/
theorem valueO {f : Nat} (hE : EProp f) (hM : MProp f) {s : Str} {v : JVal} {r : Str} (hns : NumRunsShort s)
    (h : value (f + 1) s = .ok v r) {acc : List (Str × JVal)} {key : Str} {tgt : JVal} {R : List Item}
    (hend : OEnd r (setField acc key v) key tgt R) : OOk (I s) .val acc key [] false tgt R := by
  rcases value_cases f s v r h with ⟨t, rfl⟩ | ⟨t, rfl⟩ | ⟨body, rfl, hraw, rfl⟩ | hsc
  · rw [I_cons']
    exact ok_call (nestedL hE (hns.of_suffix (List.suffix_cons _ _)) h) hend.container fun h1 h2 =>
      ORun_val_list h1 (Nat.le_of_lt (pList_ok_length (h1 _ (Nat.lt_succ_self _)))) h2
  · rw [I_cons']
    exact ok_call (nestedO hM (hns.of_suffix (List.suffix_cons _ _)) h) hend.container fun h1 h2 =>
      ORun_val_obj h1 (Nat.le_of_lt (pObject_ok_length (h1 _ (Nat.lt_succ_self _)))) h2
  · rw [I_cons', I_app, I_cons']
    refine ok_lift (fun h => ORun_val_quote (ORun_raw_str hraw (ORun_str_end h))) ?_
    rw [List.nil_append]
    exact hend.string
  · obtain ⟨c, txt, rfl, hp, hpf, _⟩ := hsc
    have hpf := hpf hns
    rw [I_app]
    refine ok_lift (fun h =>
      ORun_val_plain (fun d hd => hp d (by simp [hd])) (hp c (by simp)) h) ?_
    rw [List.nil_append]
    exact hend.scalar (by simp) hpf

theorem value_ok_succ {f : Nat} {s : Str} {v : JVal} {r : Str} (h : value f s = .ok v r) : ∃ m, f = m + 1 := by
  cases f with
  | zero => simp [value] at h
  | succ m => exact ⟨m, rfl⟩

/-- both machines follow the strict decoder at every fuel -/
theorem EM_all : ∀ n, EProp n ∧ MProp n := by
  intro n
  induction n using Nat.strongRecOn with
  | _ n ih =>
    cases n with
    | zero =>
      exact ⟨fun s acc v r _ h => by simp [elements] at h, fun s acc v r _ h => by simp [members] at h⟩
    | succ n =>
      refine ⟨?_, ?_⟩
      · intro s acc v r hns h
        obtain ⟨x, r1, hv, hcase⟩ := elements_cases n s acc v r h
        obtain ⟨m, rfl⟩ := value_ok_succ hv
        have hr1 : r1 <:+ s := (out_all _).1 _ _ _ hv
        apply valueL (ih m (by omega)).1 (ih m (by omega)).2 hns hv
        rcases hcase with ⟨r', hr, he⟩ | ⟨hr, rfl⟩
        · refine .inl ⟨r', hr, ?_⟩
          apply LOk_skipWs_val
          have hs' : skipWs r' <:+ s :=
            (suffix_of_cons_eq hr ((skipWs_suffix r'))).trans hr1
          exact (ih (m + 1) (by omega)).1 _ _ _ _ (hns.of_suffix hs') he
        · exact .inr ⟨r, hr, rfl, rfl⟩
      · intro s acc v r hns h key val iv
        obtain ⟨body, r0, r1, x, r2, rfl, hraw, hr1, hv, hcase⟩ := members_cases n s acc v r h
        obtain ⟨m, rfl⟩ := value_ok_succ hv
        have h1 : skipWs r1 <:+ '"' :: (body ++ '"' :: r0) :=
          (suffix_of_cons_eq hr1 (skipWs_suffix r1)).trans (suffix_quote body r0)
        have h2 : r2 <:+ '"' :: (body ++ '"' :: r0) := ((out_all _).1 _ _ _ hv).trans h1
        rw [I_cons', I_app, I_cons']
        refine ok_lift (fun h => ORun_keyStart_quote (ORun_raw_key hraw (ORun_key_end h))) ?_
        rw [List.nil_append]
        apply OOk_skipWs _ (.inr (.inl rfl))
        rw [hr1, I_cons']
        refine ok_lift (fun h => ORun_afterKey_colon h) ?_
        apply OOk_skipWs _ (.inr (.inr (.inl rfl)))
        apply valueO (ih m (by omega)).1 (ih m (by omega)).2 (hns.of_suffix h1) hv
        rcases hcase with ⟨r', hr, hm⟩ | ⟨hr, rfl⟩
        · refine .inl ⟨r', hr, fun val' iv' => ?_⟩
          apply OOk_skipWs _ (.inl rfl)
          have hs' : skipWs r' <:+ '"' :: (body ++ '"' :: r0) :=
            (suffix_of_cons_eq hr (skipWs_suffix r')).trans h2
          exact (ih (m + 1) (by omega)).2 _ _ _ _ (hns.of_suffix hs') hm _ _ _
        · exact .inr ⟨r, hr, rfl, rfl⟩

theorem encode_append (a b : Str) : encode (a ++ b) = encode a ++ encode b := by simp [encode]

theorem encodeChar_ascii (c : Char) (b : UInt8) (hb : b ∈ encodeChar c) (hlt : b.toNat < 0x80) :
    c.toNat = b.toNat := by
  have hv := char_valid c
  -- lead bytes and continuation bytes of a longer encoding are not ASCII
  have hi : ∀ a x, b = (a + x).toUInt8 → 0x80 ≤ a → a + x < 256 → False := by
    intro a x e h1 h2; rw [e, toUInt8_toNat _ h2] at hlt; omega
  have hc : ∀ y, b = (0x80 + y % 64).toUInt8 → False := fun y e => hi _ _ e (by decide) (by omega)
  unfold encodeChar at hb
  simp only [] at hb
  by_cases h1 : c.toNat < 0x80
  · rw [if_pos h1, List.mem_singleton] at hb
    rw [hb, toUInt8_toNat _ (by omega)]
  rw [if_neg h1] at hb
  by_cases h2 : c.toNat < 0x800
  · rw [if_pos h2] at hb
    simp only [List.mem_cons, List.not_mem_nil, or_false] at hb
    rcases hb with e | e
    · exact (hi _ _ e (by decide) (by omega)).elim
    · exact (hc _ e).elim
  rw [if_neg h2] at hb
  by_cases h3 : c.toNat < 0x10000
  · rw [if_pos h3] at hb
    simp only [List.mem_cons, List.not_mem_nil, or_false] at hb
    rcases hb with e | e | e
    · exact (hi _ _ e (by decide) (by omega)).elim
    · exact (hc _ e).elim
    · exact (hc _ e).elim
  · rw [if_neg h3] at hb
    simp only [List.mem_cons, List.not_mem_nil, or_false] at hb
    rcases hb with e | e | e | e
    · exact (hi _ _ e (by decide) (by omega)).elim
    · exact (hc _ e).elim
    · exact (hc _ e).elim
    · exact (hc _ e).elim

theorem not_mem_encode (pre : Str) (c0 : Char) (b : UInt8) (hb : b.toNat < 0x80) (hc : c0.toNat = b.toNat)
    (h : c0 ∉ pre) : b ∉ encode pre := by
  intro hm
  simp only [encode, List.mem_flatMap] at hm
  obtain ⟨c, hcm, hbc⟩ := hm
  have := encodeChar_ascii c b hbc hb
  have : c = c0 := (char_eq_iff _ _).2 (by omega)
  exact h (this ▸ hcm)

/-- the list machine, started behind an opening bracket whose value the strict decoder accepts, returns
that value and stops where the strict decoder stops -/
theorem runList_value (body : Str) (fuel : Nat) (v : JVal) (rest : Str) (hns : NumRunsShort body)
    (h : value fuel ('[' :: body) = .ok v rest) (line : Nat) :
    ∃ line', runList (encode body) line = .ok v (I rest) line' := by
  obtain ⟨f, rfl⟩ := value_ok_succ h
  obtain ⟨l', hl⟩ := nestedL (EM_all f).1 hns h line
  refine ⟨l', ?_⟩
  unfold runList
  simp only [decodeAll_encode]
  exact hl _ (by simp [I])

theorem runObject_value (body : Str) (fuel : Nat) (v : JVal) (rest : Str) (hns : NumRunsShort body)
    (h : value fuel ('{' :: body) = .ok v rest) (line : Nat) :
    ∃ line', runObject (encode body) line = .ok v (I rest) line' := by
  obtain ⟨f, rfl⟩ := value_ok_succ h
  obtain ⟨l', hl⟩ := nestedO (EM_all f).2 hns h line
  refine ⟨l', ?_⟩
  unfold runObject
  simp only [decodeAll_encode]
  exact hl _ (by simp [I])

theorem splitAtByte_encode (pre body : Str) (c0 : Char) (b : UInt8) (hb : b.toNat < 0x80)
    (hc : c0.toNat = b.toNat) (he : encodeChar c0 = [b]) (h : c0 ∉ pre) :
    splitAtByte b (encode (pre ++ c0 :: body)) = some (encode pre, encode body) := by
  rw [encode_append, encode_cons, he]
  exact splitAtByte_append _ (not_mem_encode pre c0 b hb hc h)

/-- `ParseList` on a text whose first `[` opens an array the strict decoder accepts (whatever
precedes the bracket and follows the array) -/
theorem parseList_embedded (pre body : Str) (fuel : Nat) (v : JVal) (rest : Str) (hpre : '[' ∉ pre)
    (hns : NumRunsShort body) (h : value fuel ('[' :: body) = .ok v rest) :
    parseListBytes (encode (pre ++ '[' :: body)) = .ok v := by
  obtain ⟨l', hr⟩ := runList_value body fuel v rest hns h (countNL (encode pre) + 1)
  unfold parseListBytes
  rw [splitAtByte_encode pre body '[' 0x5B (by decide) (by decide) rfl hpre]
  simp only [hr]

theorem parseObject_embedded (pre body : Str) (fuel : Nat) (v : JVal) (rest : Str) (hpre : '{' ∉ pre)
    (hns : NumRunsShort body) (h : value fuel ('{' :: body) = .ok v rest) :
    parseObjectBytes (encode (pre ++ '{' :: body)) = .ok v := by
  obtain ⟨l', hr⟩ := runObject_value body fuel v rest hns h (countNL (encode pre) + 1)
  unfold parseObjectBytes
  rw [splitAtByte_encode pre body '{' 0x7B (by decide) (by decide) rfl hpre]
  simp only [hr]

theorem decode_root {s : Str} {v : JVal} (h : decode s = .ok v []) :
    ∃ w t r, s = w ++ t ∧ Ws w ∧ value (s.length + 1) t = .ok v r := by
  obtain ⟨w, hw, hw'⟩ := skipWs_spec s
  unfold decode at h
  split at h
  · rename_i v' r hv
    split at h
    · cases h; exact ⟨w, _, r, hw, hw', hv⟩
    · cases h
  · exact ⟨w, _, [], hw, hw', h⟩

theorem ws_no_bracket {w : Str} (hw : Ws w) : '[' ∉ w ∧ '{' ∉ w :=
  ⟨fun h => by have := hw _ h; revert this; decide, fun h => by have := hw _ h; revert this; decide⟩

theorem value_root {f : Nat} {s : Str} {v : JVal} {r : Str} (h : value (f + 1) s = .ok v r) :
    (∀ xs, v = .list xs → ∃ t, s = '[' :: t) ∧ (∀ kvs, v = .obj kvs → ∃ t, s = '{' :: t) := by
  rcases value_cases f s v r h with ⟨t, ht⟩ | ⟨t, ht⟩ | ⟨_, _, _, rfl⟩ | ⟨_, _, _, _, _, hk⟩
  · obtain ⟨xs, rfl⟩ : ∃ xs, v = .list xs := by
      rcases value_at_lbrack (ht ▸ h) with ⟨_, rfl⟩ | he
      · exact ⟨_, rfl⟩
      · exact ((out_all _).2.1 _ _ _ _ he).2
    exact ⟨fun _ _ => ⟨t, ht⟩, nofun⟩
  · obtain ⟨kvs, rfl⟩ : ∃ kvs, v = .obj kvs := by
      rcases value_at_lbrace (ht ▸ h) with ⟨_, rfl⟩ | hm
      · exact ⟨_, rfl⟩
      · exact ((out_all _).2.2 _ _ _ _ hm).2
    exact ⟨nofun, fun _ _ => ⟨t, ht⟩⟩
  · exact ⟨nofun, nofun⟩
  · exact ⟨(fun _ e => by subst e; cases hk), (fun _ e => by subst e; cases hk)⟩

/-- `ParseList` agrees with the strict decoder on every complete text with an array root whose
number literals are shorter than `numRunBound` = 9600 characters -/
theorem parseList_decode (s : Str) (xs : List JVal) (hns : NumRunsShort s)
    (h : decode s = .ok (.list xs) []) : parseListBytes (encode s) = .ok (.list xs) := by
  obtain ⟨w, t, r, rfl, hw, hv⟩ := decode_root h
  obtain ⟨t, rfl⟩ := (value_root hv).1 xs rfl
  exact parseList_embedded w t _ _ r (ws_no_bracket hw).1
    (hns.of_suffix ((List.suffix_cons _ _).trans (List.suffix_append _ _))) hv

theorem parseObject_decode (s : Str) (kvs : List (Str × JVal)) (hns : NumRunsShort s)
    (h : decode s = .ok (.obj kvs) []) : parseObjectBytes (encode s) = .ok (.obj kvs) := by
  obtain ⟨w, t, r, rfl, hw, hv⟩ := decode_root h
  obtain ⟨t, rfl⟩ := (value_root hv).2 kvs rfl
  exact parseObject_embedded w t _ _ r (ws_no_bracket hw).2
    (hns.of_suffix ((List.suffix_cons _ _).trans (List.suffix_append _ _))) hv

end SVP
end Anytype
