/-
An executable exact comparison of value trees with its soundness and reflexivity, and from them
`DecidableEq JVal` (`JVal` is a nested inductive type, for which `deriving DecidableEq` is not
available): equations between closed values are decided by evaluation.
-/
import Anytype.Model.Basic
namespace Anytype
namespace SVP

mutual
/-- exact structural equality of value trees (floats by bit pattern) -/
def beqJ : JVal → JVal → Bool
  | .null, .null => true
  | .bool a, .bool b => a == b
  | .int a, .int b => a == b
  | .float a, .float b => a.bits == b.bits
  | .str a, .str b => a == b
  | .list xs, .list ys => beqL xs ys
  | .obj a, .obj b => beqF a b
  | _, _ => false
def beqL : List JVal → List JVal → Bool
  | [], [] => true
  | x :: xs, y :: ys => beqJ x y && beqL xs ys
  | _, _ => false
def beqF : List (Str × JVal) → List (Str × JVal) → Bool
  | [], [] => true
  | (k, v) :: a, (k', v') :: b => k == k' && beqJ v v' && beqF a b
  | _, _ => false
end

mutual
theorem beqJ_sound : ∀ (a b : JVal), beqJ a b = true → a = b
  | .null, b, h => by cases b <;> simp [beqJ] at h ⊢
  | .bool x, b, h => by cases b <;> simp [beqJ] at h ⊢; exact h
  | .int x, b, h => by cases b <;> simp [beqJ] at h ⊢; exact h
  | .float x, b, h => by
    cases b <;> simp [beqJ] at h ⊢
    rename_i y; cases x; cases y; simp at h ⊢; exact h
  | .str x, b, h => by cases b <;> simp [beqJ] at h ⊢; exact h
  | .list xs, b, h => by
    cases b <;> simp [beqJ] at h ⊢
    exact beqL_sound xs _ h
  | .obj xs, b, h => by
    cases b <;> simp [beqJ] at h ⊢
    exact beqF_sound xs _ h
theorem beqL_sound : ∀ (a b : List JVal), beqL a b = true → a = b
  | [], b, h => by cases b <;> simp [beqL] at h ⊢
  | x :: xs, b, h => by
    cases b with
    | nil => simp [beqL] at h
    | cons y ys =>
      simp [beqL] at h
      rw [beqJ_sound x y h.1, beqL_sound xs ys h.2]
theorem beqF_sound : ∀ (a b : List (Str × JVal)), beqF a b = true → a = b
  | [], b, h => by cases b <;> simp [beqF] at h ⊢
  | (k, v) :: xs, b, h => by
    cases b with
    | nil => simp [beqF] at h
    | cons y ys =>
      obtain ⟨k', v'⟩ := y
      simp [beqF] at h
      rw [h.1.1, beqJ_sound v v' h.1.2, beqF_sound xs ys h.2]
end

mutual
theorem beqJ_refl : ∀ a : JVal, beqJ a a = true
  | .null => rfl
  | .bool b => beq_self_eq_true b
  | .int i => beq_self_eq_true i
  | .float x => beq_self_eq_true x.bits
  | .str s => beq_self_eq_true s
  | .list xs => beqL_refl xs
  | .obj kvs => beqF_refl kvs
theorem beqL_refl : ∀ xs : List JVal, beqL xs xs = true
  | [] => rfl
  | x :: xs => Bool.and_eq_true_iff.2 ⟨beqJ_refl x, beqL_refl xs⟩
theorem beqF_refl : ∀ kvs : List (Str × JVal), beqF kvs kvs = true
  | [] => rfl
  | (k, v) :: kvs =>
    Bool.and_eq_true_iff.2 ⟨Bool.and_eq_true_iff.2 ⟨beq_self_eq_true k, beqJ_refl v⟩, beqF_refl kvs⟩
end

end SVP

instance : DecidableEq JVal := fun a b =>
  decidable_of_iff (SVP.beqJ a b = true) ⟨SVP.beqJ_sound a b, fun h => h ▸ SVP.beqJ_refl a⟩

end Anytype
