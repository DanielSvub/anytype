/-
The slice-level model of list storage (`Model/Slices`) refines the plain-list reading of `[]field`
that the rest of the model uses, for every growth policy of `append`, and exclusive ownership of
backing arrays is an invariant of every list operation.
-/
import Anytype.Lemmas.SlicesOps
namespace Anytype.Slices
variable {α : Type}

theorem step_all (cfg : Cfg α) (sorted : List α → List α) (σ : SHeap α) (hw : σ.WF) (op : Op α) :
    (step cfg sorted σ op).1.WF ∧
    ((step cfg sorted σ op).1.abs, (step cfg sorted σ op).2) = astep sorted σ.abs op ∧
    ∀ c, (step cfg sorted σ op).2 = .made c →
      c = σ.cells.length ∧ ∃ s, (step cfg sorted σ op).1.cells[c]? = some s ∧ σ.mem.length ≤ s.arr := by
  cases op with
  | newList vs => exact Shape.spec (.of_alloc 0 vs rfl rfl) hw
  | newListOf v n => exact Shape.spec (.of_alloc n (List.replicate n v) rfl rfl) hw
  | newListFrom vs => exact Shape.spec (.of_alloc vs.length vs rfl rfl) hw
  | add c vs => exact (shape_add cfg sorted hw c vs).spec hw
  | insert c i v => exact (shape_insert cfg sorted hw c i v).spec hw
  | replace c i v => exact (shape_replace cfg sorted hw c i v).spec hw
  | delete c idxs =>
    obtain ⟨h1, h2, h3⟩ := deleteLoop_spec cfg hw c (idxs.mergeSort (fun x y => decide (x ≤ y))).reverse
    exact ⟨h1, h2, fun k hk => absurd hk (h3 k)⟩
  | pop c => exact (shape_pop cfg sorted hw c).spec hw
  | clear c => exact (shape_clear cfg sorted c).spec hw
  | concat c d => exact (shape_concat cfg sorted hw c d).spec hw
  | subList c start stop => exact (shape_subList cfg sorted hw c start stop).spec hw
  | reverse c => exact (shape_reverse cfg sorted hw c).spec hw
  | sort c => exact (shape_sort cfg sorted hw c).spec hw
  | clone c => exact (shape_clone cfg sorted hw c).spec hw

/-- exclusive ownership and "length within capacity" are preserved by every operation, panicking or not -/
theorem step_wf (cfg : Cfg α) (sorted : List α → List α) (σ : SHeap α) (hw : σ.WF) (op : Op α) :
    (step cfg sorted σ op).1.WF :=
  (step_all cfg sorted σ hw op).1

/-- every operation on arrays does to the contents of the cells exactly what the operation on plain lists does,
with the same outcome (panic / new cell), whatever the growth policy and the spare capacities -/
theorem step_refines (cfg : Cfg α) (sorted : List α → List α) (σ : SHeap α) (hw : σ.WF) (op : Op α) :
    ((step cfg sorted σ op).1.abs, (step cfg sorted σ op).2) = astep sorted σ.abs op :=
  (step_all cfg sorted σ hw op).2.1

/-- the same for programs of any length -/
theorem run_refines (cfg : Cfg α) (sorted : List α → List α) (σ : SHeap α) (hw : σ.WF) (ops : List (Op α)) :
    (run cfg sorted σ ops).1.WF ∧
    ((run cfg sorted σ ops).1.abs, (run cfg sorted σ ops).2) = arun sorted σ.abs ops := by
  induction ops generalizing σ with
  | nil => exact ⟨hw, rfl⟩
  | cons op rest ih =>
    have h1 := step_wf cfg sorted σ hw op
    have h2 := step_refines cfg sorted σ hw op
    rcases hstep : step cfg sorted σ op with ⟨σ', o⟩
    rw [hstep] at h1 h2
    cases o <;> simp only [run, arun, hstep, ← h2]
    · exact ih σ' h1
    · exact ih σ' h1
    · exact ⟨h1, trivial⟩

theorem empty_wf : (SHeap.empty : SHeap α).WF := by
  refine ⟨?_, List.nodup_nil⟩
  intro s h
  cases h

/-- from the empty heap: what any program leaves in the lists does not depend on capacities or on the growth policy -/
theorem run_from_empty (cfg : Cfg α) (sorted : List α → List α) (ops : List (Op α)) :
    (run cfg sorted SHeap.empty ops).1.WF ∧
    ((run cfg sorted SHeap.empty ops).1.abs, (run cfg sorted SHeap.empty ops).2) = arun sorted [] ops :=
  run_refines cfg sorted SHeap.empty empty_wf ops

theorem grow_irrelevant (cfg cfg' : Cfg α) (sorted : List α → List α) (ops : List (Op α)) :
    (run cfg sorted SHeap.empty ops).1.abs = (run cfg' sorted SHeap.empty ops).1.abs ∧
    (run cfg sorted SHeap.empty ops).2 = (run cfg' sorted SHeap.empty ops).2 := by
  have h1 := (run_from_empty cfg sorted ops).2
  have h2 := (run_from_empty cfg' sorted ops).2
  rw [← h2] at h1
  exact Prod.mk.inj h1

/-- a list that an operation creates lives in an array that did not exist before -/
theorem made_fresh (cfg : Cfg α) (sorted : List α → List α) (σ : SHeap α) (hw : σ.WF) (op : Op α) (c : Nat)
    (h : (step cfg sorted σ op).2 = .made c) :
    c = σ.cells.length ∧ ∃ s, (step cfg sorted σ op).1.cells[c]? = some s ∧ σ.mem.length ≤ s.arr :=
  (step_all cfg sorted σ hw op).2.2 c h


theorem adeleteLoop_frame {c d : Nat} (hne : c ≠ d) (is : List Nat) (ls : List (List α)) :
    (adeleteLoop c ls is).1[d]? = ls[d]? := by
  induction is generalizing ls with
  | nil => rfl
  | cons i rest ih =>
    simp only [adeleteLoop]
    split
    · rfl
    · split
      · rw [ih, List.getElem?_set_ne hne]
      · rfl

theorem astep_frame (sorted : List α → List α) (ls : List (List α)) (op : Op α) (d : Nat)
    (hd : d < ls.length) (hne : op.tgt ≠ some d) : (astep sorted ls op).1[d]? = ls[d]? := by
  cases op with
  | newList vs => exact List.getElem?_append_left hd
  | newListOf v n => exact List.getElem?_append_left hd
  | newListFrom vs => exact List.getElem?_append_left hd
  | delete c idxs => exact adeleteLoop_frame (fun h => hne (by rw [h]; rfl)) _ _
  | concat c e =>
    simp only [astep]
    split
    · exact List.getElem?_append_left hd
    · rfl
  | subList c start stop =>
    simp only [astep]
    split
    · rfl
    · split
      · exact List.getElem?_append_left hd
      · rfl
  | clone c =>
    simp only [astep]
    split
    · rfl
    · exact List.getElem?_append_left hd
  | add c vs | clear c | reverse c =>
    have hcd : c ≠ d := fun h => hne (by rw [h]; rfl)
    simp only [astep]
    split
    · rfl
    · exact List.getElem?_set_ne hcd
  | insert c i v | replace c i v | pop c | sort c =>
    have hcd : c ≠ d := fun h => hne (by rw [h]; rfl)
    simp only [astep]
    split
    · rfl
    · split
      · first | rfl | exact List.getElem?_set_ne hcd
      · first | rfl | exact List.getElem?_set_ne hcd

theorem step_frame (cfg : Cfg α) (sorted : List α → List α) (σ : SHeap α) (hw : σ.WF) (op : Op α) (d : Nat)
    (hd : d < σ.cells.length) (hne : op.tgt ≠ some d) :
    (step cfg sorted σ op).1.abs[d]? = σ.abs[d]? := by
  have h := congrArg Prod.fst (step_refines cfg sorted σ hw op)
  simp only at h
  rw [h]
  exact astep_frame sorted σ.abs op d (by rw [abs_length]; exact hd) hne

/-! ### the pinned `Concat` (defect F5) breaks ownership -/

def cfg2 : Cfg Int := ⟨0, fun c n => max (2 * c) n⟩

/-- `l := NewList(1,2,3); l.Add(4).Pop(); o := NewList(9)` — `l` has length 3 and capacity 4 -/
def σF5 : SHeap Int := (run cfg2 id SHeap.empty [.newList [1, 2, 3], .add 0 [4], .pop 0, .newList [9]]).1

theorem σF5_eq : σF5 = ⟨[[], [1], [1, 2], [1, 2, 3, 4], [], [9]], [⟨3, 3⟩, ⟨5, 1⟩]⟩ := rfl

/-- `c := l.Concat(o)` with the old code shares `l`'s array, and `l.Add(7)` then shows through `c` -/
theorem concatOld_breaks :
    σF5.WF ∧ σF5.abs = [[1, 2, 3], [9]] ∧
    ¬ (concatOld cfg2 σF5 0 1).1.WF ∧
    (concatOld cfg2 σF5 0 1).1.abs = [[1, 2, 3], [9], [1, 2, 3, 9]] ∧
    (step cfg2 id (concatOld cfg2 σF5 0 1).1 (.add 0 [7])).1.abs = [[1, 2, 3, 7], [9], [1, 2, 3, 7]] ∧
    -- the repaired Concat on the same heap
    (step cfg2 id (step cfg2 id σF5 (.concat 0 1)).1 (.add 0 [7])).1.abs = [[1, 2, 3, 7], [9], [1, 2, 3, 9]] := by
  refine ⟨(run_from_empty cfg2 id _).1, ?_, ?_, ?_, ?_, ?_⟩
  all_goals rw [σF5_eq]
  · decide
  · unfold SHeap.WF; decide
  · decide
  · decide
  · decide

#print axioms step_wf
#print axioms step_refines
#print axioms run_refines
#print axioms empty_wf
#print axioms run_from_empty
#print axioms grow_irrelevant
#print axioms made_fresh
#print axioms step_frame
#print axioms concatOld_breaks

end Anytype.Slices
