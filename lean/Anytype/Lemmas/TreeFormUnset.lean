/-
UnsetTF: the one-step equations (`unsetV_succ` with fuel, `unsetTF_walk` / `unsetTF_cons` for the call
itself), fuel independence, and what happens at the last segment: exactly the addressed field /
element is removed, or (nothing there) the heap is unchanged.
-/
import Anytype.Lemmas.TreeFormGet
import Anytype.Lemmas.Assoc
namespace Anytype
namespace TFP
open Heap

/-! ## small heap facts -/

theorem setFields_setFields (h : Heap) (a : Nat) (xs ys : List (Str × Val)) :
    (h.setFields a xs).setFields a ys = h.setFields a ys :=
  Heap.setFields_setFields h a xs ys

theorem O_unset_single (h : Heap) (a : Nat) (k : Str) :
    (O.unset h a [k]).1 = h.setFields a (delKV (h.fields a) k) := by
  simp [O.unset]

/-! ## one step of UnsetTF -/

/-- forget the fluent result of a mutator -/
def outUnit {α} (p : Heap × Out α) : Heap × Out Unit :=
  (p.1, match p.2 with | .ok _ => .ok () | .panic k => .panic k)

theorem outUnit_eq {α} (p : Heap × Out α) :
    (match p with | (h1, .ok _) => (h1, Out.ok ()) | (h1, .panic k) => (h1, Out.panic k)) = outUnit p := by
  obtain ⟨h1, o⟩ := p
  cases o <;> rfl

theorem outUnit_fst {α} (p : Heap × Out α) : (outUnit p).1 = p.1 := rfl

/-- `Delete(i)` / `Unset(k)` -/
def Slot.unset (h : Heap) : Slot → Heap × Out Unit
  | .item a i => outUnit (L.delete h a [i])
  | .field a k => ((O.unset h a [k]).1, .ok ())

theorem unsetV_succ (n : Nat) (h : Heap) (v : Val) (tf : Str) :
    unsetV (n + 1) h v tf =
      walkV v (fun p => (h, .panic p)) (Slot.unset h)
        (fun sl b rest => descend (fun p => (h, .panic p)) (sl.get h) b fun w => unsetV n h w rest) tf := by
  cases v with
  | list r =>
    show TF.unsetL (n + 1) h r.addr tf = _
    unfold TF.unsetL walkV
    dsimp only [recvSigil, readSlot]
    cases TF.strip '#' tf with
    | none => rfl
    | some t =>
      dsimp only
      cases TF.split t with
      | leaf seg =>
        dsimp only
        cases TF.parseIdx seg with
        | none => rfl
        | some i =>
          dsimp only [Option.map_some, Slot.unset]
          cases L.delete h r.addr [i] with
          | mk h1 o => cases o <;> rfl
      | dot seg rest | hash seg rest =>
        dsimp only
        cases TF.parseIdx seg with
        | none => rfl
        | some i =>
          dsimp only [L.getK, Option.map_some, Slot.get]
          cases L.get h r.addr i with
          | panic p => rfl
          | ok w => cases w <;> rfl
  | obj r =>
    show TF.unsetO (n + 1) h r.addr tf = _
    unfold TF.unsetO walkV
    dsimp only [recvSigil, readSlot]
    cases TF.strip '.' tf with
    | none => rfl
    | some t =>
      dsimp only
      cases TF.split t with
      | leaf seg => rfl
      | dot seg rest | hash seg rest =>
        dsimp only [O.getK, Slot.get]
        cases O.get h r.addr seg with
        | panic p => rfl
        | ok w => cases w <;> rfl
  | _ => rfl

theorem unsetV_fuel (h : Heap) : ∀ (n m : Nat) (v : Val) (tf : Str), tf.length < n → tf.length < m →
    unsetV n h v tf = unsetV m h v tf :=
  fuel_indep (fun n v tf => unsetV n h v tf) fun n m v tf ih => by
    rw [unsetV_succ, unsetV_succ]
    exact walkV_congr fun sl b rest hl => by
      have e : ∀ w, unsetV n h w rest = unsetV m h w rest := fun w => ih w rest hl
      simp only [e]

/-- what UnsetTF does at the last segment -/
def unsetLeaf (h : Heap) (v : Val) (s : Seg) : Heap × Out Unit :=
  match slotOf v s with
  | none => (h, .panic .badTF)
  | some sl => sl.unset h

theorem unsetTF_walk (h : Heap) (v : Val) (tf : Str) :
    unsetTF h v tf =
      walkV v (fun p => (h, .panic p)) (Slot.unset h)
        (fun sl b rest => descend (fun p => (h, .panic p)) (sl.get h) b fun w => unsetTF h w rest) tf := by
  unfold unsetTF
  rw [unsetV_succ]
  exact walkV_congr fun sl b rest hl => by
    have e : ∀ w, unsetV tf.length h w rest = unsetV (rest.length + 1) h w rest :=
      fun w => unsetV_fuel h _ _ w rest (by omega) (by omega)
    simp only [e]

theorem unsetTF_cons (h : Heap) (v : Val) (s : Seg) (q : List Seg) (hs : s.Valid) :
    unsetTF h v (render (s :: q)) =
      match q with
      | [] => unsetLeaf h v s
      | s' :: _ =>
        descend (fun p => (h, .panic p)) (getStep h v s) s'.isKey fun w => unsetTF h w (render q) := by
  rw [unsetTF_walk, walkV_render _ _ _ _ s q hs]
  unfold unsetLeaf getStep
  cases slotOf v s <;> cases q <;> rfl

/-! ## resolved: exactly the addressed field / element goes -/

/-- the heap after removing what `last` addresses in the container `c` -/
def unsetSpec (h : Heap) (c : Val) : Seg → Heap
  | .key k => match c with
    | .obj r => h.setFields r.addr (delKV (h.fields r.addr) k)
    | _ => h
  | .idx i => match c with
    | .list r => h.setItems r.addr ((h.items r.addr).eraseIdx i)
    | _ => h

theorem unsetLeaf_resolved {h : Heap} {c x : Val} {last : Seg} (hn : navStep h c last = some x) :
    unsetLeaf h c last = (unsetSpec h c last, .ok ()) := by
  cases last with
  | key k => cases c <;> simp [navStep] at hn <;> rfl
  | idx i =>
    cases c with
    | list r =>
      rw [navStep_idx_list] at hn
      obtain ⟨y, hy, _⟩ := Option.map_eq_some_iff.1 hn
      have hi := (List.getElem?_eq_some_iff.1 hy).1
      simp only [unsetLeaf, slotOf, Slot.unset, unsetSpec]
      rw [L.delete_single h r.addr (i : Int) (by omega) (by omega)]
      simp [outUnit]
    | _ => simp [navStep] at hn

theorem navigate_append (h : Heap) (v : Val) (p q : List Seg) :
    navigate h v (p ++ q) = match navigate h v p with | none => none | some w => navigate h w q := by
  induction p generalizing v with
  | nil => rfl
  | cons s p ih =>
    simp only [List.cons_append, navigate]
    cases navStep h v s with
    | none => rfl
    | some w => exact ih w

/-! ## unresolved: the heap is left as it is -/

theorem unsetLeaf_unresolved {h : Heap} {v : Val} {s : Seg} (hn : navStep h v s = none) :
    (unsetLeaf h v s).1 = h := by
  cases s with
  | key k =>
    cases v with
    | obj r =>
      rw [navStep_key_obj] at hn
      simp only [unsetLeaf, slotOf, Slot.unset, O_unset_single,
        delKV_of_not_mem (lookup_eq_none_iff.1 (Option.map_eq_none_iff.1 hn)), setFields_fields_self]
    | _ => rfl
  | idx i =>
    cases v with
    | list r =>
      rw [navStep_idx_list] at hn
      have hi := List.getElem?_eq_none_iff.1 (Option.map_eq_none_iff.1 hn)
      simp only [unsetLeaf, slotOf, Slot.unset]
      rw [L.delete_single_out h r.addr (i : Int) (by omega)]
      rfl
    | _ => rfl

end TFP
end Anytype
