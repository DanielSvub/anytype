/-
The lenient parser on serialised value trees: scalars, strings, element and field loops, and the
induction over the value tree.
-/
import Anytype.Lemmas.ParserSteps
namespace Anytype
namespace RT

theorem parseField_null (line : Nat) : parseField (ser .null) line = .ok .null := rfl

/-- `parseField` tries `null`, the integer reader and the float reader before `parseBool`; that these
three reject the texts `true` and `false` is shown by evaluation -/
theorem parseField_bool_of {s : Str} {b : Bool} (h0 : (s == ['n', 'u', 'l', 'l']) = false)
    (h1 : parseIntBase0 s = none) (h2 : F64.parseFloat s = none) (h3 : parseBool s = some b) (line : Nat) :
    parseField s line = .ok (.bool b) := by
  simp only [parseField, h0, h1, h2, h3]; rfl

theorem parseField_true (line : Nat) : parseField (ser (.bool true)) line = .ok (.bool true) :=
  parseField_bool_of (by decide +kernel) (by decide +kernel) (by decide +kernel) (by decide +kernel) line

theorem parseField_false (line : Nat) : parseField (ser (.bool false)) line = .ok (.bool false) :=
  parseField_bool_of (by decide +kernel) (by decide +kernel) (by decide +kernel) (by decide +kernel) line

theorem parseField_int (i : Int) (hi : InRange i) (line : Nat) :
    parseField (ser (.int i)) line = .ok (.int i) := by
  simp [parseField, ser, numLike_ne_null (itoa_numLike i), parseIntBase0_itoa i hi]

theorem parseField_float (hf : FmtContract) (x : F64) (hx : x.isFinite = true) (line : Nat) :
    parseField (ser (.float x)) line = .ok (.float x) := by
  simp [parseField, ser, numLike_ne_null (serF_numLike hf x hx), hf.not_int x hx, hf.parse_back x hx]

/-! ### string bodies are accumulated verbatim by the `.str` / `.key` states -/

/-- texts made of characters other than `"`, `\` and newline, and of backslashes each with the
character behind it -/
inductive Verbatim : Str → Prop
  | nil : Verbatim []
  | plain {c s} : c ≠ '"' → c ≠ '\\' → c ≠ '\n' → Verbatim s → Verbatim (c :: s)
  | esc {e s} : e ≠ '\n' → Verbatim s → Verbatim ('\\' :: e :: s)

theorem Verbatim.append {a b : Str} (ha : Verbatim a) (hb : Verbatim b) : Verbatim (a ++ b) := by
  induction ha with
  | nil => exact hb
  | plain h1 h2 h3 _ ih => exact .plain h1 h2 h3 ih
  | esc h3 _ ih => exact .esc h3 ih

theorem verbatim_escChar (c : Char) : Verbatim (escChar c) := by
  rcases escChar_cases c with ⟨_, e⟩ | ⟨_, e⟩ | ⟨_, e⟩ | ⟨_, e⟩ | ⟨_, e⟩ | ⟨_, e⟩ | ⟨_, e⟩ | ⟨hlt, e⟩ | ⟨hge, h1, h2, e⟩
  all_goals rw [e]
  iterate 7 exact .esc (by decide) .nil
  · have a := hexDigit_ne (c.toNat / 16) (Nat.div_lt_of_lt_mul (Nat.lt_trans hlt (by decide)))
    have b := hexDigit_ne (c.toNat % 16) (Nat.mod_lt _ (by decide))
    exact .esc (by decide) (.plain (by decide) (by decide) (by decide) (.plain (by decide) (by decide)
      (by decide) (.plain a.1 a.2.1 a.2.2 (.plain b.1 b.2.1 b.2.2 .nil))))
  · exact .plain h1 h2 (by rintro rfl; revert hge; decide) .nil

theorem verbatim_quoteBody (s : Str) : Verbatim (quoteBody s) := by
  induction s with
  | nil => exact .nil
  | cons c s ih => rw [quoteBody_cons]; exact (verbatim_escChar c).append ih

theorem Verbatim.run {P : Str → List Item → Prop}
    (hplain : ∀ {c val rest}, c ≠ '"' → c ≠ '\\' → c ≠ '\n' → P (val ++ [c]) rest → P val (some c :: rest))
    (hesc : ∀ {e val rest}, e ≠ '\n' → P (val ++ ['\\', e]) rest → P val (some '\\' :: some e :: rest))
    {t : Str} (ht : Verbatim t) {rest : List Item} : ∀ {val : Str}, P (val ++ t) rest → P val (I t ++ rest) := by
  induction ht with
  | nil => intro val h; simpa using h
  | plain h1 h2 h3 _ ih => intro val h; exact hplain h1 h2 h3 (ih (by simpa using h))
  | esc h3 _ ih => intro val h; exact hesc h3 (ih (by simpa using h))

theorem I_quoteJSON (s : Str) (rest : List Item) :
    I (quoteJSON s) ++ rest = some '"' :: (I (quoteBody s) ++ some '"' :: rest) := by
  simp [I, quoteJSON]

theorem ORun_key (k : Str) {rest acc key val inVal line R}
    (h : ORun rest .val acc k [] false line R) :
    ORun (I (quoteJSON k) ++ some ':' :: rest) .keyStart acc key val inVal line R := by
  rw [I_quoteJSON]
  apply ORun_keyStart_quote
  apply (verbatim_quoteBody k).run (P := fun v r => ORun r .key acc v val inVal line R)
    (fun h1 h2 h3 h => ORun_key_plain h1 h2 h3 h) (fun h3 h => ORun_key_esc h3 h)
  apply ORun_key_end
  apply ORun_afterKey_colon
  simpa [unquoteJSON_quoteBody] using h

instance (c : Char) : Decidable (PlainChar c) := by unfold PlainChar; infer_instance

theorem plain_of_numChar {c : Char} (h : isNumChar c = true) : PlainChar c := by
  refine ⟨isSpace_of_numChar h, ?_, ?_, ?_, ?_, ?_, ?_⟩ <;> (rintro rfl; exact absurd h (by decide))

/-- the text of a scalar is a non-empty run of plain characters that `parseField` reads back -/
structure ScalarText (x : JVal) : Prop where
  plain : ∀ c ∈ ser x, PlainChar c
  ne : ser x ≠ []
  pf : ∀ line, parseField (ser x) line = .ok x

theorem ScalarText.cons {x : JVal} (hx : ScalarText x) :
    ∃ c s, ser x = c :: s ∧ PlainChar c ∧ ∀ d ∈ s, PlainChar d := by
  obtain ⟨c, s, e⟩ := List.exists_cons_of_ne_nil hx.ne
  exact ⟨c, s, e, hx.plain c (e ▸ List.mem_cons_self), fun d hd => hx.plain d (e ▸ List.mem_cons_of_mem _ hd)⟩

/-! ### one element / one field value, given that nested containers parse back -/

/-- the nested machine call on the text of a container returns that container and the text
behind its closing bracket -/
def Nested : JVal → Prop
  | .list xs => ∀ (rest : List Item) (line : Nat),
      LRun (I (serList xs) ++ some ']' :: rest) .val [] [] false line (.ok (.list xs) rest line)
  | .obj kvs => ∀ (rest : List Item) (line : Nat),
      ORun (I (serFields kvs) ++ some '}' :: rest) .keyStart [] [] [] false line (.ok (.obj kvs) rest line)
  | _ => True

theorem length_le_append_cons {α} (a : List α) (x : α) (t : List α) : t.length ≤ (a ++ x :: t).length := by
  rw [List.length_append, List.length_cons]; omega

theorem I_ser_list (xs : List JVal) (rest : List Item) :
    I (ser (.list xs)) ++ rest = some '[' :: (I (serList xs) ++ some ']' :: rest) := by
  simp [I, ser]

theorem I_ser_obj (kvs : List (Str × JVal)) (rest : List Item) :
    I (ser (.obj kvs)) ++ rest = some '{' :: (I (serFields kvs) ++ some '}' :: rest) := by
  simp [I, ser]

theorem scalarText_or (hf : FmtContract) : (x : JVal) → x.WF →
    ScalarText x ∨ (∃ s, x = .str s) ∨ (∃ xs, x = .list xs) ∨ ∃ kvs, x = .obj kvs
  | .null, _ => .inl ⟨by decide +kernel, by decide, parseField_null⟩
  | .bool false, _ => .inl ⟨by decide +kernel, by decide, parseField_false⟩
  | .bool true, _ => .inl ⟨by decide +kernel, by decide, parseField_true⟩
  | .int i, hw =>
    .inl ⟨fun c hc => plain_of_numChar ((itoa_numLike i).2 c hc), (itoa_numLike i).1, parseField_int i hw⟩
  | .float x, hw =>
    .inl ⟨fun c hc => plain_of_numChar (hf.chars x hw c hc), hf.nonempty x hw, parseField_float hf x hw⟩
  | .str s, _ => .inr (.inl ⟨s, rfl⟩)
  | .list xs, _ => .inr (.inr (.inl ⟨xs, rfl⟩))
  | .obj kvs, _ => .inr (.inr (.inr ⟨kvs, rfl⟩))

/-- The text of an element `x` brings the list machine to one of three configurations, according to
the kind of `x`; `tail` (a delimiter and what follows it) is read from there.  A scalar is still
pending in `val`, a string or a container has been appended. -/
theorem LRun_elem (hf : FmtContract) (x : JVal) (hw : x.WF) (hn : Nested x) {tail acc line R}
    (hscalar : ScalarText x → LRun tail .val acc (ser x) true line R)
    (hstr : LRun tail .afterStr (acc ++ [x]) [] false line R)
    (hcont : LRun tail .val (acc ++ [x]) [] false line R) :
    LRun (I (ser x) ++ tail) .val acc [] false line R := by
  rcases scalarText_or hf x hw with hx | ⟨s, rfl⟩ | ⟨xs, rfl⟩ | ⟨kvs, rfl⟩
  · obtain ⟨c, s, e, hc, hs⟩ := hx.cons
    have h := hscalar hx
    rw [e] at h ⊢
    exact LRun_val_plain hs hc h
  · rw [ser, I_quoteJSON]
    refine LRun_val_quote ((verbatim_quoteBody s).run (P := fun v r => LRun r .str acc v false line R)
      (fun h1 h2 h3 h => LRun_str_plain h1 h2 h3 h) (fun h3 h => LRun_str_esc h3 h) (LRun_str_end ?_))
    simpa [unquoteJSON_quoteBody] using hstr
  · rw [I_ser_list]
    exact LRun_val_list (hn _ line) (length_le_append_cons ..) hcont
  · rw [I_ser_obj]
    exact LRun_val_obj (hn _ line) (length_le_append_cons ..) hcont

theorem ORun_elem (hf : FmtContract) (x : JVal) (hw : x.WF) (hn : Nested x) {tail acc key line R}
    (hscalar : ScalarText x → ORun tail .val acc key (ser x) true line R)
    (hstr : ∀ val, ORun tail .afterStr (setField acc key x) key val false line R)
    (hcont : ORun tail .afterVal (setField acc key x) key [] false line R) :
    ORun (I (ser x) ++ tail) .val acc key [] false line R := by
  rcases scalarText_or hf x hw with hx | ⟨s, rfl⟩ | ⟨xs, rfl⟩ | ⟨kvs, rfl⟩
  · obtain ⟨c, s, e, hc, hs⟩ := hx.cons
    have h := hscalar hx
    rw [e] at h ⊢
    exact ORun_val_plain hs hc h
  · rw [ser, I_quoteJSON]
    refine ORun_val_quote ((verbatim_quoteBody s).run (P := fun v r => ORun r .str acc key v false line R)
      (fun h1 h2 h3 h => ORun_str_plain h1 h2 h3 h) (fun h3 h => ORun_str_esc h3 h) (ORun_str_end ?_))
    simpa [unquoteJSON_quoteBody] using hstr _
  · rw [I_ser_list]
    exact ORun_val_list (hn _ line) (length_le_append_cons ..) hcont
  · rw [I_ser_obj]
    exact ORun_val_obj (hn _ line) (length_le_append_cons ..) hcont

theorem I_append (a b : Str) (rest : List Item) : I (a ++ b) ++ rest = I a ++ (I b ++ rest) := by
  simp [I]
theorem I_cons (c : Char) (b : Str) (rest : List Item) : I (c :: b) ++ rest = some c :: (I b ++ rest) := by
  simp [I]

theorem LRun_listBody (hf : FmtContract) (xs : List JVal) (hx : ∀ x ∈ xs, x.WF ∧ Nested x) :
    ∀ (acc : List JVal) (rest : List Item) (line : Nat),
    LRun (I (serList xs) ++ some ']' :: rest) .val acc [] false line (.ok (.list (acc ++ xs)) rest line) := by
  induction xs with
  | nil =>
    intro acc rest line
    simpa [serList, I] using LRun_val_close0 (rest := rest) (acc := acc) (inVal := false) (line := line)
  | cons x xs ih =>
    intro acc rest line
    have hx0 := hx x List.mem_cons_self
    cases xs with
    | nil =>
      rw [serList_single]
      exact LRun_elem hf x hx0.1 hx0.2 (fun hs => LRun_val_close hs.ne (hs.pf line)) LRun_afterStr_close
        LRun_val_close0
    | cons y ys =>
      rw [serList_cons_cons, I_append, I_cons]
      have := ih (fun z hz => hx z (List.mem_cons_of_mem _ hz)) (acc ++ [x]) rest line
      rw [List.append_assoc] at this
      exact LRun_elem hf x hx0.1 hx0.2 (fun hs => LRun_val_comma hs.ne (hs.pf line) this)
        (LRun_afterStr_comma this) (LRun_val_comma0 this)

theorem ORun_fieldsBody (hf : FmtContract) (kvs : List (Str × JVal)) (hx : ∀ kv ∈ kvs, kv.2.WF ∧ Nested kv.2) :
    ∀ (acc : List (Str × JVal)) (key val : Str) (inVal : Bool) (rest : List Item) (line : Nat),
    ((acc ++ kvs).map Prod.fst).Nodup →
    ORun (I (serFields kvs) ++ some '}' :: rest) .keyStart acc key val inVal line
      (.ok (.obj (acc ++ kvs)) rest line) := by
  induction kvs with
  | nil =>
    intro acc key val inVal rest line _
    simpa [serFields, I] using
      ORun_keyStart_close (rest := rest) (acc := acc) (key := key) (val := val) (inVal := inVal) (line := line)
  | cons kv kvs ih =>
    intro acc key val inVal rest line hnd
    obtain ⟨k, v⟩ := kv
    have hx0 := hx (k, v) List.mem_cons_self
    have hk : k ∉ acc.map Prod.fst := by
      simp only [List.map_append, List.map_cons] at hnd
      exact fun hm => (List.nodup_append.mp hnd).2.2 k hm k List.mem_cons_self rfl
    cases kvs with
    | nil =>
      rw [serFields_single, I_append, I_cons]
      apply ORun_key
      have hc := setField_append acc k v hk
      exact ORun_elem hf v hx0.1 hx0.2 (fun hs => hc ▸ ORun_val_close hs.ne (hs.pf line))
        (fun _ => hc ▸ ORun_afterStr_close) (hc ▸ ORun_afterVal_close)
    | cons y ys =>
      rw [serFields_cons_cons, I_append, I_cons, I_append, I_cons]
      apply ORun_key
      have := fun val' inVal' =>
        ih (fun z hz => hx z (List.mem_cons_of_mem _ hz)) (acc ++ [(k, v)]) k val' inVal' rest line (by rw [List.append_assoc]; exact hnd)
      simp only [List.append_assoc, List.singleton_append] at this
      rw [← setField_append acc k v hk] at this
      exact ORun_elem hf v hx0.1 hx0.2 (fun hs => ORun_val_comma hs.ne (hs.pf line) (this _ _))
        (fun _ => ORun_afterStr_comma (this _ _)) (ORun_afterVal_comma (this _ _))

/-! ### every well-formed container parses back (induction over the value tree) -/

mutual
theorem nested_all (hf : FmtContract) : (v : JVal) → v.WF → Nested v
  | .null, _ => trivial
  | .bool _, _ => trivial
  | .int _, _ => trivial
  | .float _, _ => trivial
  | .str _, _ => trivial
  | .list xs, hw => fun rest line => LRun_listBody hf xs (nested_list hf xs hw) [] rest line
  | .obj kvs, hw => fun rest line =>
    ORun_fieldsBody hf kvs (nested_fields hf kvs hw.2) [] [] [] false rest line hw.1
theorem nested_list (hf : FmtContract) : (xs : List JVal) → WFList xs → ∀ x ∈ xs, x.WF ∧ Nested x
  | [], _ => nofun
  | x :: xs, hw => List.forall_mem_cons.2 ⟨⟨hw.1, nested_all hf x hw.1⟩, nested_list hf xs hw.2⟩
theorem nested_fields (hf : FmtContract) : (kvs : List (Str × JVal)) → WFFields kvs →
    ∀ kv ∈ kvs, kv.2.WF ∧ Nested kv.2
  | [], _ => nofun
  | (_, v) :: kvs, hw => List.forall_mem_cons.2 ⟨⟨hw.1, nested_all hf v hw.1⟩, nested_fields hf kvs hw.2⟩
end

end RT
end Anytype
