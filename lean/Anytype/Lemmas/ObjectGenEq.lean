/-
The definitions that `vextract` translates from the Go source of the object operations, of
`parseVal` and of `native` (`Anytype/Generated/ObjectGen.lean`, regenerated on every run) are equal
to the hand-written model (`Model/ObjectOps.lean`, `Model/Normalize.lean`) that the theorems are
about — pointwise, for all arguments.

The scripts stay generic in the generated side: they unfold a translated definition by its name,
rewrite the calls of other translated functions with their `…Gen_eq` theorem and the recursive call
with the induction hypothesis, and leave the comparison to `gen_case`.  Of the generated side they
mention the names of the translated definitions (the seven loops of `NewObjectFrom` among them),
never the names of locals, the order of the arms or the shape of the decision trees, so they survive
regeneration after harmless edits and fail when the translated behaviour differs from the model.
Where the model states a loop in closed form (`map`, `any`, `find?`, `foldl`, "allocate the finished
list") the loop lemma is that closed form, by induction with the heap lemmas of Lemmas/Heap.lean.  The typed `MapX` loops are identified by their recursion equations, which a
translated loop has by unfolding (`mapKLoop_unique`).  Where a function only passes on what a loop
returns, that result is named and split once, before the flavours of the argument.
-/
import Anytype.Generated.ObjectGen
import Anytype.Lemmas.Heap
namespace Anytype

open Generated

/-- closes one case: syntactic agreement; or one test, whose outcome then decides the same test on the other side; or
exhaustive splitting -/
local macro "gen_case" : tactic =>
  `(tactic| first
    | rfl
    | (split <;> simp only [*] <;> done)
    | (repeat' split) <;> first | rfl | (simp_all; done))

theorem setLoopGen_eq (h : Heap) (a : Nat) (pairs : O.Pairs) :
    setLoopGen h a pairs = O.setLoop h a pairs := by
  induction pairs generalizing h with
  | nil => simp only [setLoopGen, O.setLoop]
  | cons x xs ih =>
    obtain ⟨k, g⟩ := x
    cases k <;> simp only [setLoopGen, O.setLoop, ih] <;> gen_case

theorem setGen_eq (h : Heap) (a : Nat) (pairs : O.Pairs) (odd : Bool) :
    setGen h a pairs odd = O.set h a pairs odd := by
  simp only [setGen, O.set, setLoopGen_eq]
  generalize O.setLoop _ _ _ = r
  rcases r with ⟨h1, _ | p⟩ <;> rfl

theorem newGen_eq (h : Heap) (pairs : O.Pairs) (odd : Bool) :
    newGen h pairs odd = O.new h pairs odd := by
  simp only [newGen, O.new, setGen_eq] <;> gen_case

theorem getGen_eq (h : Heap) (a : Nat) (key : Str) : getGen h a key = O.get h a key := by
  simp only [getGen, O.get] <;> gen_case

theorem unsetLoopGen_eq (h : Heap) (a : Nat) (keys : List Str) :
    unsetLoopGen h a keys = h.setFields a (keys.foldl delKV (h.fields a)) := by
  induction keys generalizing h with
  | nil => simp only [unsetLoopGen, List.foldl_nil, Heap.setFields_fields_self]
  | cons k ks ih =>
    simp only [unsetLoopGen, ih, List.foldl_cons, Heap.setFields_setFields]
    cases ho : h.isObj a with
    | true => rw [Heap.fields_setFields_same _ ho]
    | false => simp only [Heap.setFields_of_not_isObj _ ho]

theorem unsetGen_eq (h : Heap) (a : Nat) (keys : List Str) : unsetGen h a keys = O.unset h a keys := by
  simp only [unsetGen, O.unset, unsetLoopGen_eq]

theorem clearGen_eq (h : Heap) (a : Nat) : clearGen h a = O.clear h a := by
  simp only [clearGen, O.clear, Heap.egoRef_setFields]

theorem getObjectGen_eq (h : Heap) (a : Nat) (key : Str) : getObjectGen h a key = O.getK h a .object key := by
  simp only [getObjectGen, O.getK, getGen_eq] <;> gen_case
theorem getListGen_eq (h : Heap) (a : Nat) (key : Str) : getListGen h a key = O.getK h a .list key := by
  simp only [getListGen, O.getK, getGen_eq] <;> gen_case
theorem getStringGen_eq (h : Heap) (a : Nat) (key : Str) : getStringGen h a key = O.getK h a .string key := by
  simp only [getStringGen, O.getK, getGen_eq] <;> gen_case
theorem getBoolGen_eq (h : Heap) (a : Nat) (key : Str) : getBoolGen h a key = O.getK h a .bool key := by
  simp only [getBoolGen, O.getK, getGen_eq] <;> gen_case
theorem getIntGen_eq (h : Heap) (a : Nat) (key : Str) : getIntGen h a key = O.getK h a .int key := by
  simp only [getIntGen, O.getK, getGen_eq] <;> gen_case
theorem getFloatGen_eq (h : Heap) (a : Nat) (key : Str) : getFloatGen h a key = O.getK h a .float key := by
  simp only [getFloatGen, O.getK, getGen_eq] <;> gen_case

theorem typeOfGen_eq (h : Heap) (a : Nat) (key : Str) : typeOfGen h a key = O.typeOf h a key := by
  unfold typeOfGen O.typeOf
  cases lookup (h.fields a) key with
  | none => rfl
  | some v => cases v <;> rfl

theorem keyExistsGen_eq (h : Heap) (a : Nat) (key : Str) : keyExistsGen h a key = O.keyExists h a key := by
  unfold keyExistsGen O.keyExists
  (repeat' split) <;> simp_all

theorem countGen_eq (h : Heap) (a : Nat) : countGen h a = O.count h a := rfl

theorem emptyGen_eq (h : Heap) (a : Nat) : emptyGen h a = O.empty h a := by
  simp only [emptyGen, O.empty, countGen_eq] <;> gen_case

theorem dictLoopGen_eq (h : Heap) (fs acc : List (Str × Val)) :
    dictLoopGen h fs acc = acc ++ fs.map (fun kv => (kv.1, h.getVal kv.2)) := by
  induction fs generalizing acc with
  | nil => simp [dictLoopGen]
  | cons x xs ih => obtain ⟨k, v⟩ := x; simp [dictLoopGen, ih]

theorem dictGen_eq (h : Heap) (a : Nat) : dictGen h a = O.dict h a := by
  simp [dictGen, O.dict, dictLoopGen_eq]

theorem fields_append_fresh (h : Heap) (c : Cell) (hc : c = .obj [] 0 ∨ c = .list [] 0) (a : Nat) :
    (h ++ [c]).fields a = h.fields a := by
  unfold Heap.fields
  by_cases hlt : a < h.length
  · rw [List.getElem?_append_left hlt]
  · rw [List.getElem?_append_right (Nat.le_of_not_lt hlt), List.getElem?_eq_none (Nat.le_of_not_lt hlt)]
    rcases hc with rfl | rfl <;> cases a - h.length <;> rfl

theorem keysLoopGen_eq (h : Heap) (xs : List Val) (fs : List (Str × Val)) :
    keysLoopGen (h ++ [Cell.list xs 0]) h.length fs
      = h ++ [Cell.list (xs ++ fs.map (fun kv => .str kv.1)) 0] := by
  induction fs generalizing xs with
  | nil => simp [keysLoopGen]
  | cons x rest ih =>
    obtain ⟨k, v⟩ := x
    simp [keysLoopGen, Heap.setItems, Heap.items, ih]

theorem keysGen_eq (h : Heap) (a : Nat) : keysGen h a = O.keys h a := by
  simp only [keysGen, O.keys, fields_append_fresh h _ (Or.inr rfl), keysLoopGen_eq, List.nil_append]

theorem valuesLoopGen_eq (h : Heap) (xs : List Val) (fs : List (Str × Val)) :
    valuesLoopGen (h ++ [Cell.list xs 0]) h.length fs
      = h ++ [Cell.list (xs ++ fs.map (fun kv => h.getVal kv.2)) 0] := by
  induction fs generalizing xs with
  | nil => simp [valuesLoopGen]
  | cons x rest ih =>
    obtain ⟨k, v⟩ := x
    simp [valuesLoopGen, Heap.setItems, Heap.items, Heap.getVal_append_list, ih]

theorem valuesGen_eq (h : Heap) (a : Nat) : valuesGen h a = O.values h a := by
  simp only [valuesGen, O.values, fields_append_fresh h _ (Or.inr rfl), valuesLoopGen_eq, List.nil_append]

theorem containsLoopGen_eq (h : Heap) (value : Val) (fs : List (Str × Val)) :
    containsLoopGen h value fs = fs.any (fun kv => L.goEq (h.getVal kv.2) value) := by
  induction fs with
  | nil => simp [containsLoopGen]
  | cons x xs ih =>
    obtain ⟨k, v⟩ := x
    simp only [containsLoopGen, List.any_cons, ih]
    cases L.goEq (h.getVal v) value <;> rfl

theorem containsGen_eq (h : Heap) (a : Nat) (value : Val) : containsGen h a value = O.contains h a value := by
  simp only [containsGen, O.contains, containsLoopGen_eq]

theorem keyOfLoopGen_eq (h : Heap) (value : Val) (fs : List (Str × Val)) :
    keyOfLoopGen h value fs
      = match fs.find? (fun kv => L.goEq (h.getVal kv.2) value) with
        | some kv => .ok kv.1
        | none => .panic .noValue := by
  induction fs with
  | nil => simp [keyOfLoopGen]
  | cons x xs ih =>
    obtain ⟨k, v⟩ := x
    cases hc : L.goEq (h.getVal v) value <;> simp [keyOfLoopGen, hc, ih]

theorem keyOfGen_eq (h : Heap) (a : Nat) (value : Val) : keyOfGen h a value = O.keyOf h a value := by
  simp only [keyOfGen, O.keyOf, keyOfLoopGen_eq] <;> rfl

theorem pluckLoopGen_eq (h : Heap) (a res : Nat) (keys : List Str) :
    pluckLoopGen h a res keys = O.pluckLoop h a res keys := by
  induction keys generalizing h with
  | nil => simp only [pluckLoopGen, O.pluckLoop]
  | cons k ks ih => simp only [pluckLoopGen, O.pluckLoop, getGen_eq, ih] <;> gen_case

theorem pluckGen_eq (h : Heap) (a : Nat) (keys : List Str) : pluckGen h a keys = O.pluck h a keys := by
  simp only [pluckGen, O.pluck, pluckLoopGen_eq] <;> gen_case

theorem mergeLoopGen_eq (h : Heap) (r : Ref) (fs : List (Str × Val)) :
    mergeLoopGen h r fs
      = h.setFields r.addr (fs.foldl (fun acc kv => setKV acc kv.1 (h.getVal kv.2)) (h.fields r.addr)) := by
  induction fs generalizing h with
  | nil => simp only [mergeLoopGen, List.foldl_nil, Heap.setFields_fields_self]
  | cons x xs ih =>
    obtain ⟨k, v⟩ := x
    simp only [mergeLoopGen, ih, List.foldl_cons, Heap.setFields_setFields, Heap.getVal_setFields]
    cases ho : h.isObj r.addr with
    | true => rw [Heap.fields_setFields_same _ ho]
    | false => simp only [Heap.setFields_of_not_isObj _ ho]

theorem mergeGen_eq (h : Heap) (a another : Nat) : mergeGen h a another = O.merge h a another := by
  simp only [mergeGen, O.merge, mergeLoopGen_eq] <;> gen_case

theorem forEachLoopGen_eq (h : Heap) (fs log : List (Str × Val)) :
    forEachLoopGen h fs log = log ++ fs.map (fun kv => (kv.1, h.getVal kv.2)) := by
  induction fs generalizing log with
  | nil => simp [forEachLoopGen]
  | cons x xs ih => obtain ⟨k, v⟩ := x; simp [forEachLoopGen, ih]

theorem forEachGen_eq (h : Heap) (a : Nat) : forEachGen h a = O.forEach h a := by
  simp [forEachGen, O.forEach, forEachLoopGen_eq]

theorem forEachValueLoopGen_eq (h : Heap) (fs : List (Str × Val)) (log : List Val) :
    forEachValueLoopGen h fs log = log ++ fs.map (fun kv => h.getVal kv.2) := by
  induction fs generalizing log with
  | nil => simp [forEachValueLoopGen]
  | cons x xs ih => obtain ⟨k, v⟩ := x; simp [forEachValueLoopGen, ih]

theorem forEachValueGen_eq (h : Heap) (a : Nat) : forEachValueGen h a = O.forEachValue h a := by
  simp [forEachValueGen, O.forEachValue, O.forEach, forEachValueLoopGen_eq, Function.comp_def]

/-- the typed loop `loop` of `ForEachX` is `O.forEachKLoop` at its kind: induction over the fields, both sides unfolded one step -/
local macro "foreach_k" loop:ident : tactic =>
  `(tactic| (
    intro h fs log
    induction fs generalizing log with
    | nil => simp only [$loop:ident, O.forEachKLoop]
    | cons x xs ih =>
      obtain ⟨k, v⟩ := x
      simp only [$loop:ident, O.forEachKLoop, ih] <;> gen_case))

theorem forEachObjectLoopGen_eq : ∀ (h : Heap) (fs : List (Str × Val)) (log : List Val),
    forEachObjectLoopGen h fs log = O.forEachKLoop h .object fs log := by foreach_k forEachObjectLoopGen
theorem forEachListLoopGen_eq : ∀ (h : Heap) (fs : List (Str × Val)) (log : List Val),
    forEachListLoopGen h fs log = O.forEachKLoop h .list fs log := by foreach_k forEachListLoopGen
theorem forEachStringLoopGen_eq : ∀ (h : Heap) (fs : List (Str × Val)) (log : List Val),
    forEachStringLoopGen h fs log = O.forEachKLoop h .string fs log := by foreach_k forEachStringLoopGen
theorem forEachBoolLoopGen_eq : ∀ (h : Heap) (fs : List (Str × Val)) (log : List Val),
    forEachBoolLoopGen h fs log = O.forEachKLoop h .bool fs log := by foreach_k forEachBoolLoopGen
theorem forEachIntLoopGen_eq : ∀ (h : Heap) (fs : List (Str × Val)) (log : List Val),
    forEachIntLoopGen h fs log = O.forEachKLoop h .int fs log := by foreach_k forEachIntLoopGen
theorem forEachFloatLoopGen_eq : ∀ (h : Heap) (fs : List (Str × Val)) (log : List Val),
    forEachFloatLoopGen h fs log = O.forEachKLoop h .float fs log := by foreach_k forEachFloatLoopGen

theorem forEachObjectGen_eq (h : Heap) (a : Nat) : forEachObjectGen h a = O.forEachK h a .object := by
  simp only [forEachObjectGen, O.forEachK, forEachObjectLoopGen_eq]
theorem forEachListGen_eq (h : Heap) (a : Nat) : forEachListGen h a = O.forEachK h a .list := by
  simp only [forEachListGen, O.forEachK, forEachListLoopGen_eq]
theorem forEachStringGen_eq (h : Heap) (a : Nat) : forEachStringGen h a = O.forEachK h a .string := by
  simp only [forEachStringGen, O.forEachK, forEachStringLoopGen_eq]
theorem forEachBoolGen_eq (h : Heap) (a : Nat) : forEachBoolGen h a = O.forEachK h a .bool := by
  simp only [forEachBoolGen, O.forEachK, forEachBoolLoopGen_eq]
theorem forEachIntGen_eq (h : Heap) (a : Nat) : forEachIntGen h a = O.forEachK h a .int := by
  simp only [forEachIntGen, O.forEachK, forEachIntLoopGen_eq]
theorem forEachFloatGen_eq (h : Heap) (a : Nat) : forEachFloatGen h a = O.forEachK h a .float := by
  simp only [forEachFloatGen, O.forEachK, forEachFloatLoopGen_eq]

theorem mapLoopGen_eq (f : Str → Val → GoVal) (res : Nat) (h : Heap) (fs : List (Str × Val)) :
    mapLoopGen h f res fs = O.mapLoop res f h fs := by
  induction fs generalizing h with
  | nil => simp only [mapLoopGen, O.mapLoop]
  | cons x xs ih => obtain ⟨k, v⟩ := x; simp only [mapLoopGen, O.mapLoop, ih] <;> gen_case

theorem mapGen_eq (h : Heap) (a : Nat) (f : Str → Val → GoVal) : mapGen h a f = O.map h a f := by
  simp only [mapGen, O.map, mapLoopGen_eq, fields_append_fresh h _ (Or.inl rfl)] <;> gen_case

theorem mapValuesLoopGen_eq (f : Val → GoVal) (res : Nat) (h : Heap) (fs : List (Str × Val)) :
    mapValuesLoopGen h f res fs = O.mapLoop res (fun _ v => f v) h fs := by
  induction fs generalizing h with
  | nil => simp only [mapValuesLoopGen, O.mapLoop]
  | cons x xs ih => obtain ⟨k, v⟩ := x; simp only [mapValuesLoopGen, O.mapLoop, ih] <;> gen_case

theorem mapValuesGen_eq (h : Heap) (a : Nat) (f : Val → GoVal) : mapValuesGen h a f = O.mapValues h a f := by
  simp only [mapValuesGen, O.mapValues, O.map, mapValuesLoopGen_eq, fields_append_fresh h _ (Or.inl rfl)] <;> gen_case

theorem mapKLoop_unique (res : Nat) (kd : Kind) (f : Val → GoVal) {g : Heap → List (Str × Val) → Heap × Out Unit}
    (g0 : ∀ h, g h [] = (h, .ok ()))
    (g1 : ∀ h k item rest, g h ((k, item) :: rest) =
      match L.sel h (L.viaGetValL kd) kd item with
      | none => g h rest
      | some val =>
        match parseVal h (f val) with
        | (h2, .panic p) => (h2, .panic p)
        | (h2, .ok v) => g (h2.setFields res (setKV (h2.fields res) k v)) rest) :
    ∀ fs h, g h fs = O.mapKLoop res kd f h fs := by
  intro fs
  induction fs with
  | nil => exact g0
  | cons x xs ih =>
    obtain ⟨k, item⟩ := x
    intro h
    rw [g1, O.mapKLoop]
    simp only [ih]
    cases L.sel h (L.viaGetValL kd) kd item <;> rfl

theorem mapObjectsGen_eq (h : Heap) (a : Nat) (f : Val → GoVal) : mapObjectsGen h a f = O.mapK h a .object f := by
  simp only [mapObjectsGen, O.mapK, fields_append_fresh h _ (Or.inl rfl),
    mapKLoop_unique h.length .object f (g := (mapObjectsLoopGen · f h.length)) (fun _ => rfl)
      (fun _ _ _ _ => by rw [mapObjectsLoopGen]; rfl)] <;> gen_case
theorem mapListsGen_eq (h : Heap) (a : Nat) (f : Val → GoVal) : mapListsGen h a f = O.mapK h a .list f := by
  simp only [mapListsGen, O.mapK, fields_append_fresh h _ (Or.inl rfl),
    mapKLoop_unique h.length .list f (g := (mapListsLoopGen · f h.length)) (fun _ => rfl)
      (fun _ _ _ _ => by rw [mapListsLoopGen]; rfl)] <;> gen_case
theorem mapStringsGen_eq (h : Heap) (a : Nat) (f : Val → GoVal) : mapStringsGen h a f = O.mapK h a .string f := by
  simp only [mapStringsGen, O.mapK, fields_append_fresh h _ (Or.inl rfl),
    mapKLoop_unique h.length .string f (g := (mapStringsLoopGen · f h.length)) (fun _ => rfl)
      (fun _ _ _ _ => by rw [mapStringsLoopGen]; rfl)] <;> gen_case
theorem mapBoolsGen_eq (h : Heap) (a : Nat) (f : Val → GoVal) : mapBoolsGen h a f = O.mapK h a .bool f := by
  simp only [mapBoolsGen, O.mapK, fields_append_fresh h _ (Or.inl rfl),
    mapKLoop_unique h.length .bool f (g := (mapBoolsLoopGen · f h.length)) (fun _ => rfl)
      (fun _ _ _ _ => by rw [mapBoolsLoopGen]; rfl)] <;> gen_case
theorem mapIntsGen_eq (h : Heap) (a : Nat) (f : Val → GoVal) : mapIntsGen h a f = O.mapK h a .int f := by
  simp only [mapIntsGen, O.mapK, fields_append_fresh h _ (Or.inl rfl),
    mapKLoop_unique h.length .int f (g := (mapIntsLoopGen · f h.length)) (fun _ => rfl)
      (fun _ _ _ _ => by rw [mapIntsLoopGen]; rfl)] <;> gen_case
theorem mapFloatsGen_eq (h : Heap) (a : Nat) (f : Val → GoVal) : mapFloatsGen h a f = O.mapK h a .float f := by
  simp only [mapFloatsGen, O.mapK, fields_append_fresh h _ (Or.inl rfl),
    mapKLoop_unique h.length .float f (g := (mapFloatsLoopGen · f h.length)) (fun _ => rfl)
      (fun _ _ _ _ => by rw [mapFloatsLoopGen]; rfl)] <;> gen_case

theorem parseValGen_eq (h : Heap) (g : GoVal) : parseValGen h g = parseVal h g := by
  cases g with
  | intw w v => cases w <;> rfl
  | slice fl xs =>
    -- both sides pass on what the loop of `NewListFrom` returns
    unfold parseValGen
    simp only [L.newFrom, parseVal]
    generalize addEach (h ++ [Cell.list [] 0]) h.length xs = r
    rcases r with ⟨h1, _ | k⟩ <;> cases fl <;> rfl
  | map fl kvs =>
    unfold parseValGen
    simp only [O.newFrom, parseVal]
    generalize setEach (h ++ [Cell.obj [] 0]) h.length kvs = r
    rcases r with ⟨h1, _ | k⟩ <;> cases fl <;> rfl
  | _ => rfl

/-- a loop `for key, value := range s { ego.Set(key, value) }` is `setEach` -/
local macro "set_each" loop:ident : tactic =>
  `(tactic| (
    intro kvs
    induction kvs with
    | nil => intro h; simp only [$loop:ident, setEach]
    | cons x xs ih =>
      intro h
      obtain ⟨k, g⟩ := x
      simp only [$loop:ident, setEach, ih] <;> gen_case))

theorem newObjectFromLoopGen_eq (a : Nat) : ∀ (kvs : List (Str × GoVal)) (h : Heap),
    newObjectFromLoopGen h a kvs = setEach h a kvs := by set_each newObjectFromLoopGen
theorem newObjectFromLoop2Gen_eq (a : Nat) : ∀ (kvs : List (Str × GoVal)) (h : Heap),
    newObjectFromLoop2Gen h a kvs = setEach h a kvs := by set_each newObjectFromLoop2Gen
theorem newObjectFromLoop3Gen_eq (a : Nat) : ∀ (kvs : List (Str × GoVal)) (h : Heap),
    newObjectFromLoop3Gen h a kvs = setEach h a kvs := by set_each newObjectFromLoop3Gen
theorem newObjectFromLoop4Gen_eq (a : Nat) : ∀ (kvs : List (Str × GoVal)) (h : Heap),
    newObjectFromLoop4Gen h a kvs = setEach h a kvs := by set_each newObjectFromLoop4Gen
theorem newObjectFromLoop5Gen_eq (a : Nat) : ∀ (kvs : List (Str × GoVal)) (h : Heap),
    newObjectFromLoop5Gen h a kvs = setEach h a kvs := by set_each newObjectFromLoop5Gen
theorem newObjectFromLoop6Gen_eq (a : Nat) : ∀ (kvs : List (Str × GoVal)) (h : Heap),
    newObjectFromLoop6Gen h a kvs = setEach h a kvs := by set_each newObjectFromLoop6Gen
theorem newObjectFromLoop7Gen_eq (a : Nat) : ∀ (kvs : List (Str × GoVal)) (h : Heap),
    newObjectFromLoop7Gen h a kvs = setEach h a kvs := by set_each newObjectFromLoop7Gen

theorem newObjectFromGen_eq (h : Heap) (g : GoVal) : newObjectFromGen h g = O.newFrom h g := by
  cases g with
  | map fl kvs =>
    simp only [O.newFrom, parseVal]
    unfold newObjectFromGen
    generalize hr : setEach (h ++ [Cell.obj [] 0]) h.length kvs = r
    rcases r with ⟨h1, _ | p⟩ <;> cases fl <;>
      simp only [newObjectFromLoopGen_eq, newObjectFromLoop2Gen_eq, newObjectFromLoop3Gen_eq,
        newObjectFromLoop4Gen_eq, newObjectFromLoop5Gen_eq, newObjectFromLoop6Gen_eq, newObjectFromLoop7Gen_eq, hr]
  | _ => rfl

mutual
theorem nativeGen_eq : ∀ t : JVal, nativeGen t = toNative t
  | .null => rfl
  | .bool _ => rfl
  | .int _ => rfl
  | .float _ => rfl
  | .str _ => rfl
  | .list xs => congrArg NVal.slice (nativeListGen_eq xs)
  | .obj kvs => congrArg NVal.dict (nativeFieldsGen_eq kvs)
theorem nativeListGen_eq : ∀ xs : List JVal, nativeListGen xs = toNativeList xs
  | [] => rfl
  | x :: xs => by simp only [nativeListGen, toNativeList, nativeGen_eq x, nativeListGen_eq xs]
theorem nativeFieldsGen_eq : ∀ kvs : List (Str × JVal), nativeFieldsGen kvs = toNativeFields kvs
  | [] => rfl
  | (k, x) :: kvs => by simp only [nativeFieldsGen, toNativeFields, nativeGen_eq x, nativeFieldsGen_eq kvs]
end

/-! ### scripts for one typed family at a time -/

theorem viaGetValL_object : L.viaGetValL .object = false := rfl
theorem viaGetValL_list : L.viaGetValL .list = false := rfl
theorem viaGetValL_string : L.viaGetValL .string = true := rfl
theorem viaGetValL_bool : L.viaGetValL .bool = true := rfl
theorem viaGetValL_int : L.viaGetValL .int = true := rfl
theorem viaGetValL_float : L.viaGetValL .float = true := rfl

local macro "map_k" loop:ident : tactic =>
  `(tactic| (
    intro f res h fs
    induction fs generalizing h with
    | nil => simp only [$loop:ident, O.mapKLoop]
    | cons x xs ih =>
      obtain ⟨k, v⟩ := x
      simp only [$loop:ident, O.mapKLoop, ih, viaGetValL_object, viaGetValL_list, viaGetValL_string,
        viaGetValL_bool, viaGetValL_int, viaGetValL_float] <;> gen_case))

end Anytype

#print axioms Anytype.setGen_eq
#print axioms Anytype.newGen_eq
#print axioms Anytype.getGen_eq
#print axioms Anytype.unsetGen_eq
#print axioms Anytype.clearGen_eq
#print axioms Anytype.getObjectGen_eq
#print axioms Anytype.getListGen_eq
#print axioms Anytype.getStringGen_eq
#print axioms Anytype.getBoolGen_eq
#print axioms Anytype.getIntGen_eq
#print axioms Anytype.getFloatGen_eq
#print axioms Anytype.typeOfGen_eq
#print axioms Anytype.keyExistsGen_eq
#print axioms Anytype.countGen_eq
#print axioms Anytype.emptyGen_eq
#print axioms Anytype.dictGen_eq
#print axioms Anytype.keysGen_eq
#print axioms Anytype.valuesGen_eq
#print axioms Anytype.containsGen_eq
#print axioms Anytype.keyOfGen_eq
#print axioms Anytype.pluckGen_eq
#print axioms Anytype.mergeGen_eq
#print axioms Anytype.forEachGen_eq
#print axioms Anytype.forEachValueGen_eq
#print axioms Anytype.forEachObjectGen_eq
#print axioms Anytype.forEachListGen_eq
#print axioms Anytype.forEachStringGen_eq
#print axioms Anytype.forEachBoolGen_eq
#print axioms Anytype.forEachIntGen_eq
#print axioms Anytype.forEachFloatGen_eq
#print axioms Anytype.mapGen_eq
#print axioms Anytype.mapValuesGen_eq
#print axioms Anytype.mapObjectsGen_eq
#print axioms Anytype.mapListsGen_eq
#print axioms Anytype.mapStringsGen_eq
#print axioms Anytype.mapBoolsGen_eq
#print axioms Anytype.mapIntsGen_eq
#print axioms Anytype.mapFloatsGen_eq
#print axioms Anytype.parseValGen_eq
#print axioms Anytype.newObjectFromGen_eq
#print axioms Anytype.nativeGen_eq
#print axioms Anytype.nativeListGen_eq
#print axioms Anytype.nativeFieldsGen_eq
