/-
The strict decoder reads every layout of a well-formed tree back: `ser v` with whitespace between the
tokens (`layout`). The compact text `ser v` is the layout without whitespace (property C02); the layout
`pretty` of `Lemmas/Indent.lean` is another instance.
-/
import Anytype.Lemmas.Strict
import Anytype.Lemmas.SerChars
namespace Anytype
namespace Strict

/-- what may follow a value inside a serialised text -/
def Delim (rest : Str) : Prop := rest = [] ∨ ∃ c t, rest = c :: t ∧ (c = ',' ∨ c = ']' ∨ c = '}')

theorem Delim.numStop {rest : Str} (h : Delim rest) : NumStop rest := by
  intro c t e
  rcases h with h | ⟨c', t', e', h⟩
  · rw [h] at e; cases e
  · rw [e'] at e; cases e
    rcases h with rfl | rfl | rfl <;> decide

theorem Delim.rbrack (t : Str) : Delim (']' :: t) := Or.inr ⟨_, _, rfl, Or.inr (Or.inl rfl)⟩

theorem numStop_cons (c : Char) (t : Str)
    (h : F64.isDigit c = false ∧ c ≠ '.' ∧ c ≠ 'e' ∧ c ≠ 'E' ∧ c ≠ '+' ∧ c ≠ '-') : NumStop (c :: t) := by
  intro c' t' e; cases e; exact h

theorem skipWs_cons {c : Char} (t : Str) (h : isWs c = false) : skipWs (c :: t) = c :: t := by
  simp [skipWs, h]

theorem isWs_of_numChar {c : Char} (h : isNumChar c = true) : isWs c = false := by
  simp only [isWs, Bool.or_eq_false_iff, beq_eq_false_iff_ne]
  exact ⟨⟨⟨numChar_ne h rfl, numChar_ne h rfl⟩, numChar_ne h rfl⟩, numChar_ne h rfl⟩

theorem value_numLike (s rest : Str) (f : Nat) (hs : NumLike s) (v : JVal) (r : Str)
    (hn : number (s ++ rest) = some (some v, r)) :
    value (f + 1) (s ++ rest) = .ok v r := by
  obtain ⟨hne, hc⟩ := hs
  cases s with
  | nil => contradiction
  | cons c t =>
    have hm := hc c List.mem_cons_self
    rw [List.cons_append] at hn ⊢
    simp only [value, beq_iff_eq, numChar_ne hm (d := '[') rfl, numChar_ne hm (d := '{') rfl,
      numChar_ne hm (d := '"') rfl, numChar_ne hm (d := 't') rfl, numChar_ne hm (d := 'f') rfl,
      numChar_ne hm (d := 'n') rfl, if_false, hn]

theorem toList_null : "null".toList = ['n','u','l','l'] := by decide
theorem toList_true : "true".toList = ['t','r','u','e'] := by decide
theorem toList_false : "false".toList = ['f','a','l','s','e'] := by decide

theorem value_null (f : Nat) (rest : Str) : value (f + 1) (ser .null ++ rest) = .ok .null rest := by
  simp [ser, value, startsWith, toList_null]

theorem value_true (f : Nat) (rest : Str) : value (f + 1) (ser (.bool true) ++ rest) = .ok (.bool true) rest := by
  simp [ser, value, startsWith, toList_true]

theorem value_false (f : Nat) (rest : Str) : value (f + 1) (ser (.bool false) ++ rest) = .ok (.bool false) rest := by
  simp [ser, value, startsWith, toList_false]

theorem stringBody_quoteJSON (k rest : Str) :
    stringBody ((quoteBody k ++ '"' :: rest).length + 1) (quoteBody k ++ '"' :: rest) [] false =
      some (some k, rest) :=
  stringBody_quoteBody k _ [] rest (by have := quoteBody_length k; simp; omega)

theorem value_str (f : Nat) (rest : Str) (s : Str) :
    value (f + 1) (ser (.str s) ++ rest) = .ok (.str s) rest := by
  simp only [ser, quoteJSON, List.cons_append, List.append_assoc, List.nil_append, value]
  rw [stringBody_quoteJSON]
  simp

/-- a serialised value starts with a character that is neither whitespace nor a closing bracket -/
def GoodHead (s : Str) : Prop := ∃ c t, s = c :: t ∧ isWs c = false ∧ c ≠ ']' ∧ c ≠ '}'

theorem numLike_goodHead {s : Str} (h : NumLike s) : GoodHead s := by
  obtain ⟨hne, hc⟩ := h
  cases s with
  | nil => contradiction
  | cons c t =>
    have hn := hc c List.mem_cons_self
    exact ⟨c, t, rfl, isWs_of_numChar hn, numChar_ne hn rfl, numChar_ne hn rfl⟩

theorem GoodHead.append {s : Str} (h : GoodHead s) (r : Str) : GoodHead (s ++ r) := by
  obtain ⟨c, t, e, h⟩ := h
  exact ⟨c, t ++ r, by rw [e]; rfl, h⟩

/-- a text of JSON whitespace -/
def Ws (w : Str) : Prop := ∀ c ∈ w, isWs c = true

theorem ws_nil : Ws [] := nofun

theorem skipWs_ws {w : Str} (h : Ws w) {c : Char} (t : Str) (hc : isWs c = false) :
    skipWs (w ++ c :: t) = c :: t := by
  induction w with
  | nil => exact skipWs_cons t hc
  | cons a w ih =>
    simp only [List.cons_append, skipWs, h a List.mem_cons_self, if_true]
    exact ih fun x hx => h x (List.mem_cons_of_mem _ hx)

theorem GoodHead.skipWs_ws {w t : Str} (hg : GoodHead t) (h : Ws w) : skipWs (w ++ t) = t := by
  obtain ⟨c, t, rfl, hc, _⟩ := hg
  exact Strict.skipWs_ws h t hc

theorem numStop_ws {w t : Str} (h : Ws w) (ht : NumStop t) : NumStop (w ++ t) := by
  cases w with
  | nil => exact ht
  | cons c w =>
    have := h c List.mem_cons_self
    simp only [isWs, Bool.or_eq_true, beq_iff_eq] at this
    exact numStop_cons _ _ (by rcases this with ((rfl | rfl) | rfl) | rfl <;> decide)

/-! ### single steps of the decoder; `w`, `w1`, `w2` are whitespace -/

theorem value_list_ws (f : Nat) (w t : Str) (hw : Ws w) (h : GoodHead t) :
    value (f + 1) ('[' :: (w ++ t)) = elements f t [] := by
  obtain ⟨c, t', e, _, hc, _⟩ := id h
  simp only [value, beq_self_eq_true, if_true, h.skipWs_ws hw]
  subst e
  split
  · rename_i h1; simp at h1; exact absurd h1.1 hc
  · rfl

theorem value_list_nonempty (f : Nat) (t : Str) (h : GoodHead t) :
    value (f + 1) ('[' :: t) = elements f t [] :=
  value_list_ws f [] t ws_nil h

theorem value_obj_ws (f : Nat) (w t : Str) (hw : Ws w) (h : GoodHead t) :
    value (f + 1) ('{' :: (w ++ t)) = members f t [] := by
  obtain ⟨c, t', e, _, _, hc⟩ := id h
  simp only [value, beq_self_eq_true, if_true, h.skipWs_ws hw]
  subst e
  split
  · contradiction
  · split
    · rename_i h1; simp at h1; exact absurd h1.1 hc
    · rfl

theorem elements_last_ws (f : Nat) (s w r' : Str) (acc : List JVal) (v : JVal)
    (h : value f s = .ok v (w ++ ']' :: r')) (hw : Ws w) :
    elements (f + 1) s acc = .ok (.list (acc ++ [v])) r' := by
  simp [elements, h, skipWs_ws hw r' (c := ']') rfl]

theorem elements_last (f : Nat) (s r' : Str) (acc : List JVal) (v : JVal)
    (h : value f s = .ok v (']' :: r')) : elements (f + 1) s acc = .ok (.list (acc ++ [v])) r' :=
  elements_last_ws f s [] r' acc v h ws_nil

theorem elements_comma (f : Nat) (s w t : Str) (acc : List JVal) (v : JVal)
    (h : value f s = .ok v (',' :: (w ++ t))) (hw : Ws w) (hg : GoodHead t) :
    elements (f + 1) s acc = elements f t (acc ++ [v]) := by
  simp [elements, h, skipWs, isWs, hg.skipWs_ws hw]

theorem members_last (f : Nat) (k w1 r1 w2 r' : Str) (acc : List (Str × JVal)) (v : JVal)
    (h1 : Ws w1) (hg : GoodHead r1) (h : value f r1 = .ok v (w2 ++ '}' :: r')) (h2 : Ws w2) :
    members (f + 1) (quoteJSON k ++ ':' :: (w1 ++ r1)) acc = .ok (.obj (setField acc k v)) r' := by
  simp only [quoteJSON, List.cons_append, List.append_assoc, List.nil_append, members]
  rw [stringBody_quoteJSON]
  simp [skipWs, isWs, hg.skipWs_ws h1, h, skipWs_ws h2 r' (c := '}') rfl]

theorem members_comma (f : Nat) (k w1 r1 w2 t : Str) (acc : List (Str × JVal)) (v : JVal)
    (h1 : Ws w1) (hg : GoodHead r1) (h : value f r1 = .ok v (',' :: (w2 ++ t))) (h2 : Ws w2)
    (ht : GoodHead t) :
    members (f + 1) (quoteJSON k ++ ':' :: (w1 ++ r1)) acc = members f t (setField acc k v) := by
  simp only [quoteJSON, List.cons_append, List.append_assoc, List.nil_append, members]
  rw [stringBody_quoteJSON]
  simp [skipWs, isWs, hg.skipWs_ws h1, h, ht.skipWs_ws h2]

/-! ### layouts

`layout nl sp d v` is `ser v` with whitespace between the tokens: `nl (d + 1)` in front of every element
of a non-empty container at depth `d`, `nl d` in front of its closing bracket, `sp` after every colon.
`ser` is the layout without whitespace, `pretty n` the one with `newline n` and one space. -/

mutual
def layout (nl : Nat → Str) (sp : Str) (d : Nat) : JVal → Str
  | .list (x :: xs) => '[' :: nl (d + 1) ++ layoutList nl sp (d + 1) (x :: xs) ++ nl d ++ [']']
  | .obj (kv :: kvs) => '{' :: nl (d + 1) ++ layoutFields nl sp (d + 1) (kv :: kvs) ++ nl d ++ ['}']
  | v => ser v
def layoutList (nl : Nat → Str) (sp : Str) (d : Nat) : List JVal → Str
  | [] => []
  | [x] => layout nl sp d x
  | x :: y :: ys => layout nl sp d x ++ ',' :: nl d ++ layoutList nl sp d (y :: ys)
def layoutFields (nl : Nat → Str) (sp : Str) (d : Nat) : List (Str × JVal) → Str
  | [] => []
  | [(k, x)] => quoteJSON k ++ ':' :: sp ++ layout nl sp d x
  | (k, x) :: kv :: kvs =>
    quoteJSON k ++ ':' :: sp ++ layout nl sp d x ++ ',' :: nl d ++ layoutFields nl sp d (kv :: kvs)
end

mutual
theorem layout_ser (d : Nat) : (v : JVal) → layout (fun _ => []) [] d v = ser v
  | .list (x :: xs) => by simp [layout, ser, layoutList_ser (d + 1) (x :: xs)]
  | .obj (kv :: kvs) => by simp [layout, ser, layoutFields_ser (d + 1) (kv :: kvs)]
  | .null | .bool _ | .int _ | .float _ | .str _ | .list [] | .obj [] => rfl
theorem layoutList_ser (d : Nat) : (xs : List JVal) → layoutList (fun _ => []) [] d xs = serList xs
  | [] => rfl
  | [x] => by rw [layoutList, serList_single, layout_ser]
  | x :: y :: ys => by
    rw [layoutList, serList_cons_cons, layout_ser, layoutList_ser d (y :: ys)]; simp
theorem layoutFields_ser (d : Nat) : (kvs : List (Str × JVal)) →
    layoutFields (fun _ => []) [] d kvs = serFields kvs
  | [] => rfl
  | [(k, x)] => by rw [layoutFields, serFields_single, layout_ser]; simp
  | (k, x) :: kv :: kvs => by
    rw [layoutFields, serFields_cons_cons, layout_ser, layoutFields_ser d (kv :: kvs)]; simp
end

section
variable {nl : Nat → Str} {sp : Str}

theorem layout_goodHead (hf : FmtContract) (d : Nat) (v : JVal) (hw : v.WF) :
    GoodHead (layout nl sp d v) := by
  cases v with
  | null => exact ⟨'n', _, rfl, by decide⟩
  | bool b => cases b <;> exact ⟨_, _, rfl, by decide⟩
  | int i => exact numLike_goodHead (itoa_numLike i)
  | float x => exact numLike_goodHead (serF_numLike hf x hw)
  | str s => exact ⟨'"', _, rfl, by decide⟩
  | list xs => cases xs <;> exact ⟨'[', _, rfl, by decide⟩
  | obj kvs => cases kvs <;> exact ⟨'{', _, rfl, by decide⟩

theorem layoutList_goodHead (hf : FmtContract) (d : Nat) (x : JVal) (xs : List JVal) (hw : x.WF) :
    GoodHead (layoutList nl sp d (x :: xs)) := by
  cases xs with
  | nil => exact layout_goodHead hf d x hw
  | cons y ys => rw [layoutList, List.append_assoc]; exact (layout_goodHead hf d x hw).append _

theorem layoutFields_goodHead (d : Nat) (kv : Str × JVal) (kvs : List (Str × JVal)) :
    GoodHead (layoutFields nl sp d (kv :: kvs)) := by
  obtain ⟨k, v⟩ := kv
  cases kvs <;> exact ⟨'"', _, rfl, by decide⟩

/-! the strict decoder reads every layout of a well-formed tree back -/
mutual
theorem value_layout (hf : FmtContract) (hnl : ∀ d, Ws (nl d)) (hsp : Ws sp) :
    (v : JVal) → v.WF → ∀ (d fuel : Nat) (rest : Str),
    (layout nl sp d v).length < fuel → NumStop rest → value fuel (layout nl sp d v ++ rest) = .ok v rest
  | _, _, _, 0, _, h, _ => absurd h (Nat.not_lt_zero _)
  | .null, _, _, f + 1, rest, _, _ => value_null f rest
  | .bool true, _, _, f + 1, rest, _, _ => value_true f rest
  | .bool false, _, _, f + 1, rest, _, _ => value_false f rest
  | .int i, hw, _, f + 1, rest, _, hr =>
    value_numLike _ _ _ (itoa_numLike i) _ _ (number_append _ _ _ (number_itoa i hw) hr)
  | .float x, hw, _, f + 1, rest, _, hr =>
    value_numLike _ _ _ (serF_numLike hf x hw) _ _ (number_append _ _ _ (hf.strict x hw) hr)
  | .str s, _, _, f + 1, rest, _, _ => value_str f rest s
  | .list [], _, _, f + 1, rest, _, _ => by simp [layout, ser, serList, value, skipWs, isWs]
  | .list (x :: xs), hw, d, f + 1, rest, hfu, _ => by
    simp only [layout, List.cons_append, List.append_assoc] at hfu ⊢
    rw [value_list_ws f _ _ (hnl _) ((layoutList_goodHead hf (d + 1) x xs hw.1).append _)]
    exact elements_layout hf hnl hsp (x :: xs) hw (by simp) d f [] rest (by simp at hfu; omega)
  | .obj [], _, _, f + 1, rest, _, _ => by simp [layout, ser, serFields, value, skipWs, isWs]
  | .obj (kv :: kvs), hw, d, f + 1, rest, hfu, _ => by
    simp only [layout, List.cons_append, List.append_assoc] at hfu ⊢
    rw [value_obj_ws f _ _ (hnl _) ((layoutFields_goodHead (d + 1) kv kvs).append _)]
    exact members_layout hf hnl hsp (kv :: kvs) hw.2 (by simp) d f [] rest (by simp at hfu; omega) hw.1
theorem elements_layout (hf : FmtContract) (hnl : ∀ d, Ws (nl d)) (hsp : Ws sp) :
    (xs : List JVal) → WFList xs → xs ≠ [] →
    ∀ (d fuel : Nat) (acc : List JVal) (rest : Str), (layoutList nl sp (d + 1) xs).length + 1 < fuel →
    elements fuel (layoutList nl sp (d + 1) xs ++ (nl d ++ ']' :: rest)) acc = .ok (.list (acc ++ xs)) rest
  | [], _, h, _, _, _, _, _ => absurd rfl h
  | _, _, _, _, 0, _, _, h => absurd h (Nat.not_lt_zero _)
  | [x], hw, _, d, f + 1, acc, rest, hfu => by
    rw [layoutList] at hfu ⊢
    exact elements_last_ws f _ _ rest acc x
      (value_layout hf hnl hsp x hw.1 (d + 1) f _ (by omega)
        (numStop_ws (hnl d) (numStop_cons _ _ (by decide)))) (hnl d)
  | x :: y :: ys, hw, _, d, f + 1, acc, rest, hfu => by
    rw [layoutList] at hfu ⊢
    simp only [List.length_append, List.length_cons] at hfu
    simp only [List.append_assoc, List.cons_append]
    rw [elements_comma f _ _ _ acc x
        (value_layout hf hnl hsp x hw.1 (d + 1) f _ (by omega) (numStop_cons _ _ (by decide))) (hnl _)
        ((layoutList_goodHead hf (d + 1) y ys hw.2.1).append _),
      elements_layout hf hnl hsp (y :: ys) hw.2 (by simp) d f _ rest (by omega)]
    simp
theorem members_layout (hf : FmtContract) (hnl : ∀ d, Ws (nl d)) (hsp : Ws sp) :
    (kvs : List (Str × JVal)) → WFFields kvs → kvs ≠ [] →
    ∀ (d fuel : Nat) (acc : List (Str × JVal)) (rest : Str),
    (layoutFields nl sp (d + 1) kvs).length + 1 < fuel → ((acc ++ kvs).map Prod.fst).Nodup →
    members fuel (layoutFields nl sp (d + 1) kvs ++ (nl d ++ '}' :: rest)) acc =
      .ok (.obj (acc ++ kvs)) rest
  | [], _, h, _, _, _, _, _, _ => absurd rfl h
  | _, _, _, _, 0, _, _, h, _ => absurd h (Nat.not_lt_zero _)
  | [(k, v)], hw, _, d, f + 1, acc, rest, hfu, hnd => by
    rw [layoutFields] at hfu ⊢
    simp only [List.length_append, List.length_cons] at hfu
    simp only [List.append_assoc, List.cons_append]
    rw [members_last f k _ _ _ rest acc v hsp ((layout_goodHead hf (d + 1) v hw.1).append _)
        (value_layout hf hnl hsp v hw.1 (d + 1) f _ (by omega)
          (numStop_ws (hnl d) (numStop_cons _ _ (by decide)))) (hnl d),
      setField_fresh hnd]
  | (k, v) :: kv :: kvs, hw, _, d, f + 1, acc, rest, hfu, hnd => by
    rw [layoutFields] at hfu ⊢
    simp only [List.length_append, List.length_cons] at hfu
    simp only [List.append_assoc, List.cons_append]
    rw [members_comma f k _ _ _ _ acc v hsp ((layout_goodHead hf (d + 1) v hw.1).append _)
        (value_layout hf hnl hsp v hw.1 (d + 1) f _ (by omega) (numStop_cons _ _ (by decide))) (hnl _)
        ((layoutFields_goodHead (d + 1) kv kvs).append _),
      setField_fresh hnd,
      members_layout hf hnl hsp (kv :: kvs) hw.2 (by simp) d f _ rest (by omega) (by simpa using hnd)]
    simp
end

theorem decode_layout (hf : FmtContract) (hnl : ∀ d, Ws (nl d)) (hsp : Ws sp) (v : JVal) (hw : v.WF) :
    decode (layout nl sp 0 v) = .ok v [] := by
  unfold decode
  rw [show skipWs (layout nl sp 0 v) = _ from (layout_goodHead hf 0 v hw).skipWs_ws ws_nil]
  have := value_layout hf hnl hsp v hw 0 ((layout nl sp 0 v).length + 1) [] (by omega) (fun _ _ e => nomatch e)
  rw [List.append_nil] at this
  rw [this]; rfl

end

/-! ### the compact text -/

theorem serList_goodHead (hf : FmtContract) (x : JVal) (xs : List JVal) (hw : x.WF) :
    GoodHead (serList (x :: xs)) :=
  layoutList_ser 0 (x :: xs) ▸ layoutList_goodHead hf 0 x xs hw

theorem serFields_goodHead (kv : Str × JVal) (kvs : List (Str × JVal)) :
    GoodHead (serFields (kv :: kvs)) :=
  layoutFields_ser 0 (kv :: kvs) ▸ layoutFields_goodHead 0 kv kvs

theorem elements_ser (hf : FmtContract) : (xs : List JVal) → WFList xs → xs ≠ [] →
    ∀ (fuel : Nat) (acc : List JVal) (rest : Str), (serList xs).length + 1 < fuel →
    elements fuel (serList xs ++ ']' :: rest) acc = .ok (.list (acc ++ xs)) rest := by
  intro xs hw hne fuel acc rest hfu
  rw [← layoutList_ser 1 xs] at hfu ⊢
  exact elements_layout hf (fun _ => ws_nil) ws_nil xs hw hne 0 fuel acc rest hfu

theorem members_ser (hf : FmtContract) : (kvs : List (Str × JVal)) → WFFields kvs → kvs ≠ [] →
    ∀ (fuel : Nat) (acc : List (Str × JVal)) (rest : Str), (serFields kvs).length + 1 < fuel →
    ((acc ++ kvs).map Prod.fst).Nodup →
    members fuel (serFields kvs ++ '}' :: rest) acc = .ok (.obj (acc ++ kvs)) rest := by
  intro kvs hw hne fuel acc rest hfu hnd
  rw [← layoutFields_ser 1 kvs] at hfu ⊢
  exact members_layout hf (fun _ => ws_nil) ws_nil kvs hw hne 0 fuel acc rest hfu hnd

theorem decode_ser (hf : FmtContract) (v : JVal) (hw : v.WF) : decode (ser v) = .ok v [] :=
  layout_ser 0 v ▸ decode_layout hf (fun _ => ws_nil) ws_nil v hw

end Strict
end Anytype
