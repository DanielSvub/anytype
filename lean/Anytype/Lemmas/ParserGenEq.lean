/-
The definitions that `vextract` translates from the Go source of the parser
(`Anytype/Generated/ParserGen.lean`, regenerated on every run) are equal to the hand-written
model (`Model/Parser.lean`; for the escape table of `quoteJSON`, `Model/Strconv.lean`) that all the
parser theorems are about.

The proofs are generic scripts: unfold both sides one step and rewrite the recursive calls with the
induction hypothesis; where the two decision trees are then not syntactically the same, walk down both
in lockstep as long as they test the same condition, split the tests where they part, and let
`simp_all` compare the leaves (or refute the path). They do not mention any detail of the generated
code, so they survive regeneration and shape-preserving edits of the Go source, and fail when the
translated behaviour differs from the model.
-/
import Anytype.Generated.ParserGen
namespace Anytype

open Generated

/-- closes one case of the step. `split` on a `match` leaves the equation for its discriminant in the context;
rewriting with it resolves the same `match` on the other side, so the two are not split independently. -/
local macro "gen_case" : tactic =>
  `(tactic| (repeat' first
      | refine ite_congr rfl (fun _ => ?_) (fun _ => ?_)
      | rfl
      | (split <;> try simp only [*])) <;> simp_all)

theorem parseFieldGen_eq (field : Str) (line : Nat) :
    parseFieldGen field line = parseField field line := by
  unfold parseFieldGen parseField
  gen_case

theorem pGen_eq_aux (fuel : Nat) :
    (∀ items st acc val iv line,
      pListGen fuel items st acc val iv line = pList fuel items st acc val iv line) ∧
    (∀ items st acc key val iv line,
      pObjectGen fuel items st acc key val iv line = pObject fuel items st acc key val iv line) := by
  induction fuel with
  | zero => constructor <;> intros <;> simp only [pListGen, pList, pObjectGen, pObject]
  | succ n ih =>
    obtain ⟨ihL, ihO⟩ := ih
    constructor
    · intro items st acc val iv line
      match items with
      | [] => simp only [pListGen, pList]
      | none :: _ => simp only [pListGen, pList]
      | some c :: rest =>
        cases st <;> simp only [pListGen, pList, ihL, ihO] <;> gen_case
    · intro items st acc key val iv line
      match items with
      | [] => simp only [pObjectGen, pObject]
      | none :: _ => simp only [pObjectGen, pObject]
      | some c :: rest =>
        cases st <;> simp only [pObjectGen, pObject, ihL, ihO] <;> gen_case

theorem pListGen_eq (fuel : Nat) (items : List Item) (st : LSt) (acc : List JVal) (val : Str)
    (iv : Bool) (line : Nat) :
    pListGen fuel items st acc val iv line = pList fuel items st acc val iv line :=
  (pGen_eq_aux fuel).1 items st acc val iv line

theorem pObjectGen_eq (fuel : Nat) (items : List Item) (st : OSt) (acc : List (Str × JVal))
    (key val : Str) (iv : Bool) (line : Nat) :
    pObjectGen fuel items st acc key val iv line = pObject fuel items st acc key val iv line :=
  (pGen_eq_aux fuel).2 items st acc key val iv line

theorem runListGen_eq (post : List UInt8) (l : Nat) : runListGen post l = runList post l := by
  simp only [runListGen, runList, pListGen_eq] <;> gen_case

theorem runObjectGen_eq (post : List UInt8) (l : Nat) : runObjectGen post l = runObject post l := by
  simp only [runObjectGen, runObject, pObjectGen_eq] <;> gen_case

theorem parseListBytesGen_eq (bs : List UInt8) : parseListBytesGen bs = parseListBytes bs := by
  simp only [parseListBytesGen, parseListBytes, runListGen_eq] <;> gen_case

theorem parseObjectBytesGen_eq (bs : List UInt8) : parseObjectBytesGen bs = parseObjectBytes bs := by
  simp only [parseObjectBytesGen, parseObjectBytes, runObjectGen_eq] <;> gen_case

/-! ### the escape table of `quoteJSON`

The Go loop runs over bytes, the model over characters.  The generated table is the `switch` of the
byte loop read for a byte `< 0x80` (where byte and character coincide); it is compared with the
model's `escChar` on exactly those characters by exhaustive evaluation.  (For the other characters
both sides copy the character — on the Go side because every test of the `switch` is false for a
byte `≥ 0x80`, which the translator checks.) -/

theorem escCharGen_eq_ascii :
    ∀ n : Fin 128, escCharGen (Char.ofNat n) = escChar (Char.ofNat n) := by
  decide +kernel

-- (the lemmas for the last test written `c.toNat ≥ 0x20` are unused for the present source)
set_option linter.unusedSimpArgs false in
theorem escCharGen_eq (c : Char) : escCharGen c = escChar c := by
  by_cases h : c.toNat < 128
  · simpa only [Char.ofNat_toNat] using escCharGen_eq_ascii ⟨c.toNat, h⟩
  · -- both tables only compare `c` with ASCII characters
    have hne (d : Char) (hd : d.toNat < 128) : (c == d) = false := beq_false_of_ne fun e => h (e ▸ hd)
    have h20 : 0x20 ≤ c.toNat := by omega
    simp (disch := decide) only [escCharGen, escChar, hne, h20, Nat.not_lt.2 h20, ge_iff_le, if_true, if_false,
      Bool.false_eq_true]

theorem quoteJSONGen_eq (s : Str) : quoteJSONGen s = quoteJSON s := by
  have : escCharGen = escChar := funext escCharGen_eq
  simp [quoteJSONGen, quoteJSON, quoteBody, this]

end Anytype

#print axioms Anytype.pListGen_eq
#print axioms Anytype.pObjectGen_eq
#print axioms Anytype.parseFieldGen_eq
#print axioms Anytype.parseListBytesGen_eq
#print axioms Anytype.parseObjectBytesGen_eq
#print axioms Anytype.escCharGen_eq
#print axioms Anytype.quoteJSONGen_eq
