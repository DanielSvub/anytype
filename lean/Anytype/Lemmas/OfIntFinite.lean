/-
`float64(i)` of a 64-bit `int` is finite: `F64.roundPos n 1` for `0 < n ≤ 2^63`.

With `L = log2 n` the normalised exponent is `L - 52 ≤ 11`; the final rounding at an exponent
`-1074 ≤ e ≤ 970` of a quotient below `2^53` always yields a pattern with exponent field `< 2047`,
and `withSign` only sets bit 63.
-/
import Anytype.Lemmas.FmtRound
namespace Anytype
namespace F64
open FmtR F32

theorem rnd_le (A B : Nat) : rnd A B ≤ A / B + 1 := by
  unfold rnd
  by_cases h1 : 2 * (A % B) > B
  · simp only [h1, ↓reduceIte]; exact Nat.le_refl _
  · by_cases h2 : 2 * (A % B) < B
    · simp only [h1, h2, ↓reduceIte]; exact Nat.le_succ _
    · by_cases h3 : A / B % 2 = 1
      · simp only [h1, h2, h3, ↓reduceIte]; exact Nat.le_refl _
      · simp only [h1, h2, h3, ↓reduceIte]; exact Nat.le_succ _

theorem enc_lt (m : Nat) (e : Int) (hm : m ≤ 2 ^ 53) (he1 : -1074 ≤ e) (he2 : e ≤ 970) :
    ∃ E F, E < 2047 ∧ F < 2 ^ 52 ∧ enc m e = some (ofFields E F).bits := by
  have key : ∀ m' e', m' < 2 ^ 53 → -1074 ≤ e' → e' ≤ 971 →
      ∃ E F, E < 2047 ∧ F < 2 ^ 52 ∧ enc m' e' = some (ofFields E F).bits := by
    intro m' e' hm' h1 h2
    rw [enc_of_ne _ _ (by omega), if_neg (by omega)]
    by_cases hs : m' < 2 ^ 52
    · exact ⟨0, m', by decide, hs, by rw [if_pos hs]; simp [ofFields]⟩
    · exact ⟨(e' + 1075).toNat, m' - 2 ^ 52, by omega, by omega, by rw [if_neg hs]⟩
  rcases Nat.eq_or_lt_of_le hm with rfl | hlt
  · have := enc_carry (e + 1)
    rw [show e + 1 - 1 = e by omega] at this
    rw [this]
    exact key _ _ (by decide) (by omega) (by omega)
  · exact key m e hlt he1 (by omega)

/-- `roundPos n 1` for `0 < n ≤ 2^63` is a pattern with exponent field below 2047: a finite value -/
theorem roundPos_one_lt (n : Nat) (h0 : n ≠ 0) (hn : n ≤ 2 ^ 63) :
    ∃ E F, E < 2047 ∧ F < 2 ^ 52 ∧ roundPos n 1 = some (ofFields E F).bits := by
  obtain ⟨hN, hr⟩ := roundPos_one n h0
  have hL : n.log2 < 64 := (Nat.log2_lt h0).2 (by omega)
  rw [hr, finish_eq]
  have hq := (Nat.div_lt_iff_lt_mul (scaled_snd_pos n 1 _ Nat.one_pos)).2 hN.2
  exact enc_lt _ _ (Nat.le_trans (rnd_le _ _) hq) (by omega) (by omega)

/-- Go `float64(i)` of an `int` is finite -/
theorem ofInt_finite (i : Int) (h : InRange i) : (ofInt i).isFinite = true := by
  unfold InRange at h
  by_cases h0 : i.natAbs = 0
  · have : i = 0 := by omega
    subst this; decide
  · obtain ⟨E, F, hE, hF, hb⟩ := roundPos_one_lt i.natAbs h0 (by omega)
    have := (fields_withSign (decide (i < 0)) E F (by omega) hF).1
    unfold ofInt roundRat
    rw [hb]
    simp only [Option.map_some, isFinite, bne_iff_ne, ne_eq]
    show (withSign (decide (i < 0)) (ofFields E F)).expBits ≠ 2047
    omega

end F64
end Anytype
