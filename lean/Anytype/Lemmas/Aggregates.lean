/-
Lemmas for C18: the aggregate loops of list_impl.go equal reference folds; 64-bit wrap-around
arithmetic; minimum / maximum folds over an abstract strict order (instantiated in `Props/C18.lean`
with the facts about `F64.ltGo` of `Lemmas/FloatOrder.lean`).
-/
import Anytype.Model.Aggregates
import Anytype.Lemmas.FloatOrder
namespace Anytype

theorem wrap64_emod (a : Int) : wrap64 a % 2^64 = a % 2^64 := by
  unfold wrap64; simp only []; omega

theorem wrap64_congr {a b : Int} (h : a % 2^64 = b % 2^64) : wrap64 a = wrap64 b := by
  unfold wrap64; simp only [h]

theorem wrap64_inRange (a : Int) : InRange (wrap64 a) := by
  unfold wrap64 InRange; simp only []; omega

theorem wrap64_of_inRange {a : Int} (h : InRange a) : wrap64 a = a := by
  unfold InRange at h; unfold wrap64; simp only []; omega

theorem wrap64_add_left (a b : Int) : wrap64 (wrap64 a + b) = wrap64 (a + b) := by
  apply wrap64_congr
  rw [Int.add_emod, wrap64_emod, ← Int.add_emod]

theorem wrap64_mul_left (a b : Int) : wrap64 (wrap64 a * b) = wrap64 (a * b) := by
  apply wrap64_congr
  rw [Int.mul_emod, wrap64_emod, ← Int.mul_emod]

/-- wrapping after every step or once at the end -/
theorem foldl_wrap (op : Int → Int → Int) (hop : ∀ a b, wrap64 (op (wrap64 a) b) = wrap64 (op a b))
    (xs : List Int) (s : Int) :
    xs.foldl (fun r v => wrap64 (op r v)) (wrap64 s) = wrap64 (xs.foldl op s) := by
  induction xs generalizing s with
  | nil => rfl
  | cons x xs ih => simp only [List.foldl_cons, hop, ih]

section Generic
variable {F : Type} [FloatArith F]
open FloatArith

/-- the element taken as a float64 (`float64(val)` for ints); `none` for non-numeric kinds -/
def Num.toF : Num F → Option F
  | .int i => some (ofInt i)
  | .float f => some f
  | .other => none

def Num.toInt : Num F → Option Int
  | .int i => some i
  | _ => none

def Num.isNum : Num F → Bool
  | .other => false
  | _ => true

/-- the int elements, in order -/
def ints (l : List (Num F)) : List Int := l.filterMap Num.toInt

/-- the numeric elements as float64, in order -/
def floats (l : List (Num F)) : List F := l.filterMap Num.toF

@[simp] theorem floats_nil : floats ([] : List (Num F)) = [] := rfl
@[simp] theorem floats_cons_int (i : Int) (l : List (Num F)) :
    floats (.int i :: l) = ofInt i :: floats l := rfl
@[simp] theorem floats_cons_float (f : F) (l : List (Num F)) :
    floats (.float f :: l) = f :: floats l := rfl
@[simp] theorem floats_cons_other (l : List (Num F)) : floats (.other :: l) = floats l := rfl
omit [FloatArith F] in
@[simp] theorem ints_nil : ints ([] : List (Num F)) = [] := rfl
omit [FloatArith F] in
@[simp] theorem ints_cons_int (i : Int) (l : List (Num F)) : ints (.int i :: l) = i :: ints l := rfl
omit [FloatArith F] in
@[simp] theorem ints_cons_float (f : F) (l : List (Num F)) : ints (.float f :: l) = ints l := rfl
omit [FloatArith F] in
@[simp] theorem ints_cons_other (l : List (Num F)) : ints (.other :: l) = ints l := rfl

namespace Agg

theorem sumLoop_eq (l : List (Num F)) (r : F) : sumLoop l r = (floats l).foldl add r := by
  induction l generalizing r with
  | nil => rfl
  | cons x l ih => cases x <;> simp [sumLoop, ih]

theorem prodLoop_eq (l : List (Num F)) (r : F) : prodLoop l r = (floats l).foldl mul r := by
  induction l generalizing r with
  | nil => rfl
  | cons x l ih => cases x <;> simp [prodLoop, ih]

omit [FloatArith F] in
theorem intSumLoop_eq (l : List (Num F)) (r : Int) :
    intSumLoop l r = (ints l).foldl (fun r v => wrap64 (r + v)) r := by
  induction l generalizing r with
  | nil => rfl
  | cons x l ih => cases x <;> simp [intSumLoop, ih]

omit [FloatArith F] in
theorem intProdLoop_eq (l : List (Num F)) (r : Int) :
    intProdLoop l r = (ints l).foldl (fun r v => wrap64 (r * v)) r := by
  induction l generalizing r with
  | nil => rfl
  | cons x l ih => cases x <;> simp [intProdLoop, ih]

omit [FloatArith F] in
theorem intMinLoop_eq (l : List (Num F)) (m : Int) (p : Bool) :
    intMinLoop l m p
      = ((ints l).foldl (fun m v => if v < m then v else m) m, p || !(ints l).isEmpty) := by
  induction l generalizing m p with
  | nil => simp [intMinLoop]
  | cons x l ih => cases x <;> simp [intMinLoop, ih]

omit [FloatArith F] in
theorem intMaxLoop_eq (l : List (Num F)) (m : Int) (p : Bool) :
    intMaxLoop l m p
      = ((ints l).foldl (fun m v => if v > m then v else m) m, p || !(ints l).isEmpty) := by
  induction l generalizing m p with
  | nil => simp [intMaxLoop]
  | cons x l ih => cases x <;> simp [intMaxLoop, ih]

theorem minLoop_none (l : List (Num F)) (m : F) (p : Bool) (h : ∃ x ∈ l, Num.isNum x = false) :
    minLoop l m p = none := by
  obtain ⟨x, hx, hn⟩ := h
  induction l generalizing m p with
  | nil => cases hx
  | cons y l ih =>
    rcases List.mem_cons.1 hx with rfl | hx'
    · cases x <;> first | rfl | cases hn
    · cases y <;> first | rfl | exact ih _ _ hx'

theorem maxLoop_none (l : List (Num F)) (m : F) (p : Bool) (h : ∃ x ∈ l, Num.isNum x = false) :
    maxLoop l m p = none := by
  obtain ⟨x, hx, hn⟩ := h
  induction l generalizing m p with
  | nil => cases hx
  | cons y l ih =>
    rcases List.mem_cons.1 hx with rfl | hx'
    · cases x <;> first | rfl | cases hn
    · cases y <;> first | rfl | exact ih _ _ hx'

theorem minLoop_some (l : List (Num F)) (m : F) (p : Bool) (h : ∀ x ∈ l, Num.isNum x = true) :
    minLoop l m p
      = some ((floats l).foldl (fun m x => if lt x m then x else m) m, p || !l.isEmpty) := by
  induction l generalizing m p with
  | nil => simp [minLoop]
  | cons x l ih =>
    have hl : ∀ y ∈ l, Num.isNum y = true := fun y hy => h y (List.mem_cons_of_mem _ hy)
    cases x with
    | other => have := h .other (by simp); simp [Num.isNum] at this
    | int i => simp [minLoop, ih _ _ hl]
    | float f => simp [minLoop, ih _ _ hl]

theorem maxLoop_some (l : List (Num F)) (m : F) (p : Bool) (h : ∀ x ∈ l, Num.isNum x = true) :
    maxLoop l m p
      = some ((floats l).foldl (fun m x => if lt m x then x else m) m, p || !l.isEmpty) := by
  induction l generalizing m p with
  | nil => simp [maxLoop]
  | cons x l ih =>
    have hl : ∀ y ∈ l, Num.isNum y = true := fun y hy => h y (List.mem_cons_of_mem _ hy)
    cases x with
    | other => have := h .other (by simp); simp [Num.isNum] at this
    | int i => simp [maxLoop, ih _ _ hl]
    | float f => simp [maxLoop, ih _ _ hl]

end Agg
end Generic

/-- the fold `m := if lt x m then x else m` over a strict partial order on the values involved
(the start value counted among them): the result is the start value or strictly below it, it is
one of the values, and none of them is below it -/
theorem minFold_spec {α : Type} (lt : α → α → Bool) (S : α → Prop)
    (irrefl : ∀ x, S x → lt x x = false)
    (trans : ∀ x y z, S x → S y → S z → lt x y = true → lt y z = true → lt x z = true)
    (xs : List α) (m0 : α) (hS : ∀ x ∈ m0 :: xs, S x) :
    (xs.foldl (fun m x => if lt x m then x else m) m0 = m0 ∨
      lt (xs.foldl (fun m x => if lt x m then x else m) m0) m0 = true) ∧
    xs.foldl (fun m x => if lt x m then x else m) m0 ∈ m0 :: xs ∧
    ∀ y ∈ m0 :: xs, lt y (xs.foldl (fun m x => if lt x m then x else m) m0) = false := by
  induction xs generalizing m0 with
  | nil => exact ⟨Or.inl rfl, List.mem_cons_self, fun y hy => by
      rw [List.mem_singleton.1 hy]; exact irrefl _ (hS _ List.mem_cons_self)⟩
  | cons x xs ih =>
    have hm0 : S m0 := hS _ List.mem_cons_self
    have hx : S x := hS _ (List.mem_cons_of_mem _ List.mem_cons_self)
    have hxs : ∀ y ∈ xs, S y := fun y hy => hS y (List.mem_cons_of_mem _ (List.mem_cons_of_mem _ hy))
    -- `lt a b = true` leaves no room for `lt b a`
    have asymm : ∀ a b, S a → S b → lt a b = true → lt b a = false := fun a b ha hb hab => by
      cases hba : lt b a with
      | false => rfl
      | true => rw [← irrefl a ha, trans a b a ha hb ha hab hba]
    rw [List.foldl_cons]
    cases hlt : lt x m0 with
    | true =>
      obtain ⟨h1, h2, h3⟩ := ih x (List.forall_mem_cons.2 ⟨hx, hxs⟩)
      rw [if_pos rfl]
      generalize xs.foldl (fun m x => if lt x m then x else m) x = r at h1 h2 h3
      have hr : S r := List.forall_mem_cons.2 ⟨hx, hxs⟩ r h2
      have hrm : lt r m0 = true := by
        rcases h1 with rfl | h1
        · exact hlt
        · exact trans r x m0 hr hx hm0 h1 hlt
      refine ⟨Or.inr hrm, List.mem_cons_of_mem _ h2, fun y hy => ?_⟩
      rcases List.mem_cons.1 hy with rfl | hy
      · exact asymm r y hr hm0 hrm
      · exact h3 y hy
    | false =>
      obtain ⟨h1, h2, h3⟩ := ih m0 (List.forall_mem_cons.2 ⟨hm0, hxs⟩)
      rw [if_neg Bool.false_ne_true]
      generalize xs.foldl (fun m x => if lt x m then x else m) m0 = r at h1 h2 h3
      refine ⟨h1, ?_, fun y hy => ?_⟩
      · rcases List.mem_cons.1 h2 with h | h
        · exact h ▸ List.mem_cons_self
        · exact List.mem_cons_of_mem _ (List.mem_cons_of_mem _ h)
      · rcases List.mem_cons.1 hy with rfl | hy
        · exact h3 y List.mem_cons_self
        · rcases List.mem_cons.1 hy with rfl | hy
          · cases hc : lt y r with
            | false => rfl
            | true =>
              rcases h1 with rfl | h1
              · rw [← hlt, hc]
              · rw [← hlt, trans y r m0 hx (List.forall_mem_cons.2 ⟨hm0, hxs⟩ r h2) hm0 hc h1]
          · exact h3 y (List.mem_cons_of_mem _ hy)

/-- the same fold started at a value `top` that no member exceeds (`MaxInt`, `MaxFloat64`): on a
non-empty list the result is a member, and no member is below it -/
theorem minFold_top {α : Type} (lt : α → α → Bool) (S : α → Prop)
    (irrefl : ∀ x, S x → lt x x = false)
    (trans : ∀ x y z, S x → S y → S z → lt x y = true → lt y z = true → lt x z = true)
    (xs : List α) (hne : xs ≠ []) (top : α) (hxs : ∀ x ∈ xs, S x)
    (htop : ∀ x ∈ xs, lt x top = true ∨ x = top) :
    xs.foldl (fun m x => if lt x m then x else m) top ∈ xs ∧
    ∀ x ∈ xs, lt x (xs.foldl (fun m x => if lt x m then x else m) top) = false := by
  cases xs with
  | nil => exact absurd rfl hne
  | cons x0 xs =>
    have hstart : (if lt x0 top = true then x0 else top) = x0 := by
      rcases htop x0 List.mem_cons_self with h | h
      · rw [if_pos h]
      · rw [← h]; exact ite_self _
    rw [List.foldl_cons, hstart]
    exact (minFold_spec lt S irrefl trans xs x0 hxs).2

theorem floats_ne_nil {F : Type} [FloatArith F] (l : List (Num F)) (hne : l ≠ []) (hnum : ∀ x ∈ l, x.isNum = true) :
    floats l ≠ [] := by
  cases l with
  | nil => exact absurd rfl hne
  | cons x t =>
    cases x with
    | other => exact absurd (hnum .other List.mem_cons_self) Bool.false_ne_true
    | int i => exact List.cons_ne_nil _ _
    | float f => exact List.cons_ne_nil _ _

namespace F64

theorem bits_lt (x : F64) : x.bits.toNat < 2^64 := x.bits.toNat_lt

end F64
end Anytype
