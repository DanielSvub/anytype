import Anytype.Lemmas.Seventeen
import Anytype.Lemmas.FmtStrict

/-!
`FmtContract` (the serialiser's shortest formatting is read back, by a strict RFC 8259 reader and by
the model of `strconv.ParseFloat`, as the identical float64), on which theorems of C01, C02, C04 and
C16 rest, holds in the model: `Lemmas/Seventeen.lean` shows that the digit generator succeeds at some
precision `p ≤ 17` for every finite non-zero float64, and `Lemmas/FmtStrict.lean` derives the
contract from that (value preservation of the 'e' and 'f' layouts, the appended ".0", the exponent
range).
-/

namespace Anytype

theorem loopOK : LoopOK := fun x hf hz => shortestLoop_succeeds x hf hz

/-- the serialiser's number formatting is faithful -/
theorem fmtContract_holds : FmtContract := fmtContract_of_loopOK loopOK

theorem serF_strict (x : F64) (hf : x.isFinite = true) :
    Strict.number (serF x) = some (some (.float x), []) := strict_of_loopOK loopOK x hf

theorem serF_parse_back (x : F64) (hf : x.isFinite = true) : F64.parseFloat (serF x) = some x :=
  fmtContract_holds.parse_back x hf

end Anytype

#print axioms Anytype.fmtContract_holds
