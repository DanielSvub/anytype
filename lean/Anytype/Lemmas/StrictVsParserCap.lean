/-
Strict decoder vs. lenient parser, part 4: the restriction on the length of number literals is
necessary.  `strconv.ParseFloat` (`readExpDigits`, as in Go: `if e < 10000 { e = e*10 + … }`) stops
accumulating exponent digits at 10000, so it reads the exponent `e-100000` as -10000; on a literal
with 10000 integer digits the two readers return different floats (and only the strict one is
correctly rounded).
-/
import Anytype.Lemmas.StrictVsParserStruct
namespace Anytype
namespace SVP
open Strict RT

theorem dval_zeros (n x : Nat) : dval (List.replicate n '0') x = x * 10 ^ n := by
  induction n generalizing x with
  | zero => simp [dval]
  | succ n ih =>
    rw [List.replicate_succ, dval_cons, ih, Nat.pow_succ]
    have : '0'.toNat - 48 = 0 := by decide
    rw [this, Nat.add_zero, Nat.mul_assoc, Nat.mul_comm 10]

theorem decLen_pow10 (n : Nat) : F64.decLen (10 ^ n) = n + 1 := by
  induction n with
  | zero => decide
  | succ n ih =>
    have h1 : 10 ≤ 10 ^ (n + 1) := by
      have := pow10_pos n
      rw [Nat.pow_succ]; omega
    have h2 : 10 ^ (n + 1) / 10 = 10 ^ n := by
      rw [Nat.pow_succ, Nat.mul_div_cancel _ (by decide)]
    unfold F64.decLen at ih ⊢
    rw [Nat.toDigits_of_base_le (by decide) h1, List.length_append, h2, ih]
    rfl

theorem roundPos_self (n : Nat) (hn : 0 < n) : F64.roundPos n n = some F64.one.bits := by
  have hq0 : n * 2 ^ 53 / n = 2 ^ 53 := Nat.mul_div_cancel_left _ hn
  have hq1 : n * 2 ^ 52 / n = 2 ^ 52 := Nat.mul_div_cancel_left _ hn
  have hmod : n * 2 ^ 52 % n = 0 := Nat.mul_mod_right _ _
  have s0 : F64.scaled n n (-53) = (n * 2 ^ 53, n) := by simp [F64.scaled]
  have s1 : F64.scaled n n (-52) = (n * 2 ^ 52, n) := by simp [F64.scaled]
  -- the first guess -53 is corrected to -52, where the quotient is exactly 2^52
  have a0 : F32.stepE n n (-53) = -52 := by unfold F32.stepE; simp only [s0, hq0]; decide
  have a1 : F32.stepE n n (-52) = -52 := by unfold F32.stepE; simp only [s1, hq1]; decide
  have e0 : ((F64.bitLen n : Nat) : Int) - ((F64.bitLen n : Nat) : Int) - 53 = -53 := by omega
  -- (with the literal -52 in place of `e` the kernel does not get through the unfolding of `finish`)
  have hf : ∀ e : Int, e = -52 → F32.finish n n e = some F64.one.bits := by
    intro e he
    have h1 : ¬ (2 * 0 > n) := by omega
    have h2 : 2 * 0 < n := by omega
    have h3 : ¬ ((2 : Nat) ^ 52 = 2 ^ 53) := by decide
    unfold F32.finish
    simp only [he ▸ s1, hq1, hmod, h1, h2, h3, if_true, if_false]
    subst he
    decide
  rw [F32.roundPos_staged n n (by omega)]
  simp only [e0, a0, a1]
  exact hf _ (if_neg (by decide))

theorem goFinal_pow10_one (n : Nat) (e : Int) (he : e = -(n : Int)) :
    goFinal false (10 ^ n) 0 e = some (some F64.one) := by
  have hm := pow10_pos n
  have hd := decLen_pow10 n
  subst he
  unfold goFinal decTail
  rw [if_neg (by omega)]
  simp only []
  rw [if_neg (by omega), if_neg (by omega)]
  by_cases h0 : n = 0
  · subst h0
    simp [F64.roundRat, roundPos_self 1 (by decide), F64.withSign, F64.one]
  · have hneg : ¬ (-(n : Int) - ((0 : Nat) : Int) ≥ 0) := by omega
    have ht : (-(-(n : Int) - ((0 : Nat) : Int))).toNat = n := by omega
    simp only [hneg, if_false, ht]
    simp [F64.roundRat, roundPos_self _ hm, F64.withSign, F64.one]

theorem goFinal_pow10_zero (n : Nat) (e : Int) (he : e + n + 1 < -400) :
    goFinal false (10 ^ n) 0 e = some (some F64.posZero) := by
  have hm := pow10_pos n
  have hd := decLen_pow10 n
  unfold goFinal decTail
  rw [if_neg (by omega)]
  simp only []
  rw [if_neg (by omega), if_pos (by omega)]
  rfl

/-- the literal `1` followed by `n` zeros and the exponent `e-100000`; `n` stays a variable with `hn : n = 10000`
in the lemmas below, so that the kernel never unfolds `List.replicate 10000 '0'` -/
def capLit (n : Nat) : Str := '1' :: List.replicate n '0' ++ ['e', '-', '1', '0', '0', '0', '0', '0']

def capExp : Str := ['e', '-', '1', '0', '0', '0', '0', '0']

theorem capLit_eq (n : Nat) : capLit n = numText false ('1' :: List.replicate n '0') [] false capExp := by
  simp [capLit, numText, capExp]

theorem capShape (n : Nat) : NumShape '1' (List.replicate n '0') [] false := by
  refine ⟨?_, fun h => absurd h (by decide), by simp, by simp⟩
  intro c hc
  rcases List.mem_cons.mp hc with rfl | hc
  · decide
  · rw [List.eq_of_mem_replicate hc]; decide

theorem capExp_text : ExpText capExp (some (-1 * (capS ['1', '0', '0', '0', '0', '0'] : Int))) :=
  .inr ⟨'e', ['-'], ['1', '0', '0', '0', '0', '0'], -1, rfl, .inl rfl, .inr (.inr ⟨rfl, rfl⟩), by simp,
    by decide, rfl⟩

theorem capS_val : capS ['1', '0', '0', '0', '0', '0'] = 100000 := by decide

theorem fExp_capExp : fExp false 'e' capExp = some (-10000, []) := by decide

theorem dval_capIp (n : Nat) : dval ('1' :: List.replicate n '0' ++ []) 0 = 10 ^ n := by
  rw [List.append_nil, dval_cons, dval_zeros]
  have : 0 * 10 + ('1'.toNat - 48) = 1 := by decide
  rw [this, Nat.one_mul]

/-- Go side: the exponent is capped at 10000, so with 10000 zeros the value read is 1 -/
theorem parseField_capLit (n : Nat) (hn : n = 10000) (line : Nat) :
    parseField (capLit n) line = .ok (.float F64.one) := by
  rw [capLit_eq]
  refine parseField_numText false (capShape n) capExp_text fExp_capExp ?_ ?_ line
  · have := parseInt_tail false (capShape n) ['-', '1', '0', '0', '0', '0', '0'] (.inr (.inl rfl))
    simpa [numText, capExp] using this
  · rw [dval_capIp, List.length_nil]
    exact goFinal_pow10_one n (-10000) (by omega)

/-- strict side: the exponent -100000 makes the value zero -/
theorem number_capLit (n : Nat) (hn : n = 10000) :
    number (capLit n) = some (some (.float F64.posZero), []) := by
  have hip := (capShape n).ip
  rw [number_eq]
  unfold number'
  have h1 : signSplit (capLit n) = (false, capLit n) := signSplit_of_ne (by decide) _
  have h2 : takeDigits (capLit n) = ('1' :: List.replicate n '0', capExp) := by
    have : capLit n = ('1' :: List.replicate n '0') ++ capExp := by simp [capLit, capExp]
    rw [this]
    generalize '1' :: List.replicate n '0' = ds at hip ⊢
    induction ds with
    | nil => decide
    | cons c ds ih =>
      simp only [List.cons_append, takeDigits, hip c (by simp), if_true, ih (fun d hd => hip d (by simp [hd]))]
  have h3 : fracSplit capExp = ([], capExp, false) := by decide
  have h4 : expSplit capExp = some (some (-100000), []) := by decide
  simp only [h1, h2, h3, h4]
  have hnf := numFinal_float false ('1' :: List.replicate n '0') [] false (some (-100000)) [] (by simp)
  have hgo : goFinal false (dval ('1' :: List.replicate n '0' ++ []) 0) ([] : Str).length ((some (-100000 : Int)).getD 0) =
      some (some F64.posZero) := by
    rw [dval_capIp]
    exact goFinal_pow10_zero n _ (by simp; omega)
  rw [hgo] at hnf
  simp [hnf]

/-- the document `[1000…0e-100000]` with `n` zeros -/
def capDoc (n : Nat) : Str := '[' :: capLit n ++ [']']

theorem capDoc_length (n : Nat) : (capDoc n).length = n + 11 := by
  simp [capDoc, capLit]

theorem capLit_numLike (n : Nat) : NumLike (capLit n) := by
  refine ⟨by simp [capLit], ?_⟩
  rw [capLit_eq]
  exact numText_numChars false (capShape n) capExp_text.numChars

theorem decode_capDoc (n : Nat) (hn : n = 10000) :
    decode (capDoc n) = .ok (.list [.float F64.posZero]) [] := by
  have hnl := capLit_numLike n
  have hnum : number (capLit n ++ [']']) = some (some (.float F64.posZero), [']']) :=
    number_append _ _ _ (number_capLit n hn) (Delim.rbrack []).numStop
  obtain ⟨f, hf⟩ : ∃ f, (capDoc n).length + 1 = (f + 1) + 1 + 1 := ⟨(capDoc n).length - 2, by simp [capDoc, capLit]⟩
  have hv := value_numLike (capLit n) [']'] f hnl _ _ hnum
  have he := elements_last (f + 1) (capLit n ++ [']']) [] [] _ hv
  have hl := value_list_nonempty (f + 1 + 1) (capLit n ++ [']']) ((numLike_goodHead hnl).append _)
  have hs : skipWs (capDoc n) = capDoc n := skipWs_cons _ (by decide)
  unfold decode
  rw [hs, hf]
  unfold capDoc
  rw [List.cons_append, hl, he]
  simp [skipWs]

theorem parseList_capDoc (n : Nat) (hn : n = 10000) :
    parseListBytes (encode (capDoc n)) = .ok (.list [.float F64.one]) := by
  have hnl := capLit_numLike n
  have hrun : LRun (I (capLit n) ++ some ']' :: []) .val [] [] false 1
      (.ok (.list ([] ++ [.float F64.one])) [] 1) := by
    cases e : capLit n with
    | nil => exact absurd e hnl.1
    | cons c t =>
      have hp : ∀ d ∈ c :: t, PlainChar d := fun d hd => plain_of_numChar (hnl.2 d (e ▸ hd))
      apply LRun_val_plain (fun d hd => hp d (by simp [hd])) (hp c (by simp))
      apply LRun_val_close (by simp)
      rw [List.nil_append, ← e]
      exact parseField_capLit n hn 1
  unfold parseListBytes
  rw [show capDoc n = [] ++ '[' :: (capLit n ++ [']']) from rfl,
    splitAtByte_encode [] _ '[' 0x5B (by decide) (by decide) rfl nofun]
  have hr : runList (encode (capLit n ++ [']'])) (countNL (encode []) + 1) =
      .ok (.list [.float F64.one]) [] 1 := by
    unfold runList
    simp only [decodeAll_encode]
    have : List.map some (capLit n ++ [']']) = I (capLit n) ++ some ']' :: [] := by simp [I]
    rw [this]
    exact hrun _ (by omega)
  simp only [hr]

/-- **the restriction on the length of number literals cannot be dropped**: on the 10 011-character
document `[1000…0e-100000]` (10000 zeros; true value 1e-90000, which rounds to 0) the strict
decoder answers `[0.0]` and `ParseList` answers `[1.0]` -/
theorem cap_disagreement :
    ∃ s : Str, s.length = 10011 ∧ decode s = .ok (.list [.float F64.posZero]) [] ∧
      parseListBytes (encode s) = .ok (.list [.float F64.one]) :=
  ⟨capDoc 10000, capDoc_length _, decode_capDoc _ rfl, parseList_capDoc _ rfl⟩

end SVP
end Anytype
