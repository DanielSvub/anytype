/-
Serialised scalars consist of number characters (`NumLike (itoa i)`, `NumLike (serF x)`); the equations of
`serList` / `serFields`; `setField` on a fresh key.
-/
import Anytype.Lemmas.Contract
namespace Anytype

theorem numChar_toNat {c : Char} (h : isNumChar c = true) :
    c.toNat = 43 ∨ c.toNat = 45 ∨ c.toNat = 46 ∨ (48 ≤ c.toNat ∧ c.toNat ≤ 57) ∨ c.toNat = 69 ∨ c.toNat = 101 := by
  simp only [isNumChar, Bool.or_eq_true, beq_iff_eq] at h
  rcases h with ((((h | rfl) | rfl) | rfl) | rfl) | rfl
  · exact .inr (.inr (.inr (.inl (Strict.isDigit_toNat h))))
  all_goals decide

theorem numChar_ne {c d : Char} (hc : isNumChar c = true) (hd : isNumChar d = false) : c ≠ d := by
  rintro rfl; rw [hc] at hd; cases hd

def NumLike (s : Str) : Prop := s ≠ [] ∧ ∀ c ∈ s, isNumChar c = true

theorem numLike_ne_null {s : Str} (h : NumLike s) : (s == ['n', 'u', 'l', 'l']) = false := by
  refine beq_false_of_ne ?_
  rintro rfl
  exact absurd (h.2 'n' List.mem_cons_self) (by decide)

theorem itoa_numLike (i : Int) : NumLike (itoa i) := by
  have hd : ∀ n, ∀ c ∈ Nat.toDigits 10 n, isNumChar c = true := fun n c hc => by
    simp [isNumChar, Strict.isDigit_of_dig c (mem_toDigits_dig hc)]
  unfold itoa
  split
  · exact ⟨List.cons_ne_nil _ _, List.forall_mem_cons.mpr ⟨rfl, hd _⟩⟩
  · exact ⟨Nat.toDigits_ne_nil, hd _⟩

theorem serF_numLike (hf : FmtContract) (x : F64) (hx : x.isFinite = true) : NumLike (serF x) :=
  ⟨hf.nonempty x hx, hf.chars x hx⟩

theorem isSpace_of_numChar {c : Char} (h : isNumChar c = true) : isSpace c = false := by
  have := numChar_toNat h
  simp only [isSpace]
  generalize c.toNat = n at this
  simp
  omega

theorem serList_cons_cons (x y : JVal) (ys : List JVal) :
    serList (x :: y :: ys) = ser x ++ ',' :: serList (y :: ys) := by simp [serList]
theorem serList_single (x : JVal) : serList [x] = ser x := by simp [serList]
theorem serFields_cons_cons (k : Str) (v : JVal) (kv : Str × JVal) (kvs : List (Str × JVal)) :
    serFields ((k, v) :: kv :: kvs) = quoteJSON k ++ ':' :: ser v ++ ',' :: serFields (kv :: kvs) := by
  simp [serFields]
theorem serFields_single (k : Str) (v : JVal) : serFields [(k, v)] = quoteJSON k ++ ':' :: ser v := by
  simp [serFields]

theorem setField_append (acc : List (Str × JVal)) (k : Str) (v : JVal) (h : k ∉ acc.map Prod.fst) :
    setField acc k v = acc ++ [(k, v)] := by
  induction acc with
  | nil => rfl
  | cons a acc ih =>
    obtain ⟨k', v'⟩ := a
    simp only [List.map_cons, List.mem_cons, not_or] at h
    have : (k' == k) = false := by simp; exact fun e => h.1 e.symm
    simp [setField, this, ih h.2]
theorem setField_fresh {acc kvs : List (Str × JVal)} {k : Str} {v : JVal}
    (hnd : ((acc ++ (k, v) :: kvs).map Prod.fst).Nodup) : setField acc k v = acc ++ [(k, v)] := by
  simp only [List.map_append, List.map_cons] at hnd
  exact setField_append acc k v fun hm => (List.nodup_append.mp hnd).2.2 k hm k (by simp) rfl

end Anytype
