/-
Basic facts about the slice-level memory of `Model/Slices`: `arrOf`, `writeAt`, `mk`, `append`,
the relation `Upd` ("the memory changed only in one array or in fresh ones, and the new header is a
valid header over that array or over a fresh one"), the two lemmas that turn an `Upd` into
well-formedness and the abstraction of the new heap, and the panic of an operation on a list that
does not exist.
-/
import Anytype.Model.Slices
namespace Anytype.Slices
variable {α : Type}
variable {m : Mem α} {s : Slice} {σ : SHeap α}

theorem arrOf_set_self {a : Nat} (x : List α) (h : a < m.length) :
    arrOf (m.set a x) a = x := by
  simp [arrOf, List.getD_eq_getElem?_getD, h]

theorem arrOf_set_ne {a b : Nat} (x : List α) (h : a ≠ b) :
    arrOf (m.set a x) b = arrOf m b := by
  simp [arrOf, List.getD_eq_getElem?_getD, List.getElem?_set_ne h]

theorem arrOf_append_lt {a : Nat} (x : List α) (h : a < m.length) :
    arrOf (m ++ [x]) a = arrOf m a := by
  simp [arrOf, List.getD_eq_getElem?_getD, List.getElem?_append_left h]

theorem arrOf_append_self (m : Mem α) (x : List α) : arrOf (m ++ [x]) m.length = x := by
  simp [arrOf, List.getD_eq_getElem?_getD]

/-- `m'` agrees with `m` outside array `a`, nothing was freed, and `s'` is a valid header of `m'`
over `a` or over an array that `m` did not have.  With `a = m.length` (no such array in `m`) this
says: `m'` extends `m` and `s'` is a valid header over a new array. -/
structure Upd (m : Mem α) (a : Nat) (m' : Mem α) (s' : Slice) : Prop where
  len_le : m.length ≤ m'.length
  frame : ∀ b, b < m.length → b ≠ a → arrOf m' b = arrOf m b
  arr : s'.arr = a ∨ m.length ≤ s'.arr
  lt : s'.arr < m'.length
  cap : s'.len ≤ cap m' s'

theorem Upd.trans {m m1 m2 : Mem α} {a : Nat} {s1 s2 : Slice}
    (h1 : Upd m a m1 s1) (h2 : Upd m1 s1.arr m2 s2) : Upd m a m2 s2 := by
  refine ⟨Nat.le_trans h1.len_le h2.len_le, ?_, ?_, h2.lt, h2.cap⟩
  · intro b hb hne
    rw [h2.frame b (Nat.lt_of_lt_of_le hb h1.len_le) ?_, h1.frame b hb hne]
    rcases h1.arr with h | h <;> omega
  · rcases h2.arr with h | h
    · rw [h]; exact h1.arr
    · right; exact Nat.le_trans h1.len_le h

theorem view_congr {m m' : Mem α} {t : Slice} (h : arrOf m' t.arr = arrOf m t.arr) :
    view m' t = view m t := by
  simp only [view, h]

theorem cap_congr {m m' : Mem α} {t : Slice} (h : arrOf m' t.arr = arrOf m t.arr) :
    cap m' t = cap m t := by
  simp only [cap, h]

theorem view_length (h : s.len ≤ cap m s) : (view m s).length = s.len := by
  simp only [view, cap, List.length_take] at *; omega

theorem length_writeAt (m : Mem α) (a p : Nat) (ys : List α) : (writeAt m a p ys).length = m.length := by
  simp only [writeAt, List.length_set]

theorem arrOf_writeAt_ne (m : Mem α) {a b : Nat} (p : Nat) (ys : List α) (h : b ≠ a) :
    arrOf (writeAt m a p ys) b = arrOf m b :=
  arrOf_set_ne _ (Ne.symm h)

theorem arrOf_writeAt_self {a : Nat} (p : Nat) (ys : List α) (h : a < m.length) :
    arrOf (writeAt m a p ys) a = (arrOf m a).take p ++ ys ++ (arrOf m a).drop (p + ys.length) :=
  arrOf_set_self _ h

theorem set_upd (x : List α) (h : s.arr < m.length)
    (hc : s.len ≤ x.length) : Upd m s.arr (m.set s.arr x) s :=
  ⟨by rw [List.length_set]; exact Nat.le_refl _, fun _ _ hne => arrOf_set_ne _ (Ne.symm hne),
    Or.inl rfl, by rw [List.length_set]; exact h, by unfold cap; rw [arrOf_set_self _ h]; exact hc⟩

theorem writeAt_upd {p : Nat} {ys : List α} (h : s.arr < m.length)
    (hc : s.len ≤ cap m s) (hp : p + ys.length ≤ cap m s) : Upd m s.arr (writeAt m s.arr p ys) s :=
  set_upd _ h (by
    unfold cap at hc hp
    simp only [List.length_append, List.length_take, List.length_drop]; omega)

/-- a header over a new array `x` (for any `a`: the new array is none of the old ones) -/
theorem fresh_upd (m : Mem α) (a : Nat) {x : List α} {len : Nat} (h : len ≤ x.length) :
    Upd m a (m ++ [x]) ⟨m.length, len⟩ ∧ view (m ++ [x]) ⟨m.length, len⟩ = x.take len := by
  refine ⟨⟨by simp, fun b hb _ => arrOf_append_lt _ hb, Or.inr (Nat.le_refl _), by simp, ?_⟩, ?_⟩
  · show len ≤ (arrOf (m ++ [x]) m.length).length
    rw [arrOf_append_self]; exact h
  · show (arrOf (m ++ [x]) m.length).take len = _
    rw [arrOf_append_self]

theorem append_upd (cfg : Cfg α) (ys : List α) (ha : s.arr < m.length)
    (hc : s.len ≤ cap m s) :
    Upd m s.arr (append cfg m s ys).1 (append cfg m s ys).2 ∧
    view (append cfg m s ys).1 (append cfg m s ys).2 = view m s ++ ys ∧
    (append cfg m s ys).2.len = s.len + ys.length := by
  have hv : (view m s ++ ys).length = s.len + ys.length := by
    rw [List.length_append, view_length hc]
  unfold append
  simp only
  split
  · next hfit =>
    refine ⟨writeAt_upd (s := ⟨s.arr, s.len + ys.length⟩) ha hfit hfit, ?_, rfl⟩
    show (arrOf (writeAt m s.arr s.len ys) s.arr).take (s.len + ys.length) = _
    rw [arrOf_writeAt_self _ _ ha]
    exact List.take_left' hv
  · obtain ⟨h1, h2⟩ := fresh_upd m s.arr
      (x := view m s ++ ys ++ List.replicate
        (max (s.len + ys.length) (cfg.grow (cap m s) (s.len + ys.length)) - (s.len + ys.length)) cfg.zero)
      (len := s.len + ys.length) (by rw [List.length_append, hv]; omega)
    exact ⟨h1, h2.trans (List.take_left' hv), rfl⟩

theorem mk_upd (zero : α) (m : Mem α) {len c : Nat} (h : len ≤ c) :
    Upd m m.length (mk zero m len c).1 (mk zero m len c).2 ∧
    view (mk zero m len c).1 (mk zero m len c).2 = List.replicate len zero := by
  obtain ⟨h1, h2⟩ := fresh_upd m m.length (x := List.replicate c zero) (len := len)
    (by rw [List.length_replicate]; exact h)
  exact ⟨h1, h2.trans (by rw [List.take_replicate, Nat.min_eq_left h])⟩

theorem upd_refl (ha : s.arr < m.length) (hc : s.len ≤ cap m s) :
    Upd m s.arr m s :=
  ⟨Nat.le_refl _, fun _ _ _ => rfl, Or.inl rfl, ha, hc⟩

theorem set_eq_self {β : Type} {l : List β} {c : Nat} {s : β} (h : l[c]? = some s) : l.set c s = l := by
  obtain ⟨hlt, rfl⟩ := List.getElem?_eq_some_iff.1 h
  exact List.set_getElem_self hlt

theorem push_eq (cfg : Cfg α) (σ : SHeap α) {c : Nat} (hc : σ.cells[c]? = some s) (v : α) :
    push cfg σ c v = ⟨(append cfg σ.mem s [v]).1, σ.cells.set c (append cfg σ.mem s [v]).2⟩ := by
  simp only [push, hc]

/-- the loop of `Add` on one list: `append(s, v)` once per value -/
theorem pushAll_upd (cfg : Cfg α) (vs : List α) (σ : SHeap α) {c : Nat} (hc : σ.cells[c]? = some s)
    (ha : s.arr < σ.mem.length) (hl : s.len ≤ cap σ.mem s) :
    ∃ m' s', pushAll cfg σ c vs = ⟨m', σ.cells.set c s'⟩ ∧ Upd σ.mem s.arr m' s' ∧
      view m' s' = view σ.mem s ++ vs := by
  induction vs generalizing σ s with
  | nil => exact ⟨σ.mem, s, by rw [set_eq_self hc]; rfl, upd_refl ha hl, (List.append_nil _).symm⟩
  | cons v vs ih =>
    obtain ⟨h1, h2, _⟩ := append_upd cfg [v] ha hl
    have hlt : c < σ.cells.length := (List.getElem?_eq_some_iff.1 hc).1
    obtain ⟨m', s', e, k1, k2⟩ := ih ⟨_, σ.cells.set c (append cfg σ.mem s [v]).2⟩
      (by simp only [List.getElem?_set, if_pos hlt, if_true]) h1.lt h1.cap
    refine ⟨m', s', ?_, h1.trans k1, by rw [k2, h2, List.append_assoc]; rfl⟩
    show pushAll cfg (push cfg σ c v) c vs = _
    rw [push_eq cfg σ hc, e, List.set_set]

theorem SHeap.WF.arr_ne (hw : σ.WF) {i j : Nat} {s t : Slice}
    (hi : σ.cells[i]? = some s) (hj : σ.cells[j]? = some t) (hne : i ≠ j) : s.arr ≠ t.arr := by
  have hp := List.pairwise_iff_getElem.1 hw.2
  obtain ⟨hi', rfl⟩ := List.getElem?_eq_some_iff.1 hi
  obtain ⟨hj', rfl⟩ := List.getElem?_eq_some_iff.1 hj
  rcases Nat.lt_or_gt_of_ne hne with h | h
  · have := hp i j (by simpa using hi') (by simpa using hj') h
    simpa using this
  · have := hp j i (by simpa using hj') (by simpa using hi') h
    simpa using Ne.symm this

theorem SHeap.WF.of_mem (hw : σ.WF) {i : Nat}
    (hi : σ.cells[i]? = some s) : s.arr < σ.mem.length ∧ s.len ≤ cap σ.mem s :=
  hw.1 s (List.mem_iff_getElem?.2 ⟨i, hi⟩)

theorem Upd.other {a : Nat} {m' : Mem α} {s' t : Slice} (hu : Upd m a m' s')
    (ht : t.arr < m.length ∧ t.len ≤ Slices.cap m t) (hne : t.arr ≠ a) :
    (t.arr < m'.length ∧ t.len ≤ Slices.cap m' t) ∧ view m' t = view m t ∧ t.arr ≠ s'.arr := by
  have hf := hu.frame _ ht.1 hne
  refine ⟨⟨Nat.lt_of_lt_of_le ht.1 hu.len_le, by rw [cap_congr hf]; exact ht.2⟩, view_congr hf, ?_⟩
  rcases hu.arr with h | h <;> omega

theorem wf_set (hw : σ.WF) {c : Nat} (hc : σ.cells[c]? = some s)
    {m' : Mem α} {s' : Slice} (hu : Upd σ.mem s.arr m' s') :
    (SHeap.mk m' (σ.cells.set c s')).WF ∧
    (SHeap.mk m' (σ.cells.set c s')).abs = σ.abs.set c (view m' s') := by
  have hclt : c < σ.cells.length := (List.getElem?_eq_some_iff.1 hc).1
  have hother := fun j t (hj : σ.cells[j]? = some t) (hne : j ≠ c) =>
    hu.other (hw.of_mem hj) (hw.arr_ne hj hc hne)
  refine ⟨⟨?_, ?_⟩, ?_⟩
  · intro t ht
    obtain ⟨j, hj⟩ := List.mem_iff_getElem?.1 ht
    simp only [List.getElem?_set] at hj
    split at hj
    · cases hj
      exact ⟨hu.lt, hu.cap⟩
    · next hne => exact (hother j t hj (Ne.symm hne)).1
  · show ((σ.cells.set c s').map (·.arr)).Nodup
    rw [List.Nodup, List.pairwise_iff_getElem]
    intro a b ha hb hab
    simp only [List.length_map, List.length_set] at ha hb
    have key : ∀ j (hj : j < σ.cells.length), j ≠ c → σ.cells[j].arr ≠ s'.arr :=
      fun j hj hne => (hother j _ (List.getElem?_eq_getElem hj) hne).2.2
    simp only [List.getElem_map, List.getElem_set]
    by_cases h1 : c = a <;> by_cases h2 : c = b
    · omega
    · rw [if_pos h1, if_neg h2]; exact (key b hb (Ne.symm h2)).symm
    · rw [if_neg h1, if_pos h2]; exact key a ha (Ne.symm h1)
    · rw [if_neg h1, if_neg h2]
      exact hw.arr_ne (List.getElem?_eq_getElem ha) (List.getElem?_eq_getElem hb) (Nat.ne_of_lt hab)
  · show (σ.cells.set c s').map (view m') = (σ.cells.map (view σ.mem)).set c (view m' s')
    apply List.ext_getElem?
    intro j
    simp only [List.getElem?_map, List.getElem?_set, List.length_map]
    split
    · rfl
    · next hne =>
      cases ht : σ.cells[j]? with
      | none => rfl
      | some t => simp only [Option.map_some, (hother j t ht (Ne.symm hne)).2.1]

theorem wf_append (hw : σ.WF) {m' : Mem α} {s' : Slice}
    (hu : Upd σ.mem σ.mem.length m' s') :
    (SHeap.mk m' (σ.cells ++ [s'])).WF ∧
    (SHeap.mk m' (σ.cells ++ [s'])).abs = σ.abs ++ [view m' s'] := by
  have hother := fun t (ht : t ∈ σ.cells) => hu.other (hw.1 t ht) (Nat.ne_of_lt (hw.1 t ht).1)
  refine ⟨⟨?_, ?_⟩, ?_⟩
  · intro t ht
    rcases List.mem_append.1 ht with ht | ht
    · exact (hother t ht).1
    · rw [List.mem_singleton] at ht
      subst ht
      exact ⟨hu.lt, hu.cap⟩
  · show ((σ.cells ++ [s']).map (·.arr)).Nodup
    rw [List.map_append, List.nodup_append]
    refine ⟨hw.2, by simp, ?_⟩
    intro a ha b hb
    obtain ⟨t, ht, rfl⟩ := List.mem_map.1 ha
    simp only [List.map_cons, List.map_nil, List.mem_singleton] at hb
    subst hb
    exact (hother t ht).2.2
  · show (σ.cells ++ [s']).map (view m') = σ.cells.map (view σ.mem) ++ [view m' s']
    rw [List.map_append]
    congr 1
    exact List.map_congr_left fun t ht => (hother t ht).2.1

/-! ### an operation on a list that does not exist

(Stated in this file so that the equations of `step` and `astep` are generated here, once, and
not again in every proof of the files that import it.) -/

/-- the list an operation looks up first (`Delete` looks it up once per index) -/
def Op.first : Op α → Option Nat
  | .add c _ | .insert c _ _ | .replace c _ _ | .pop c | .clear c | .concat c _ | .subList c _ _
  | .reverse c | .sort c | .clone c => some c
  | _ => none

theorem step_of_none {cfg : Cfg α} {sorted : List α → List α} {op : Op α} {c : Nat}
    (ho : op.first = some c) (hc : σ.cells[c]? = none) : step cfg sorted σ op = (σ, .panic) := by
  cases op <;> cases ho <;> simp only [step, hc]

theorem astep_of_none {sorted : List α → List α} {ls : List (List α)} {op : Op α} {c : Nat}
    (ho : op.first = some c) (hc : ls[c]? = none) : astep sorted ls op = (ls, .panic) := by
  cases op <;> cases ho <;> simp only [astep, hc]

end Anytype.Slices
