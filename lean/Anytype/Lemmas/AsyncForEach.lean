/-
The invariant of `forEachSkel` (body `[call, done]`): every reachable state satisfies `Core`
with `c = 0`, `L = 2`; the mutex is never taken, nothing is written.
-/
import Anytype.Lemmas.AsyncCore
namespace Anytype.Async
variable {n : Nat} {st : State}

structure InvFE (n : Nat) (st : State) : Prop where
  core : Core false 0 2 n st
  mutex : st.mutex = none
  result : st.result = []
  noWrite : ∀ i, Event.write i ∉ st.log

theorem invFE_init (n : Nat) : InvFE n (init forEachSkel n) :=
  ⟨core_init forEachSkel false n (by decide), rfl, rfl, by simp [init]⟩

theorem forEach_body_cases {pc : Nat} {b : BodyStep} (h : forEachSkel.body[pc]? = some b) :
    (pc = 0 ∧ b = .call) ∨ (pc = 1 ∧ b = .done) := by
  obtain ⟨hlt, rfl⟩ := List.getElem?_eq_some_iff.1 h
  clear h
  revert pc
  decide

theorem invFE_step {a : Action}
    (h : InvFE n st) (he : isEnabled forEachSkel n st a = true) :
    InvFE n (step forEachSkel n st a) := by
  cases a with
  | add => exact ⟨core_add rfl rfl h.core he, h.mutex, h.result, h.noWrite⟩
  | spawn =>
    refine ⟨core_spawn rfl (by decide) h.core he, ?_, ?_, ?_⟩
    all_goals (simp only [step]; split)
    all_goals first | exact h.mutex | exact h.result | exact h.noWrite
  | wait =>
    refine ⟨core_wait rfl (by decide) h.core he, h.mutex, h.result, ?_⟩
    intro i; simp [step, h.noWrite i]
  | work i =>
    obtain ⟨_, w, b, hw, hl, hb, _⟩ := isEnabled_work he
    rw [step_work hw]
    rcases forEach_body_cases hb with ⟨hpc, rfl⟩ | ⟨hpc, rfl⟩
    · have hc := core_work_call (n := n) (i := i) rfl h.core hw hl hb (.inl rfl) hpc (by decide)
        (fun h => by cases h)
      cases hic : w.inCall with
      | false =>
        rw [stepWorker_enter rfl hb (.inl rfl) hic] at hc ⊢
        exact ⟨hc, h.mutex, h.result, fun j => by simp [h.noWrite j]⟩
      | true =>
        simp only [stepWorker, hb, hic, if_true] at hc ⊢
        exact ⟨hc, h.mutex, h.result, fun j => by simp [h.noWrite j]⟩
    · have hc := core_work_done (n := n) (i := i) h.core hw hl hb (by rw [hpc]) (by rw [hpc]; decide)
      simp only [stepWorker, hb] at hc ⊢
      exact ⟨hc, h.mutex, h.result, h.noWrite⟩

theorem invFE_of_reachable (h : Reachable forEachSkel n st) :
    InvFE n st := by
  induction h with
  | init => exact invFE_init n
  | step _ he ih => exact invFE_step ih he

/-- deadlock freedom -/
theorem forEach_progress (h : InvFE n st)
    (hr : st.main ≠ .returned) : ∃ a, isEnabled forEachSkel n st a = true := by
  rcases h.core.progress forEachSkel hr with hm | ⟨i, w, hi, hw, hl, hpc⟩
  · exact hm
  · refine ⟨.work i, ?_⟩
    have hb : ∃ b, forEachSkel.body[w.pc]? = some b ∧ b ≠ .lock := by
      have : w.pc = 0 ∨ w.pc = 1 := by omega
      rcases this with e | e <;> rw [e] <;> simp [forEachSkel]
    obtain ⟨b, hb, hbl⟩ := hb
    simp only [isEnabled, h.core.noPanic, hi, hw, hl, hb]
    cases b <;> simp at hbl ⊢

end Anytype.Async
