/-
Entry points `ParseList` / `ParseObject` on serialised containers.
-/
import Anytype.Lemmas.RoundTrip
import Anytype.Lemmas.ParserBytes
namespace Anytype
namespace RT

theorem encode_cons (c : Char) (s : Str) : encode (c :: s) = encodeChar c ++ encode s := by
  simp [encode]

theorem split_list (xs : List JVal) :
    splitAtByte 0x5B (encode (ser (.list xs))) = some ([], encode (serList xs ++ [']'])) := by
  simp only [ser]; rfl

theorem split_obj (kvs : List (Str × JVal)) :
    splitAtByte 0x7B (encode (ser (.obj kvs))) = some ([], encode (serFields kvs ++ ['}'])) := by
  simp only [ser]; rfl

theorem _root_.Anytype.Entry.run_encode {b σ runBytes parse} (E : Entry b σ runBytes parse) {s : Str} {line : Nat} {R : PRes}
    (h : ERun (I s) σ line R) : runBytes (encode s) line = R := by
  rw [E.run_eq, decodeAll_encode]; exact h _ (Nat.lt_succ_self _)

theorem runList_ser (hf : FmtContract) (xs : List JVal) (hw : (JVal.list xs).WF) (line : Nat) :
    runList (encode (serList xs ++ [']'])) line = .ok (.list xs) [] line :=
  entryList.run_encode (LRun_iff.1 (by simpa [I] using nested_all hf (.list xs) hw [] line))

theorem runObject_ser (hf : FmtContract) (kvs : List (Str × JVal)) (hw : (JVal.obj kvs).WF) (line : Nat) :
    runObject (encode (serFields kvs ++ ['}'])) line = .ok (.obj kvs) [] line :=
  entryObject.run_encode (ORun_iff.1 (by simpa [I] using nested_all hf (.obj kvs) hw [] line))

end RT
end Anytype
