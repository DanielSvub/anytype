/-
Generic facts about the transition system of `Model/Async.lean` (valid for EVERY skeleton):
list helpers, `enabled` vs `isEnabled`, a basic invariant, and the strictly decreasing measure.
-/
import Anytype.Model.Async
namespace Anytype.Async
variable {s : Skel} {n : Nat} {st : State} {a : Action} {i : Nat} {w : Worker}

theorem getElem?_set_cases {α} {l : List α} {i j : Nat} {a b : α}
    (h : (l.set i a)[j]? = some b) : (j = i ∧ b = a) ∨ (j ≠ i ∧ l[j]? = some b) := by
  rw [List.getElem?_set] at h
  by_cases hij : i = j
  · subst hij
    rw [if_pos rfl] at h
    split at h
    · left; exact ⟨rfl, (Option.some.inj h).symm⟩
    · cases h
  · rw [if_neg hij] at h
    right; exact ⟨fun e => hij e.symm, h⟩

theorem lt_length_of_getElem? {α} {l : List α} {a : α} (h : l[i]? = some a) :
    i < l.length := by
  rcases Nat.lt_or_ge i l.length with h' | h'
  · exact h'
  · rw [List.getElem?_eq_none h'] at h; cases h

theorem getElem?_set_self' {α} {l : List α} {i : Nat} {a b : α} (h : l[i]? = some a) :
    (l.set i b)[i]? = some b :=
  List.getElem?_set_self (lt_length_of_getElem? h)

theorem forall_set {α} {P : Nat → α → Prop} {l : List α} {a : α}
    (h : ∀ (j : Nat) (w : α), l[j]? = some w → P j w) (ha : P i a) :
    ∀ (j : Nat) (w : α), (l.set i a)[j]? = some w → P j w := by
  intro j w hj
  rcases getElem?_set_cases hj with ⟨rfl, rfl⟩ | ⟨_, h'⟩
  · exact ha
  · exact h j w h'

theorem forall_set_ne {α} {P : Nat → α → Prop} {l : List α} {a : α}
    (h : ∀ (j : Nat) (w : α), j ≠ i → l[j]? = some w → P j w) (ha : P i a) :
    ∀ (j : Nat) (w : α), (l.set i a)[j]? = some w → P j w := by
  intro j w hj
  rcases getElem?_set_cases hj with ⟨rfl, rfl⟩ | ⟨hne, h'⟩
  · exact ha
  · exact h j w hne h'

theorem countP_lt_length_of {α} (p : α → Bool) {l : List α} {w : α}
    (h : l[i]? = some w) (hp : p w = false) : l.countP p < l.length := by
  rcases Nat.lt_or_ge (l.countP p) l.length with h' | h'
  · exact h'
  · have he : l.countP p = l.length := Nat.le_antisymm List.countP_le_length h'
    have := List.countP_eq_length.1 he w (List.mem_iff_getElem?.2 ⟨i, h⟩)
    rw [hp] at this; cases this

theorem exists_not_of_countP_lt {α} (p : α → Bool) {l : List α}
    (h : l.countP p < l.length) : ∃ (i : Nat) (w : α), l[i]? = some w ∧ p w = false := by
  induction l with
  | nil => simp at h
  | cons x xs ih =>
    by_cases hx : p x = true
    · simp only [List.countP_cons, hx, if_true, List.length_cons] at h
      obtain ⟨i, w, hi, hw⟩ := ih (by omega)
      exact ⟨i + 1, w, by simpa using hi, hw⟩
    · exact ⟨0, x, by simp, by simpa using hx⟩

theorem countP_le_one {α} (p : α → Bool) (l : List α)
    (h : ∀ (i j : Nat) (a b : α), l[i]? = some a → l[j]? = some b → p a = true → p b = true →
    i = j) : l.countP p ≤ 1 := by
  induction l with
  | nil => simp
  | cons x xs ih =>
    have ih' := ih (fun i j a b ha hb pa pb => by
      have := h (i + 1) (j + 1) a b (by simpa using ha) (by simpa using hb) pa pb
      omega)
    by_cases hx : p x = true
    · have : xs.countP p = 0 := by
        rw [List.countP_eq_zero]
        intro a ha pa
        obtain ⟨j, hj⟩ := List.mem_iff_getElem?.1 ha
        have := h 0 (j + 1) x a (by simp) (by simpa using hj) hx pa
        omega
      simp [hx, this]
    · simpa [List.countP_cons, hx] using ih'

theorem sum_map_set_add {α} (f : α → Nat) {l : List α} {w : α} (w' : α)
    (h : l[i]? = some w) :
    ((l.set i w').map f).sum + f w = (l.map f).sum + f w' := by
  induction l generalizing i with
  | nil => cases h
  | cons x xs ih =>
    cases i with
    | zero =>
      simp only [List.getElem?_cons_zero, Option.some.injEq] at h
      subst h
      simp only [List.set_cons_zero, List.map_cons, List.sum_cons]
      omega
    | succ i =>
      simp only [List.getElem?_cons_succ] at h
      have := ih h
      simp only [List.set_cons_succ, List.map_cons, List.sum_cons]
      omega

theorem countP_eq_sum {α} (p : α → Bool) (l : List α) :
    l.countP p = (l.map fun a => if p a = true then 1 else 0).sum := by
  induction l with
  | nil => rfl
  | cons x xs ih => simp only [List.countP_cons, List.map_cons, List.sum_cons, ih]; omega

theorem countP_set_add {α} (p : α → Bool) {l : List α} {w : α} (w' : α)
    (h : l[i]? = some w) :
    (l.set i w').countP p + (if p w = true then 1 else 0)
      = l.countP p + (if p w' = true then 1 else 0) := by
  simp only [countP_eq_sum]
  exact sum_map_set_add _ w' h

theorem isEnabled_not_panicked {s : Skel} {n : Nat} {st : State} {a : Action}
    (h : isEnabled s n st a = true) : st.panicked = false := by
  cases a <;> simp only [isEnabled, Bool.and_eq_true, Bool.not_eq_true'] at h
  · exact h.1
  · exact h.1
  · exact h.1
  · exact h.1.1

theorem isEnabled_add (h : isEnabled s n st .add = true) :
    st.main = .start := by
  cases hm : st.main <;> simp [isEnabled, hm] at h ⊢

theorem isEnabled_spawn (h : isEnabled s n st .spawn = true) :
    ∃ k, st.main = .spawned k ∧ k < n := by
  cases hm : st.main <;> simp [isEnabled, hm] at h ⊢
  exact h.2

theorem isEnabled_wait (h : isEnabled s n st .wait = true) :
    ∃ k, st.main = .spawned k ∧ n ≤ k ∧ (s.waitBeforeReturn = true → st.counter = 0) := by
  cases hm : st.main <;> simp [isEnabled, hm] at h ⊢
  exact ⟨h.2.1, fun hs => by simpa [hs] using h.2.2⟩

theorem isEnabled_work
    (h : isEnabled s n st (.work i) = true) :
    i < n ∧ ∃ w b, st.workers[i]? = some w ∧ w.live = true ∧ s.body[w.pc]? = some b ∧
      (b = .lock → st.mutex = none) := by
  simp only [isEnabled, Bool.and_eq_true, decide_eq_true_eq] at h
  obtain ⟨⟨_, hi⟩, h⟩ := h
  refine ⟨hi, ?_⟩
  cases hw : st.workers[i]? with
  | none => simp [hw] at h
  | some w =>
    simp only [hw, Bool.and_eq_true] at h
    obtain ⟨hl, h⟩ := h
    cases hb : s.body[w.pc]? with
    | none => simp [hb] at h
    | some b =>
      refine ⟨w, b, rfl, hl, hb, ?_⟩
      intro e; subst e
      simpa [hb] using h

theorem mem_enabled :
    a ∈ enabled s n st ↔ isEnabled s n st a = true := by
  simp only [enabled, List.mem_filter, and_iff_right_iff_imp]
  intro h
  cases a with
  | work i => simp [allActions, (isEnabled_work h).1]
  | _ => simp [allActions]

theorem step_work
    (hw : st.workers[i]? = some w) : step s n st (.work i) = stepWorker s n st i w := by
  simp only [step, hw]

theorem workerMeasure_arith {a b d : Nat} (h : a < b) (hd : d ≤ 1) : 2 * a < 2 * b - d := by
  omega

theorem workerMeasure_next (h : w.pc < s.body.length) :
    workerMeasure s { w with pc := w.pc + 1, inCall := false } < workerMeasure s w :=
  workerMeasure_arith (Nat.sub_succ_lt_self _ _ h) (by split <;> decide)

theorem workerMeasure_enter {a : Nat} (h : w.pc < s.body.length)
    (hc : w.inCall = false) :
    workerMeasure s { w with inCall := true, arg := a } < workerMeasure s w := by
  have := Nat.sub_pos_of_lt h
  simp only [workerMeasure, hc, Bool.false_eq_true, if_false, if_true]
  omega

theorem stepWorker_shape {b : BodyStep}
    (hb : s.body[w.pc]? = some b) :
    ∃ w', (stepWorker s n st i w).workers = st.workers.set i w' ∧
      workerMeasure s w' < workerMeasure s w ∧ (stepWorker s n st i w).main = st.main := by
  have hlt : w.pc < s.body.length := lt_length_of_getElem? hb
  have next : ∃ w', st.workers.set i { w with pc := w.pc + 1, inCall := false } = st.workers.set i w' ∧
      workerMeasure s w' < workerMeasure s w ∧ st.main = st.main :=
    ⟨_, rfl, workerMeasure_next hlt, rfl⟩
  have enter : w.inCall = false →
      ∃ w', st.workers.set i { w with inCall := true, arg := readArg s n st w } = st.workers.set i w' ∧
        workerMeasure s w' < workerMeasure s w ∧ st.main = st.main :=
    fun hc => ⟨_, rfl, workerMeasure_enter hlt hc, rfl⟩
  unfold stepWorker
  rw [hb]
  cases b <;> dsimp only
  case lock | done | «opaque» => exact next
  case unlock => split <;> exact next
  case call | callWrite =>
    split
    · exact next
    · next h => exact enter (by simpa using h)

/-! ### a basic invariant of every skeleton -/

/-- how many workers main has spawned -/
def spawnedCount (n : Nat) : MainPc → Nat
  | .start => 0
  | .spawned k => k
  | .returned => n

/-- the workers main has not spawned yet are untouched -/
structure Basic (n : Nat) (st : State) : Prop where
  len : st.workers.length = n
  fresh : ∀ j, spawnedCount n st.main ≤ j → j < n → st.workers[j]? = some {}

theorem init_worker {j : Nat} (h : (init s n).workers[j]? = some w) : w = {} ∧ j < n := by
  simp only [init, List.getElem?_replicate] at h
  split at h
  · cases h; exact ⟨rfl, by assumption⟩
  · cases h

theorem basic_init (s : Skel) (n : Nat) : Basic n (init s n) :=
  ⟨by simp [init], fun j _ hn => by simp [init, hn]⟩

theorem Basic.unspawned (hB : Basic n st) {k : Nat}
    (hm : st.main = .spawned k) (hk : k < n) : st.workers[k]? = some {} :=
  hB.fresh k (by rw [hm]; exact Nat.le_refl k) hk

theorem basic_step
    (hB : Basic n st) (he : isEnabled s n st a = true) : Basic n (step s n st a) := by
  obtain ⟨len, fresh⟩ := hB
  cases a with
  | add =>
    have hm := isEnabled_add he
    exact ⟨len, fun j _ hn => fresh j (by rw [hm]; exact Nat.zero_le j) hn⟩
  | spawn =>
    obtain ⟨k, hm, _⟩ := isEnabled_spawn he
    simp only [step, hm]
    refine ⟨by simpa using len, fun j hj hn => ?_⟩
    rw [List.getElem?_set_ne (Nat.ne_of_lt hj)]
    exact fresh j (by rw [hm]; exact Nat.le_of_succ_le hj) hn
  | wait => exact ⟨len, fun j hj hn => absurd hn (Nat.not_lt.2 hj)⟩
  | work i =>
    obtain ⟨_, w, b, hw, hl, hb, _⟩ := isEnabled_work he
    obtain ⟨w', hws, _, hmain⟩ := stepWorker_shape (n := n) (st := st) (i := i) hb
    rw [step_work hw]
    refine ⟨by rw [hws]; simpa using len, fun j hj hn => ?_⟩
    rw [hmain] at hj
    -- the acting worker is live, so it is not one of those
    have hij : i ≠ j := by
      rintro rfl
      have := fresh i hj hn
      rw [hw] at this
      cases this
      cases hl
    rw [hws, List.getElem?_set_ne hij]
    exact fresh j hj hn

theorem basic_of_reachable (h : Reachable s n st) :
    Basic n st := by
  induction h with
  | init => exact basic_init s n
  | step _ he ih => exact basic_step ih he

theorem measure_step_lt
    (hB : Basic n st) (he : isEnabled s n st a = true) :
    measure s n (step s n st a) < measure s n st := by
  cases a with
  | add =>
    simp only [measure, step, isEnabled_add he, mainMeasure]
    omega
  | spawn =>
    obtain ⟨k, hm, hk⟩ := isEnabled_spawn he
    have hsum := sum_map_set_add (workerMeasure s)
      ({ live := true, pc := 0, inCall := false, arg := k } : Worker) (hB.unspawned hm hk)
    simp only [measure, step, hm, mainMeasure]
    simp only [workerMeasure, Bool.false_eq_true, if_false] at hsum ⊢
    omega
  | wait =>
    obtain ⟨k, hm, _⟩ := isEnabled_wait he
    simp only [measure, step, hm, mainMeasure]
    omega
  | work i =>
    obtain ⟨_, w, b, hw, hl, hb, _⟩ := isEnabled_work he
    obtain ⟨w', hws, hlt, hmain⟩ := stepWorker_shape (n := n) (st := st) (i := i) hb
    have hsum := sum_map_set_add (workerMeasure s) w' hw
    simp only [measure, step_work hw, hws, hmain]
    omega

end Anytype.Async
