/-
Lemmas for C14: every loop of the typed / untyped views (`XSlice`, `ForEach*`, `Filter*`,
`Reduce*`, `All*`) of lists and objects equals a simple reference fold (the `Map*` loops are in
`Lemmas/MapGeneral.lean`); scalar callback results.
-/
import Anytype.Model.ObjectOps
import Anytype.Lemmas.Assoc
import Anytype.Lemmas.Heap
namespace Anytype

/-! ### `sel` -/

namespace L

theorem sel_congr {h h' : Heap} (he : ∀ b, h'.ego b = h.ego b) (b : Bool) (k : Kind) (v : Val) :
    sel h' b k v = sel h b k v := by
  simp only [sel, Heap.getVal_congr he]

/-- what a typed variant hands to its callback / appends for a selected element -/
def pick (h : Heap) (viaGetVal : Bool) (v : Val) : Val := if viaGetVal then h.getVal v else v

theorem sel_eq (h : Heap) (b : Bool) (k : Kind) (v : Val) :
    sel h b k v = if v.kind == k then some (pick h b v) else none := rfl

theorem sel_eq_none_iff {h : Heap} {b : Bool} {k : Kind} {v : Val} :
    sel h b k v = none ↔ v.kind ≠ k := by
  unfold sel
  by_cases hk : v.kind = k <;> simp [hk]

theorem sel_isSome {h : Heap} {b : Bool} {k : Kind} {v : Val} :
    (sel h b k v).isSome = (v.kind == k) := by
  rw [sel_eq]
  cases v.kind == k <;> rfl

@[simp] theorem pick_kind (h : Heap) (b : Bool) (v : Val) : (pick h b v).kind = v.kind := by
  cases b
  · rfl
  · exact Heap.getVal_kind h v

/-- the elements a typed variant selects are the elements of that kind, in order, each once -/
theorem filterMap_sel (h : Heap) (b : Bool) (k : Kind) (xs : List Val) :
    xs.filterMap (sel h b k) = (xs.filter (fun v => v.kind == k)).map (pick h b) := by
  induction xs with
  | nil => rfl
  | cons x xs ih =>
    rw [List.filterMap_cons, List.filter_cons, sel_eq, ih]
    cases x.kind == k <;> rfl

/-! ### the loops -/

theorem sliceKLoop_eq (h : Heap) (k : Kind) (xs acc : List Val) :
    sliceKLoop h k xs acc = acc ++ xs.filterMap (sel h (viaGetValL k) k) := by
  induction xs generalizing acc with
  | nil => simp [sliceKLoop]
  | cons x xs ih =>
    simp only [sliceKLoop, List.filterMap_cons]
    cases sel h (viaGetValL k) k x <;> simp only [ih, List.append_assoc, List.singleton_append]

theorem forEachKLoop_eq (h : Heap) (k : Kind) (xs log : List Val) :
    forEachKLoop h k xs log = log ++ xs.filterMap (sel h (viaGetValL k) k) := by
  induction xs generalizing log with
  | nil => simp [forEachKLoop]
  | cons x xs ih =>
    simp only [forEachKLoop, List.filterMap_cons]
    cases sel h (viaGetValL k) k x <;> simp only [ih, List.append_assoc, List.singleton_append]

theorem forEachLoop_eq (h : Heap) (xs : List Val) (n : Nat) (log : List (Int × Val)) :
    forEachLoop h xs (n : Int) log
      = log ++ (xs.zipIdx n).map (fun p => ((p.2 : Int), h.getVal p.1)) := by
  induction xs generalizing n log with
  | nil => simp [forEachLoop]
  | cons x xs ih =>
    rw [forEachLoop, List.zipIdx_cons, List.map_cons, ← Int.natCast_succ, ih, List.append_assoc]
    rfl

theorem forEach_eq (h : Heap) (a : Nat) :
    forEach h a = ((h.items a).zipIdx).map (fun p => ((p.2 : Int), h.getVal p.1)) := by
  simpa [forEach] using forEachLoop_eq h (h.items a) 0 []

theorem filterLoop_eq (h : Heap) (p : Val → Bool) (xs acc : List Val) :
    filterLoop h p xs acc = acc ++ (xs.map h.getVal).filter p := by
  induction xs generalizing acc with
  | nil => simp [filterLoop]
  | cons x xs ih =>
    simp only [filterLoop, List.map_cons, List.filter_cons]
    cases p (h.getVal x) <;> simp [ih]

theorem filterKLoop_eq (h : Heap) (k : Kind) (p : Val → Bool) (xs acc : List Val) :
    filterKLoop h k p xs acc = acc ++ (xs.filterMap (sel h (viaGetValL k) k)).filter p := by
  induction xs generalizing acc with
  | nil => simp [filterKLoop]
  | cons x xs ih =>
    simp only [filterKLoop, List.filterMap_cons]
    cases hs : sel h (viaGetValL k) k x with
    | none => exact ih acc
    | some v =>
      simp only [List.filter_cons]
      cases p v <;> simp [ih]

theorem reduceLoop_eq {α} (h : Heap) (f : α → Val → α) (xs : List Val) (acc : α) :
    reduceLoop h f xs acc = (xs.map h.getVal).foldl f acc := by
  induction xs generalizing acc with
  | nil => rfl
  | cons x xs ih => simp [reduceLoop, ih]

theorem reduceKLoop_eq {α} (h : Heap) (k : Kind) (f : α → Val → α) (xs : List Val) (acc : α) :
    reduceKLoop h k f xs acc = (xs.filterMap (sel h true k)).foldl f acc := by
  induction xs generalizing acc with
  | nil => rfl
  | cons x xs ih =>
    simp only [reduceKLoop, List.filterMap_cons]
    cases sel h true k x <;> exact ih _

theorem allKLoop_eq (k : Kind) (xs : List Val) :
    allKLoop k xs = xs.all (fun v => v.kind == k) := by
  induction xs with
  | nil => rfl
  | cons x xs ih =>
    simp only [allKLoop, List.all_cons, ih]
    cases x.kind == k <;> rfl

theorem allNumericLoop_eq (xs : List Val) :
    allNumericLoop xs = xs.all (fun v => v.kind == .int || v.kind == .float) := by
  induction xs with
  | nil => rfl
  | cons x xs ih =>
    simp only [allNumericLoop, List.all_cons, ih]
    cases x.kind == .int <;> cases x.kind == .float <;> rfl

end L

/-! ### scalar callback results and `parseVal` -/

/-- the callback result needs no fresh cell: anything but a Go slice / map / foreign type -/
def GoVal.isScalar : GoVal → Bool
  | .slice _ _ => false
  | .map _ _ => false
  | .unsupported => false
  | _ => true

/-- what `parseVal` stores for a scalar result -/
def scalarVal : GoVal → Val
  | .nil => .nil
  | .bool b => .bool b
  | .intw _ v => .int (wrap64 v)
  | .f64 f => .float f
  | .f32 b => .float (f32to64 b)
  | .str s => .str s
  | .list r => .list r
  | .obj r => .obj r
  | _ => .nil

theorem parseVal_scalar (h : Heap) {g : GoVal} (hg : g.isScalar = true) :
    parseVal h g = (h, .ok (scalarVal g)) := by
  cases g <;> first | rfl | exact (Bool.false_ne_true hg).elim

/-- a `getVal()` result handed back unchanged is a scalar result -/
theorem Val.toGo_isScalar (v : Val) : v.toGo.isScalar = true := by cases v <;> rfl

/-! ### the heap after allocating one cell -/

theorem set_append_singleton_length {α} (h : List α) (c d : α) :
    (h ++ [c]).set h.length d = h ++ [d] := by
  induction h with
  | nil => rfl
  | cons x xs ih => simp [ih]

theorem Heap.items_append_self (h : Heap) (xs : List Val) (e : Nat) :
    Heap.items (h ++ [.list xs e]) h.length = xs :=
  Heap.items_append_new h xs e

theorem lookup_append_of_none {α} (xs ys : List (Str × α)) (k : Str) (hx : lookup xs k = none) :
    lookup (xs ++ ys) k = lookup ys k := by
  induction xs with
  | nil => rfl
  | cons p xs ih =>
    obtain ⟨k', v⟩ := p
    rw [lookup] at hx
    rw [List.cons_append, lookup]
    split at hx
    · cases hx
    · next hk => rw [if_neg hk]; exact ih hx

/-! ### objects -/

namespace O

theorem forEachKLoop_eq (h : Heap) (k : Kind) (fs : List (Str × Val)) (log : List Val) :
    forEachKLoop h k fs log = log ++ (fs.map (·.2)).filterMap (L.sel h true k) := by
  induction fs generalizing log with
  | nil => simp [forEachKLoop]
  | cons p fs ih =>
    obtain ⟨key, x⟩ := p
    simp only [forEachKLoop, List.map_cons, List.filterMap_cons]
    cases L.sel h true k x <;> simp only [ih, List.append_assoc, List.singleton_append]

/-- what `MapX` stores for a field: the converted callback result under the same key,
nothing if the field is not of the kind -/
def mapKEntry (h : Heap) (kd : Kind) (f : Val → GoVal) (kv : Str × Val) : Option (Str × Val) :=
  (L.sel h (L.viaGetValL kd) kd kv.2).map (fun x => (kv.1, scalarVal (f x)))

theorem mapKEntry_key {h : Heap} {kd : Kind} {f : Val → GoVal} {kv q : Str × Val}
    (hq : mapKEntry h kd f kv = some q) : q.1 = kv.1 := by
  obtain ⟨x, _, rfl⟩ := Option.map_eq_some_iff.mp hq
  rfl

end O
end Anytype
