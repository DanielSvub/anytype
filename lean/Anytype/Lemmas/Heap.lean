/-
Basic lemmas about the heap model: get/set/alloc, and the frame ("only appends, only
touches the target cell") lemmas for `parseVal` / `addEach` / `setEach`.
-/
import Anytype.Model.ListOps
namespace Anytype

/-- what `setItems`/`setFields` never change in a cell: its kind and its ego level -/
def Cell.shape : Cell → Bool × Nat
  | .list _ e => (true, e)
  | .obj _ e => (false, e)

namespace Heap

theorem isList_iff {h : Heap} {a : Nat} : h.isList a = true ↔ ∃ xs e, h[a]? = some (.list xs e) := by
  unfold isList
  cases h[a]? with
  | none => simp
  | some c => cases c <;> simp

theorem isObj_iff {h : Heap} {a : Nat} : h.isObj a = true ↔ ∃ kvs e, h[a]? = some (.obj kvs e) := by
  unfold isObj
  cases h[a]? with
  | none => simp
  | some c => cases c <;> simp

theorem getElem?_of_isList {h : Heap} {a : Nat} (hl : h.isList a = true) :
    h[a]? = some (.list (h.items a) (h.ego a)) := by
  obtain ⟨xs, e, he⟩ := isList_iff.1 hl
  simp only [items, ego, he]

theorem getElem?_of_isObj {h : Heap} {a : Nat} (hl : h.isObj a = true) :
    h[a]? = some (.obj (h.fields a) (h.ego a)) := by
  obtain ⟨xs, e, he⟩ := isObj_iff.1 hl
  simp only [fields, ego, he]

theorem isList_lt {h : Heap} {a : Nat} (hl : h.isList a = true) : a < h.length :=
  (List.getElem?_eq_some_iff.1 (getElem?_of_isList hl)).1

theorem isObj_lt {h : Heap} {a : Nat} (hl : h.isObj a = true) : a < h.length :=
  (List.getElem?_eq_some_iff.1 (getElem?_of_isObj hl)).1

theorem isObj_false_of_isList {h : Heap} {a : Nat} (hl : h.isList a = true) : h.isObj a = false := by
  simp only [isObj, getElem?_of_isList hl]

theorem isList_false_of_isObj {h : Heap} {a : Nat} (hl : h.isObj a = true) : h.isList a = false := by
  simp only [isList, getElem?_of_isObj hl]

theorem items_of_not_isList {h : Heap} {a : Nat} (hl : h.isList a = false) : h.items a = [] := by
  unfold items; unfold isList at hl
  split
  · simp_all
  · rfl

theorem fields_of_not_isObj {h : Heap} {a : Nat} (hl : h.isObj a = false) : h.fields a = [] := by
  unfold fields; unfold isObj at hl
  split
  · simp_all
  · rfl

theorem getVal_kind (h : Heap) (v : Val) : (h.getVal v).kind = v.kind := by
  cases v <;> rfl

/-- `getVal` only looks at the `ego` table -/
theorem getVal_congr {h h' : Heap} (he : ∀ b, h'.ego b = h.ego b) (v : Val) :
    h'.getVal v = h.getVal v := by
  cases v <;> simp only [getVal, he]

/-- everything observable about cell `b` depends only on `h[b]?` -/
theorem items_congr {h h' : Heap} {b b' : Nat} (e : h'[b']? = h[b]?) : h'.items b' = h.items b := by
  unfold items; rw [e]
theorem fields_congr {h h' : Heap} {b b' : Nat} (e : h'[b']? = h[b]?) : h'.fields b' = h.fields b := by
  unfold fields; rw [e]
theorem ego_congr {h h' : Heap} {b b' : Nat} (e : h'[b']? = h[b]?) : h'.ego b' = h.ego b := by
  unfold ego; rw [e]
theorem isList_congr {h h' : Heap} {b b' : Nat} (e : h'[b']? = h[b]?) : h'.isList b' = h.isList b := by
  unfold isList; rw [e]
theorem isObj_congr {h h' : Heap} {b b' : Nat} (e : h'[b']? = h[b]?) : h'.isObj b' = h.isObj b := by
  unfold isObj; rw [e]

/-- ego / isList / isObj are functions of the shape -/
theorem obs_eq_shape (h : Heap) (b : Nat) :
    h.ego b = ((h[b]?).map Cell.shape).elim 0 (·.2) ∧
    h.isList b = ((h[b]?).map Cell.shape).elim false (·.1) ∧
    h.isObj b = ((h[b]?).map Cell.shape).elim false (!·.1) := by
  unfold ego isList isObj
  cases h[b]? with
  | none => exact ⟨rfl, rfl, rfl⟩
  | some c => cases c <;> exact ⟨rfl, rfl, rfl⟩

theorem ego_of_shape {h h' : Heap} {b : Nat} (e : (h'[b]?).map Cell.shape = (h[b]?).map Cell.shape) :
    h'.ego b = h.ego b := by
  rw [(obs_eq_shape h' b).1, e, ← (obs_eq_shape h b).1]
theorem isList_of_shape {h h' : Heap} {b : Nat} (e : (h'[b]?).map Cell.shape = (h[b]?).map Cell.shape) :
    h'.isList b = h.isList b := by
  rw [(obs_eq_shape h' b).2.1, e, ← (obs_eq_shape h b).2.1]
theorem isObj_of_shape {h h' : Heap} {b : Nat} (e : (h'[b]?).map Cell.shape = (h[b]?).map Cell.shape) :
    h'.isObj b = h.isObj b := by
  rw [(obs_eq_shape h' b).2.2, e, ← (obs_eq_shape h b).2.2]

theorem shape_set {h : Heap} {a : Nat} {c : Cell} (hc : (h[a]?).map Cell.shape = some c.shape) (b : Nat) :
    ((h.set a c)[b]?).map Cell.shape = (h[b]?).map Cell.shape := by
  rw [List.getElem?_set]
  split
  · next hab =>
    subst hab
    split
    · exact hc.symm
    · next hlt => rw [List.getElem?_eq_none (Nat.le_of_not_lt hlt)]
  · rfl

theorem setItems_eq (h : Heap) (a : Nat) (xs : List Val) :
    h.setItems a xs = if h.isList a = true then h.set a (.list xs (h.ego a)) else h := by
  unfold setItems isList ego
  cases h[a]? with
  | none => rfl
  | some c => cases c <;> rfl

@[simp] theorem length_setItems (h : Heap) (a : Nat) (xs : List Val) :
    (h.setItems a xs).length = h.length := by
  rw [setItems_eq]; split
  · exact List.length_set
  · rfl

theorem getElem?_setItems_ne (h : Heap) {a b : Nat} (xs : List Val) (hne : b ≠ a) :
    (h.setItems a xs)[b]? = h[b]? := by
  rw [setItems_eq]; split
  · exact List.getElem?_set_ne (Ne.symm hne)
  · rfl

theorem getElem?_setItems_self {h : Heap} {a : Nat} (xs : List Val) (hl : h.isList a = true) :
    (h.setItems a xs)[a]? = some (.list xs (h.ego a)) := by
  rw [setItems_eq, if_pos hl, List.getElem?_set_self (isList_lt hl)]

theorem setItems_of_not_isList {h : Heap} {a : Nat} (xs : List Val) (hl : h.isList a = false) :
    h.setItems a xs = h := by
  rw [setItems_eq, hl]; rfl

theorem shape_setItems (h : Heap) (a b : Nat) (xs : List Val) :
    ((h.setItems a xs)[b]?).map Cell.shape = (h[b]?).map Cell.shape := by
  rw [setItems_eq]; split
  · next hl => exact shape_set (by rw [getElem?_of_isList hl]; rfl) b
  · rfl

@[simp] theorem ego_setItems (h : Heap) (a b : Nat) (xs : List Val) : (h.setItems a xs).ego b = h.ego b :=
  ego_of_shape (shape_setItems h a b xs)
@[simp] theorem isList_setItems (h : Heap) (a b : Nat) (xs : List Val) :
    (h.setItems a xs).isList b = h.isList b :=
  isList_of_shape (shape_setItems h a b xs)
@[simp] theorem isObj_setItems (h : Heap) (a b : Nat) (xs : List Val) :
    (h.setItems a xs).isObj b = h.isObj b :=
  isObj_of_shape (shape_setItems h a b xs)
@[simp] theorem egoRef_setItems (h : Heap) (a b : Nat) (xs : List Val) :
    (h.setItems a xs).egoRef b = h.egoRef b := by
  unfold egoRef; rw [ego_setItems]
@[simp] theorem getVal_setItems (h : Heap) (a : Nat) (xs : List Val) (v : Val) :
    (h.setItems a xs).getVal v = h.getVal v :=
  getVal_congr (fun b => ego_setItems h a b xs) v

theorem items_setItems_same {h : Heap} {a : Nat} (xs : List Val) (hl : h.isList a = true) :
    (h.setItems a xs).items a = xs := by
  simp only [items, getElem?_setItems_self xs hl]

theorem items_setItems_other (h : Heap) {a b : Nat} (xs : List Val) (hne : b ≠ a) :
    (h.setItems a xs).items b = h.items b :=
  items_congr (getElem?_setItems_ne h xs hne)

theorem items_setItems (h : Heap) (a b : Nat) (xs : List Val) :
    (h.setItems a xs).items b = if b = a ∧ h.isList a = true then xs else h.items b := by
  by_cases hne : b = a
  · subst hne
    cases hl : h.isList b
    · simp [setItems_of_not_isList _ hl]
    · simp [items_setItems_same xs hl]
  · simp [hne, items_setItems_other]

theorem fields_setItems (h : Heap) (a b : Nat) (xs : List Val) :
    (h.setItems a xs).fields b = h.fields b := by
  by_cases hne : b = a
  · subst hne
    cases hl : h.isList b
    · rw [setItems_of_not_isList _ hl]
    · simp only [fields, getElem?_setItems_self xs hl, getElem?_of_isList hl]
  · exact fields_congr (getElem?_setItems_ne h xs hne)

@[simp] theorem setItems_setItems (h : Heap) (a : Nat) (xs ys : List Val) :
    (h.setItems a xs).setItems a ys = h.setItems a ys := by
  rw [setItems_eq, isList_setItems, ego_setItems, setItems_eq h a ys, setItems_eq h a xs]
  split
  · exact List.set_set ..
  · rfl

@[simp] theorem setItems_items_self (h : Heap) (a : Nat) : h.setItems a (h.items a) = h := by
  rw [setItems_eq]; split
  · next hl =>
    obtain ⟨hlt, he⟩ := List.getElem?_eq_some_iff.1 (getElem?_of_isList hl)
    rw [← he, List.set_getElem_self]
  · rfl

theorem setFields_eq (h : Heap) (a : Nat) (kvs : List (Str × Val)) :
    h.setFields a kvs = if h.isObj a = true then h.set a (.obj kvs (h.ego a)) else h := by
  unfold setFields isObj ego
  cases h[a]? with
  | none => rfl
  | some c => cases c <;> rfl

@[simp] theorem length_setFields (h : Heap) (a : Nat) (kvs : List (Str × Val)) :
    (h.setFields a kvs).length = h.length := by
  rw [setFields_eq]; split
  · exact List.length_set
  · rfl

theorem getElem?_setFields_ne (h : Heap) {a b : Nat} (kvs : List (Str × Val)) (hne : b ≠ a) :
    (h.setFields a kvs)[b]? = h[b]? := by
  rw [setFields_eq]; split
  · exact List.getElem?_set_ne (Ne.symm hne)
  · rfl

theorem getElem?_setFields_self {h : Heap} {a : Nat} (kvs : List (Str × Val)) (hl : h.isObj a = true) :
    (h.setFields a kvs)[a]? = some (.obj kvs (h.ego a)) := by
  rw [setFields_eq, if_pos hl, List.getElem?_set_self (isObj_lt hl)]

theorem setFields_of_not_isObj {h : Heap} {a : Nat} (kvs : List (Str × Val)) (hl : h.isObj a = false) :
    h.setFields a kvs = h := by
  rw [setFields_eq, hl]; rfl

theorem shape_setFields (h : Heap) (a b : Nat) (kvs : List (Str × Val)) :
    ((h.setFields a kvs)[b]?).map Cell.shape = (h[b]?).map Cell.shape := by
  rw [setFields_eq]; split
  · next hl => exact shape_set (by rw [getElem?_of_isObj hl]; rfl) b
  · rfl

@[simp] theorem ego_setFields (h : Heap) (a b : Nat) (kvs : List (Str × Val)) :
    (h.setFields a kvs).ego b = h.ego b :=
  ego_of_shape (shape_setFields h a b kvs)
@[simp] theorem isList_setFields (h : Heap) (a b : Nat) (kvs : List (Str × Val)) :
    (h.setFields a kvs).isList b = h.isList b :=
  isList_of_shape (shape_setFields h a b kvs)
@[simp] theorem isObj_setFields (h : Heap) (a b : Nat) (kvs : List (Str × Val)) :
    (h.setFields a kvs).isObj b = h.isObj b :=
  isObj_of_shape (shape_setFields h a b kvs)

theorem egoRef_setFields (h : Heap) (a b : Nat) (kvs : List (Str × Val)) :
    (h.setFields a kvs).egoRef b = h.egoRef b := by
  unfold egoRef; rw [ego_setFields]

theorem getVal_setFields (h : Heap) (a : Nat) (kvs : List (Str × Val)) (v : Val) :
    (h.setFields a kvs).getVal v = h.getVal v :=
  getVal_congr (fun b => ego_setFields h a b kvs) v

theorem fields_setFields_same {h : Heap} {a : Nat} (kvs : List (Str × Val)) (hl : h.isObj a = true) :
    (h.setFields a kvs).fields a = kvs := by
  simp only [fields, getElem?_setFields_self kvs hl]

theorem fields_setFields_other (h : Heap) {a b : Nat} (kvs : List (Str × Val)) (hne : b ≠ a) :
    (h.setFields a kvs).fields b = h.fields b :=
  fields_congr (getElem?_setFields_ne h kvs hne)

theorem items_setFields (h : Heap) (a b : Nat) (kvs : List (Str × Val)) :
    (h.setFields a kvs).items b = h.items b := by
  by_cases hne : b = a
  · subst hne
    cases hl : h.isObj b
    · rw [setFields_of_not_isObj _ hl]
    · simp only [items, getElem?_setFields_self kvs hl, getElem?_of_isObj hl]
  · exact items_congr (getElem?_setFields_ne h kvs hne)

theorem setFields_setFields (h : Heap) (a : Nat) (xs ys : List (Str × Val)) :
    (h.setFields a xs).setFields a ys = h.setFields a ys := by
  rw [setFields_eq, isObj_setFields, ego_setFields, setFields_eq h a ys, setFields_eq h a xs]
  split
  · exact List.set_set ..
  · rfl

theorem setFields_fields_self (h : Heap) (a : Nat) : h.setFields a (h.fields a) = h := by
  rw [setFields_eq]; split
  · next hl =>
    obtain ⟨hlt, he⟩ := List.getElem?_eq_some_iff.1 (getElem?_of_isObj hl)
    rw [← he, List.set_getElem_self]
  · rfl

theorem getElem?_append_old (h : Heap) (c : Cell) {b : Nat} (hb : b < h.length) :
    (h ++ [c])[b]? = h[b]? := by
  rw [List.getElem?_append_left hb]

@[simp] theorem getElem?_append_new (h : Heap) (c : Cell) : (h ++ [c])[h.length]? = some c :=
  List.getElem?_concat_length ..

theorem length_lt_append (h : Heap) (c : Cell) : h.length < (h ++ [c]).length := by
  rw [List.length_append]; exact Nat.lt_add_one _

theorem getElem?_append_cell (h : Heap) (c : Cell) (b : Nat) :
    (h ++ [c])[b]? = if b = h.length then some c else h[b]? := by
  obtain hb | rfl | hb := Nat.lt_trichotomy b h.length
  · rw [getElem?_append_old h c hb, if_neg (Nat.ne_of_lt hb)]
  · rw [getElem?_append_new, if_pos rfl]
  · rw [if_neg (Nat.ne_of_gt hb), List.getElem?_eq_none (Nat.le_of_lt hb),
      List.getElem?_eq_none (by rw [List.length_append]; exact hb)]

@[simp] theorem items_append_new (h : Heap) (xs : List Val) (e : Nat) :
    items (h ++ [.list xs e]) h.length = xs := by
  unfold items; rw [getElem?_append_new]
@[simp] theorem fields_append_new (h : Heap) (kvs : List (Str × Val)) (e : Nat) :
    fields (h ++ [.obj kvs e]) h.length = kvs := by
  unfold fields; rw [getElem?_append_new]
@[simp] theorem isList_append_new (h : Heap) (xs : List Val) (e : Nat) :
    isList (h ++ [.list xs e]) h.length = true := by
  unfold isList; rw [getElem?_append_new]
@[simp] theorem isObj_append_new (h : Heap) (kvs : List (Str × Val)) (e : Nat) :
    isObj (h ++ [.obj kvs e]) h.length = true := by
  unfold isObj; rw [getElem?_append_new]
@[simp] theorem ego_append_new_list (h : Heap) (xs : List Val) (e : Nat) :
    ego (h ++ [.list xs e]) h.length = e := by
  unfold ego; rw [getElem?_append_new]
@[simp] theorem ego_append_new_obj (h : Heap) (kvs : List (Str × Val)) (e : Nat) :
    ego (h ++ [.obj kvs e]) h.length = e := by
  unfold ego; rw [getElem?_append_new]

theorem setItems_append_new (h : Heap) (xs ys : List Val) (e : Nat) :
    (h ++ [Cell.list xs e]).setItems h.length ys = h ++ [Cell.list ys e] := by
  rw [setItems_eq, if_pos (isList_append_new h xs e), ego_append_new_list,
    List.set_append_right _ _ (Nat.le_refl _), Nat.sub_self]; rfl

theorem setFields_append_new (h : Heap) (xs ys : List (Str × Val)) (e : Nat) :
    (h ++ [Cell.obj xs e]).setFields h.length ys = h ++ [Cell.obj ys e] := by
  rw [setFields_eq, if_pos (isObj_append_new h xs e), ego_append_new_obj,
    List.set_append_right _ _ (Nat.le_refl _), Nat.sub_self]; rfl

theorem items_append_old (h : Heap) (c : Cell) {b : Nat} (hb : b < h.length) :
    items (h ++ [c]) b = h.items b := items_congr (getElem?_append_old h c hb)
theorem fields_append_old (h : Heap) (c : Cell) {b : Nat} (hb : b < h.length) :
    fields (h ++ [c]) b = h.fields b := fields_congr (getElem?_append_old h c hb)
theorem ego_append_old (h : Heap) (c : Cell) {b : Nat} (hb : b < h.length) :
    ego (h ++ [c]) b = h.ego b := ego_congr (getElem?_append_old h c hb)
theorem isList_append_old (h : Heap) (c : Cell) {b : Nat} (hb : b < h.length) :
    isList (h ++ [c]) b = h.isList b := isList_congr (getElem?_append_old h c hb)
theorem isObj_append_old (h : Heap) (c : Cell) {b : Nat} (hb : b < h.length) :
    isObj (h ++ [c]) b = h.isObj b := isObj_congr (getElem?_append_old h c hb)

/-- a cell that does not exist has ego 0, so appending a cell with ego 0 changes no `ego` -/
theorem ego_append_zero (h : Heap) {c : Cell} (hc : ego [c] 0 = 0) (b : Nat) :
    ego (h ++ [c]) b = h.ego b := by
  rw [ego, ego, getElem?_append_cell]
  by_cases hb : b = h.length
  · rw [if_pos hb, hb, List.getElem?_eq_none (Nat.le_refl _)]; exact hc
  · rw [if_neg hb]
theorem getVal_append_list (h : Heap) (xs : List Val) (v : Val) :
    getVal (h ++ [.list xs 0]) v = h.getVal v := getVal_congr (ego_append_zero h rfl) v
theorem getVal_append_obj (h : Heap) (kvs : List (Str × Val)) (v : Val) :
    getVal (h ++ [.obj kvs 0]) v = h.getVal v := getVal_congr (ego_append_zero h rfl) v

theorem alloc_fst (h : Heap) (c : Cell) : (h.alloc c).1 = h ++ [c] := rfl
theorem alloc_snd (h : Heap) (c : Cell) : (h.alloc c).2 = h.length := rfl

/-- `h'` extends `h` touching at most the content of cell `a`: no cell is lost, every old cell
other than `a` is identical, and every old cell (also `a`) keeps its kind and ego level. -/
structure Ext (h h' : Heap) (a : Nat) : Prop where
  len : h.length ≤ h'.length
  other : ∀ b, b < h.length → b ≠ a → h'[b]? = h[b]?
  shape : ∀ b, b < h.length → (h'[b]?).map Cell.shape = (h[b]?).map Cell.shape

/-- `h'` extends `h` and no old cell differs -/
structure Ext0 (h h' : Heap) : Prop where
  len : h.length ≤ h'.length
  same : ∀ b, b < h.length → h'[b]? = h[b]?

theorem Ext0.refl (h : Heap) : Ext0 h h := ⟨Nat.le_refl _, fun _ _ => rfl⟩
theorem Ext.refl (h : Heap) (a : Nat) : Ext h h a := ⟨Nat.le_refl _, fun _ _ _ => rfl, fun _ _ => rfl⟩

theorem Ext0.toExt {h h' : Heap} (e : Ext0 h h') (a : Nat) : Ext h h' a :=
  ⟨e.len, fun b hb _ => e.same b hb, fun b hb => by rw [e.same b hb]⟩

theorem Ext0.trans {h1 h2 h3 : Heap} (e1 : Ext0 h1 h2) (e2 : Ext0 h2 h3) : Ext0 h1 h3 :=
  ⟨Nat.le_trans e1.len e2.len, fun b hb => by
    rw [e2.same b (Nat.lt_of_lt_of_le hb e1.len), e1.same b hb]⟩

/-- a step that leaves all of `h₀` but cell `a` alone may be followed by one that writes `a`
or a cell that `h₀` did not have -/
theorem Ext.step {a a' : Nat} {h₀ h h' : Heap} (e : Ext h₀ h a) (e' : Ext h h' a')
    (ha' : a' = a ∨ h₀.length ≤ a') : Ext h₀ h' a :=
  ⟨Nat.le_trans e.len e'.len,
   fun b hb hne => by
    have hne' : b ≠ a' := fun eq =>
      ha'.elim (fun e' => hne (eq.trans e')) (fun hl => Nat.not_lt.2 hl (eq ▸ hb))
    rw [e'.other b (Nat.lt_of_lt_of_le hb e.len) hne', e.other b hb hne],
   fun b hb => by rw [e'.shape b (Nat.lt_of_lt_of_le hb e.len), e.shape b hb]⟩

theorem Ext.trans {h1 h2 h3 : Heap} {a : Nat} (e1 : Ext h1 h2 a) (e2 : Ext h2 h3 a) : Ext h1 h3 a :=
  e1.step e2 (.inl rfl)

theorem Ext.toExt0 {h h' : Heap} {a : Nat} (e : Ext h h' a) (ha : h.length ≤ a) : Ext0 h h' :=
  ⟨e.len, fun b hb => e.other b hb (Nat.ne_of_lt (Nat.lt_of_lt_of_le hb ha))⟩

theorem Ext0.trans_ext {h1 h2 h3 : Heap} {a : Nat} (e1 : Ext0 h1 h2) (e2 : Ext h2 h3 a)
    (ha : h1.length ≤ a) : Ext0 h1 h3 :=
  ((e1.toExt a).trans e2).toExt0 ha

theorem Ext0.append (h : Heap) (c : Cell) : Ext0 h (h ++ [c]) :=
  ⟨by simp, fun _ hb => getElem?_append_old h c hb⟩

theorem Ext.setItems (h : Heap) (a : Nat) (xs : List Val) : Ext h (h.setItems a xs) a :=
  ⟨by simp, fun _ _ hne => getElem?_setItems_ne h xs hne, fun b _ => shape_setItems h a b xs⟩

theorem Ext.setFields (h : Heap) (a : Nat) (kvs : List (Str × Val)) : Ext h (h.setFields a kvs) a :=
  ⟨by simp, fun _ _ hne => getElem?_setFields_ne h kvs hne, fun b _ => shape_setFields h a b kvs⟩

theorem Ext.isList {h h' : Heap} {a : Nat} (e : Ext h h' a) {b : Nat} (hb : b < h.length) :
    h'.isList b = h.isList b := isList_of_shape (e.shape b hb)
theorem Ext.isObj {h h' : Heap} {a : Nat} (e : Ext h h' a) {b : Nat} (hb : b < h.length) :
    h'.isObj b = h.isObj b := isObj_of_shape (e.shape b hb)
theorem Ext.ego {h h' : Heap} {a : Nat} (e : Ext h h' a) {b : Nat} (hb : b < h.length) :
    h'.ego b = h.ego b := ego_of_shape (e.shape b hb)
theorem Ext.items {h h' : Heap} {a : Nat} (e : Ext h h' a) {b : Nat} (hb : b < h.length) (hne : b ≠ a) :
    h'.items b = h.items b := items_congr (e.other b hb hne)
theorem Ext.fields {h h' : Heap} {a : Nat} (e : Ext h h' a) {b : Nat} (hb : b < h.length) (hne : b ≠ a) :
    h'.fields b = h.fields b := fields_congr (e.other b hb hne)

theorem Ext0.isList {h h' : Heap} (e : Ext0 h h') {b : Nat} (hb : b < h.length) :
    h'.isList b = h.isList b := isList_congr (e.same b hb)
theorem Ext0.isObj {h h' : Heap} (e : Ext0 h h') {b : Nat} (hb : b < h.length) :
    h'.isObj b = h.isObj b := isObj_congr (e.same b hb)
theorem Ext0.ego {h h' : Heap} (e : Ext0 h h') {b : Nat} (hb : b < h.length) :
    h'.ego b = h.ego b := ego_congr (e.same b hb)
theorem Ext0.items {h h' : Heap} (e : Ext0 h h') {b : Nat} (hb : b < h.length) :
    h'.items b = h.items b := items_congr (e.same b hb)
theorem Ext0.fields {h h' : Heap} (e : Ext0 h h') {b : Nat} (hb : b < h.length) :
    h'.fields b = h.fields b := fields_congr (e.same b hb)

end Heap

open Heap in
theorem fields_setFields (h : Heap) (a b : Nat) (kvs : List (Str × Val)) :
    (h.setFields a kvs).fields b = if b = a ∧ h.isObj a = true then kvs else h.fields b := by
  by_cases hne : b = a
  · subst hne
    cases hl : h.isObj b
    · simp [setFields_of_not_isObj _ hl]
    · simp [fields_setFields_same kvs hl]
  · simp [hne, fields_setFields_other]

open Heap in
theorem items_append (h : Heap) (c : Cell) (b : Nat) :
    items (h ++ [c]) b = if b = h.length then (match c with | .list xs _ => xs | _ => []) else h.items b := by
  unfold items; rw [getElem?_append_cell]
  by_cases hb : b = h.length
  · rw [if_pos hb, if_pos hb]; cases c <;> rfl
  · rw [if_neg hb, if_neg hb]

open Heap in
theorem fields_append (h : Heap) (c : Cell) (b : Nat) :
    fields (h ++ [c]) b = if b = h.length then (match c with | .obj kvs _ => kvs | _ => []) else h.fields b := by
  unfold fields; rw [getElem?_append_cell]
  by_cases hb : b = h.length
  · rw [if_pos hb, if_pos hb]; cases c <;> rfl
  · rw [if_neg hb, if_neg hb]

theorem parseVal_slice_fst (h : Heap) (fl : Flavour) (xs : List GoVal) :
    (parseVal h (.slice fl xs)).1 = (addEach (h ++ [.list [] 0]) h.length xs).1 := by
  rw [parseVal]; split <;> next e => rw [e]

theorem parseVal_map_fst (h : Heap) (fl : Flavour) (kvs : List (Str × GoVal)) :
    (parseVal h (.map fl kvs)).1 = (setEach (h ++ [.obj [] 0]) h.length kvs).1 := by
  rw [parseVal]; split <;> next e => rw [e]

theorem parseVal_slice_inv {h h' : Heap} {fl : Flavour} {xs : List GoVal} {v : Val}
    (hp : parseVal h (.slice fl xs) = (h', .ok v)) :
    v = .list ⟨h.length, 0⟩ ∧ addEach (h ++ [.list [] 0]) h.length xs = (h', .ok ()) := by
  rw [parseVal] at hp
  split at hp <;> cases hp
  next hq => exact ⟨rfl, hq⟩

theorem parseVal_map_inv {h h' : Heap} {fl : Flavour} {kvs : List (Str × GoVal)} {v : Val}
    (hp : parseVal h (.map fl kvs) = (h', .ok v)) :
    v = .obj ⟨h.length, 0⟩ ∧ setEach (h ++ [.obj [] 0]) h.length kvs = (h', .ok ()) := by
  rw [parseVal] at hp
  split at hp <;> cases hp
  next hq => exact ⟨rfl, hq⟩

/-- `Add(g)`: normalise, then append -/
theorem addEach_single (h : Heap) (a : Nat) (g : GoVal) :
    addEach h a [g] = match parseVal h g with
      | (h1, .panic p) => (h1, .panic p)
      | (h1, .ok v) => (h1.setItems a (h1.items a ++ [v]), .ok ()) := by
  rw [addEach]
  rcases parseVal h g with ⟨h1, _ | _⟩ <;> rfl

namespace Heap

/-- a property `P` of heaps that survives the elementary steps of `parseVal` and of the loops of
`Add` / `Set`: allocating an empty cell (whose address is then in `W`), and writing the items or
one field of a cell whose address is in `W` -/
structure Keeps (P : Heap → Prop) (W : Nat → Prop) : Prop where
  alloc : ∀ {h}, P h → ∀ {c}, c = .list [] 0 ∨ c = .obj [] 0 → P (h ++ [c]) ∧ W h.length
  items : ∀ {h a}, P h → W a → ∀ xs, P (h.setItems a xs)
  field : ∀ {h a}, P h → W a → ∀ k v, P (h.setFields a (setKV (h.fields a) k v))

/-- seen from `h₀`, only cell `a` changes: writes may go to `a` and to cells `h₀` did not have -/
theorem Ext.keeps (a : Nat) (h₀ : Heap) :
    Keeps (fun h => Ext h₀ h a) (fun b => b = a ∨ h₀.length ≤ b) where
  alloc e _ _ := ⟨e.trans ((Ext0.append _ _).toExt a), .inr e.len⟩
  items e ha xs := e.step (Ext.setItems _ _ xs) ha
  field e ha _ _ := e.step (Ext.setFields _ _ _) ha

end Heap

section
open Heap
variable {P : Heap → Prop} {W : Nat → Prop} (K : Keeps P W)
include K

mutual
/-- whether or not it panics -/
theorem parseVal_keeps : ∀ (h : Heap) (g : GoVal), P h → P (parseVal h g).1
  | h, .slice fl xs, hP => by
    rw [parseVal_slice_fst]
    have := K.alloc hP (.inl rfl)
    exact addEach_keeps _ _ xs this.1 this.2
  | h, .map fl kvs, hP => by
    rw [parseVal_map_fst]
    have := K.alloc hP (.inr rfl)
    exact setEach_keeps _ _ kvs this.1 this.2
  | h, .nil, hP | h, .bool _, hP | h, .intw _ _, hP | h, .f64 _, hP | h, .f32 _, hP
  | h, .str _, hP | h, .list _, hP | h, .obj _, hP | h, .unsupported, hP => hP
theorem addEach_keeps : ∀ (h : Heap) (a : Nat) (gs : List GoVal), P h → W a → P (addEach h a gs).1
  | h, a, [], hP, _ => hP
  | h, a, g :: gs, hP, hW => by
    have ih := parseVal_keeps h g hP
    rw [addEach]
    generalize parseVal h g = r at ih ⊢
    obtain ⟨h1, v | k⟩ := r
    · exact addEach_keeps _ a gs (K.items ih hW _) hW
    · exact ih
theorem setEach_keeps : ∀ (h : Heap) (a : Nat) (kvs : List (Str × GoVal)), P h → W a → P (setEach h a kvs).1
  | h, a, [], hP, _ => hP
  | h, a, (k, g) :: kvs, hP, hW => by
    have ih := parseVal_keeps h g hP
    rw [setEach]
    generalize parseVal h g = r at ih ⊢
    obtain ⟨h1, v | q⟩ := r
    · exact setEach_keeps _ a kvs (K.field ih hW k _) hW
    · exact ih
end

end

open Heap in
theorem addEach_ext (h : Heap) (a : Nat) (gs : List GoVal) : Ext h (addEach h a gs).1 a :=
  addEach_keeps (Ext.keeps a h) h a gs (Ext.refl h a) (.inl rfl)

open Heap in
theorem setEach_ext (h : Heap) (a : Nat) (kvs : List (Str × GoVal)) : Ext h (setEach h a kvs).1 a :=
  setEach_keeps (Ext.keeps a h) h a kvs (Ext.refl h a) (.inl rfl)

open Heap in
/-- `parseVal` only appends cells: every cell that existed before is identical afterwards
(also when it panics). -/
theorem parseVal_ext0 (h : Heap) (g : GoVal) : Ext0 h (parseVal h g).1 :=
  (parseVal_keeps (Ext.keeps h.length h) h g (Ext.refl h _)).toExt0 (Nat.le_refl _)

end Anytype
