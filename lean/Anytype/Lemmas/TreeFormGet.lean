/-
GetTF / TypeOfTF: the one-step equation of GetTF on any text (`getV_succ` with explicit fuel;
`getTF_walk` / `getTF_cons` for the call as the library makes it), TypeOfTF as the kind of what GetTF
returns, fuel independence. The path theorems are in Props/C10.
-/
import Anytype.Lemmas.TreeForm
import Anytype.Lemmas.HeapWF
namespace Anytype
namespace TFP
open Heap

/-! ## the kind of a value -/

theorem val_kind_ne_undefined (w : Val) : w.kind ≠ .undefined := by cases w <;> simp [Val.kind]

theorem kind_object {w : Val} (h : w.kind = .object) : ∃ r, w = .obj r := by
  cases w <;> simp [Val.kind] at h; exact ⟨_, rfl⟩
theorem kind_list {w : Val} (h : w.kind = .list) : ∃ r, w = .list r := by
  cases w <;> simp [Val.kind] at h; exact ⟨_, rfl⟩

/-! ## `navStep` in terms of the cell contents -/

theorem navStep_key_obj (h : Heap) (r : Ref) (k : Str) :
    navStep h (.obj r) (.key k) = (lookup (h.fields r.addr) k).map h.getVal := by
  simp only [navStep, O.get]
  cases lookup (h.fields r.addr) k <;> rfl

theorem navStep_idx_list (h : Heap) (r : Ref) (n : Nat) :
    navStep h (.list r) (.idx n) = ((h.items r.addr)[n]?).map h.getVal := by
  simp only [navStep]
  by_cases hn : n < (h.items r.addr).length
  · rw [L.get_in h r.addr (n : Int) (by omega) (by simpa using hn)]
    simp [List.getElem?_eq_getElem hn]
  · rw [L.get_out h r.addr (n : Int) (by omega)]
    simp [List.getElem?_eq_none (Nat.le_of_not_lt hn)]

theorem navStep_kind {h : Heap} {v w : Val} {s : Seg} (hn : navStep h v s = some w) : v.kind = s.kind := by
  cases s <;> cases v <;> simp [navStep] at hn <;> rfl

/-! ## `TypeOf` / `KeyExists` are the kind of what `Get` returns -/

/-- `undefined` for a panic -/
def outKind : Out Val → Kind
  | .ok w => w.kind
  | .panic _ => .undefined

theorem L_typeOf_eq (h : Heap) (a : Nat) (i : Int) : L.typeOf h a i = outKind (L.get h a i) := by
  by_cases hi : 0 ≤ i ∧ i < (h.items a).length
  · rw [L.typeOf_in h a i hi.1 (by omega), L.get_in h a i hi.1 (by omega)]
    exact (getVal_kind h _).symm
  · rw [L.typeOf_out h a i hi, L.get_out h a i hi]; rfl

theorem O_typeOf_eq (h : Heap) (a : Nat) (k : Str) : O.typeOf h a k = outKind (O.get h a k) := by
  unfold O.typeOf O.get
  cases lookup (h.fields a) k with
  | none => rfl
  | some x => exact (getVal_kind h x).symm

theorem O_keyExists_eq (h : Heap) (a : Nat) (k : Str) : O.keyExists h a k = !(O.get h a k).isPanic := by
  unfold O.keyExists O.get
  cases lookup (h.fields a) k <;> rfl

/-! ## one step of GetTF, on any text -/

/-- `Get(index)` / `Get(key)` -/
def Slot.get (h : Heap) : Slot → Out Val
  | .item a i => L.get h a i
  | .field a k => O.get h a k

/-- the typed getter in front of a descent: a panic of `Get` is passed on, a value that is not a
container of the wanted kind is the `notKind` panic, else the method goes on in that container -/
def descend {R : Type} (bad : PanicKind → R) (o : Out Val) (b : Bool) (k : Val → R) : R :=
  match o with
  | .panic p => bad p
  | .ok w => if w.kind = wantKind b then k w else bad .notKind

theorem getV_succ (n : Nat) (h : Heap) (v : Val) (tf : Str) :
    getV (n + 1) h v tf =
      walkV v .panic (Slot.get h) (fun sl b rest => descend .panic (sl.get h) b fun w => getV n h w rest) tf := by
  cases v with
  | list r =>
    show TF.getL (n + 1) h r.addr tf = _
    unfold TF.getL walkV
    dsimp only [recvSigil, readSlot]
    cases TF.strip '#' tf with
    | none => rfl
    | some t =>
      dsimp only
      cases TF.split t with
      | leaf seg => dsimp only; cases TF.parseIdx seg <;> rfl
      | dot seg rest | hash seg rest =>
        dsimp only
        cases TF.parseIdx seg with
        | none => rfl
        | some i =>
          dsimp only [L.getK, Option.map_some, Slot.get]
          cases L.get h r.addr i with
          | panic p => rfl
          | ok w => cases w <;> rfl
  | obj r =>
    show TF.getO (n + 1) h r.addr tf = _
    unfold TF.getO walkV
    dsimp only [recvSigil, readSlot]
    cases TF.strip '.' tf with
    | none => rfl
    | some t =>
      dsimp only
      cases TF.split t with
      | leaf seg => rfl
      | dot seg rest | hash seg rest =>
        dsimp only [O.getK, Slot.get]
        cases O.get h r.addr seg with
        | panic p => rfl
        | ok w => cases w <;> rfl
  | _ => rfl

theorem getV_zero (h : Heap) (v : Val) (s : Str) : (getV 0 h v s).isPanic = true := by cases v <;> rfl

/-! ## TypeOfTF is the kind of what GetTF returns, on every text -/

theorem typeV_eq (h : Heap) : ∀ (n : Nat) (v : Val) (tf : Str), typeV n h v tf = outKind (getV n h v tf) := by
  intro n
  induction n with
  | zero => intro v tf; cases v <;> rfl
  | succ n ih =>
    intro v tf
    cases v with
    | list r =>
      show TF.typeL (n + 1) h r.addr tf = outKind (TF.getL (n + 1) h r.addr tf)
      unfold TF.typeL TF.getL
      cases TF.strip '#' tf with
      | none => rfl
      | some t =>
        dsimp only
        cases TF.split t with
        | leaf seg => dsimp only; cases TF.parseIdx seg with | none => rfl | some i => exact L_typeOf_eq h _ i
        -- before a '.' only an object goes on (by induction), before a '#' only a list; all else is `undefined`
        | dot seg rest =>
          dsimp only
          cases TF.parseIdx seg with
          | none => rfl
          | some i =>
            simp only [L_typeOf_eq, L.getK]
            cases L.get h r.addr i with
            | panic p => rfl
            | ok w => cases w with | obj r' => exact ih (.obj r') rest | _ => rfl
        | hash seg rest =>
          dsimp only
          cases TF.parseIdx seg with
          | none => rfl
          | some i =>
            simp only [L_typeOf_eq, L.getK]
            cases L.get h r.addr i with
            | panic p => rfl
            | ok w => cases w with | list r' => exact ih (.list r') rest | _ => rfl
    | obj r =>
      show TF.typeO (n + 1) h r.addr tf = outKind (TF.getO (n + 1) h r.addr tf)
      unfold TF.typeO TF.getO
      cases TF.strip '.' tf with
      | none => rfl
      | some t =>
        dsimp only
        cases TF.split t with
        | leaf seg =>
          simp only [O_typeOf_eq, O_keyExists_eq]
          cases O.get h r.addr seg <;> rfl
        | dot seg rest =>
          simp only [O_typeOf_eq, O_keyExists_eq, O.getK]
          cases O.get h r.addr seg with
          | panic p => rfl
          | ok w => cases w with | obj r' => exact ih (.obj r') rest | _ => rfl
        | hash seg rest =>
          simp only [O_typeOf_eq, O_keyExists_eq, O.getK]
          cases O.get h r.addr seg with
          | panic p => rfl
          | ok w => cases w with | list r' => exact ih (.list r') rest | _ => rfl
    | _ => rfl

theorem typeV_undefined_iff (h : Heap) (n : Nat) (v : Val) (s : Str) :
    typeV n h v s = .undefined ↔ (getV n h v s).isPanic = true := by
  rw [typeV_eq]
  cases getV n h v s with
  | ok w => simp [outKind, Out.isPanic, val_kind_ne_undefined]
  | panic p => simp [outKind, Out.isPanic]

theorem getV_fuel (h : Heap) : ∀ (n m : Nat) (v : Val) (tf : Str), tf.length < n → tf.length < m →
    getV n h v tf = getV m h v tf :=
  fuel_indep (fun n v tf => getV n h v tf) fun n m v tf ih => by
    rw [getV_succ, getV_succ]
    exact walkV_congr fun sl b rest hl => by
      have e : ∀ w, getV n h w rest = getV m h w rest := fun w => ih w rest hl
      simp only [e]

theorem typeV_fuel (h : Heap) (n m : Nat) (v : Val) (tf : Str) (hn : tf.length < n) (hm : tf.length < m) :
    typeV n h v tf = typeV m h v tf := by
  rw [typeV_eq, typeV_eq, getV_fuel h n m v tf hn hm]

/-! ## GetTF as the library calls it (fuel `len(tf) + 1`) -/

theorem getTF_walk (h : Heap) (v : Val) (tf : Str) :
    getTF h v tf =
      walkV v .panic (Slot.get h) (fun sl b rest => descend .panic (sl.get h) b fun w => getTF h w rest) tf := by
  unfold getTF
  rw [getV_succ]
  exact walkV_congr fun sl b rest hl => by
    have e : ∀ w, getV tf.length h w rest = getV (rest.length + 1) h w rest :=
      fun w => getV_fuel h _ _ w rest (by omega) (by omega)
    simp only [e]

theorem typeTF_eq (h : Heap) (v : Val) (s : Str) : typeTF h v s = outKind (getTF h v s) :=
  typeV_eq h _ v s

/-- the plain `Get` a segment stands for (a wrong receiver kind is the `badTF` panic) -/
def getStep (h : Heap) (v : Val) (s : Seg) : Out Val :=
  match slotOf v s with
  | none => .panic .badTF
  | some sl => sl.get h

theorem navStep_eq_getStep (h : Heap) (v : Val) (s : Seg) :
    navStep h v s = match getStep h v s with | .ok w => some w | .panic _ => none := by
  cases s <;> cases v <;> rfl

theorem getStep_of_navStep {h : Heap} {v w : Val} {s : Seg} (hn : navStep h v s = some w) :
    getStep h v s = .ok w := by
  rw [navStep_eq_getStep] at hn
  cases hg : getStep h v s with
  | panic p => simp [hg] at hn
  | ok w' => simp only [hg, Option.some.injEq] at hn; rw [hn]

theorem getStep_of_navStep_none {h : Heap} {v : Val} {s : Seg} (hn : navStep h v s = none) :
    ∃ p, getStep h v s = .panic p := by
  rw [navStep_eq_getStep] at hn
  cases hg : getStep h v s with
  | panic p => exact ⟨p, rfl⟩
  | ok w' => simp [hg] at hn

theorem getTF_cons (h : Heap) (v : Val) (s : Seg) (q : List Seg) (hs : s.Valid) :
    getTF h v (render (s :: q)) =
      match q with
      | [] => getStep h v s
      | s' :: _ => descend .panic (getStep h v s) s'.isKey fun w => getTF h w (render q) := by
  rw [getTF_walk, walkV_render _ _ _ _ s q hs]
  unfold getStep
  cases slotOf v s <;> cases q <;> rfl

theorem getTF_cons_some (h : Heap) (v w : Val) (s : Seg) (q : List Seg) (hs : s.Valid)
    (hn : navStep h v s = some w) :
    getTF h v (render (s :: q)) =
      match q with
      | [] => .ok w
      | s' :: _ => if w.kind = s'.kind then getTF h w (render q) else .panic .notKind := by
  rw [getTF_cons h v s q hs, getStep_of_navStep hn]
  cases q with
  | nil => rfl
  | cons s' q' => simp only [descend, wantKind_isKey]

theorem navigate_cons_some {h : Heap} {v r : Val} {s : Seg} {q : List Seg}
    (hn : navigate h v (s :: q) = some r) : ∃ w, navStep h v s = some w ∧ navigate h w q = some r := by
  simp only [navigate] at hn
  cases hw : navStep h v s with
  | none => simp [hw] at hn
  | some w => simp only [hw] at hn; exact ⟨w, rfl, hn⟩

theorem navigate_cons_of_step {h : Heap} {v w : Val} {s : Seg} (q : List Seg)
    (hn : navStep h v s = some w) : navigate h v (s :: q) = navigate h w q := by
  simp only [navigate, hn]

theorem navigate_cons_none_of_step {h : Heap} {v : Val} {s : Seg} (q : List Seg)
    (hn : navStep h v s = none) : navigate h v (s :: q) = none := by
  simp only [navigate, hn]

theorem navigate_kind {h : Heap} {v r : Val} {s : Seg} {q : List Seg}
    (hn : navigate h v (s :: q) = some r) : v.kind = s.kind := by
  obtain ⟨w, hw, _⟩ := navigate_cons_some hn
  exact navStep_kind hw

end TFP
end Anytype
