/-
Tree-form paths (C10 / C11): the specification side (segments, render, navigate), the text-level
lemmas about `TF.indexOf` / `TF.split` / `TF.strip` / `TF.parseIdx`, and `walkV`, the skeleton the
eight methods share: GetTF, SetTF and UnsetTF are each `walkV` with their own leaf and descent
(`getV_succ`, `setV_succ`, `unsetV_succ`), so what only concerns the text (fuel, rendered paths,
arbitrary texts) is proved once, about `walkV`. TypeOfTF is not given that form: it is tied to GetTF
directly (`typeV_eq`: the kind of what GetTF returns).
-/
import Anytype.Lemmas.Strconv
import Anytype.Lemmas.Heap
import Anytype.Model.TreeForm
namespace Anytype
namespace TFP
open Heap

/-! ## Specification side -/

/-- one step of a tree-form path -/
inductive Seg
  | key (k : Str)
  | idx (n : Nat)
  deriving DecidableEq, Repr

def isSigil (c : Char) : Bool := c == '.' || c == '#'

def SigilFree (t : Str) : Prop := ∀ c ∈ t, isSigil c = false

/-- the text starts with a sigil -/
def SigilHead (t : Str) : Prop := ∃ c u, t = c :: u ∧ isSigil c = true

theorem isSigil_iff {c : Char} : isSigil c = true ↔ c = '.' ∨ c = '#' := by simp [isSigil]

theorem SigilFree.ne_dot {t : Str} (h : SigilFree t) : ∀ x ∈ t, x ≠ '.' := by
  intro x hx e; subst e; exact absurd (h _ hx) (by decide)
theorem SigilFree.ne_hash {t : Str} (h : SigilFree t) : ∀ x ∈ t, x ≠ '#' := by
  intro x hx e; subst e; exact absurd (h _ hx) (by decide)

/-- a key the property talks about: non-empty, free of '.' and '#' -/
def ValidKey (k : Str) : Prop := k ≠ [] ∧ ∀ c ∈ k, isSigil c = false

instance (k : Str) : Decidable (ValidKey k) := by unfold ValidKey; infer_instance

/-- well-formed segment: a valid key, or an index that fits a Go `int` -/
def Seg.Valid : Seg → Prop
  | .key k => ValidKey k
  | .idx n => n < 2 ^ 63

instance (s : Seg) : Decidable s.Valid := by cases s <;> unfold Seg.Valid <;> infer_instance

def ValidPath (p : List Seg) : Prop := ∀ s ∈ p, s.Valid

instance (p : List Seg) : Decidable (ValidPath p) := by unfold ValidPath; infer_instance

/-- only the keys well-formed: what the grammar asks of a path (an index of any size is in it) -/
def ValidKeys (p : List Seg) : Prop := ∀ s ∈ p, ∀ k, s = .key k → ValidKey k

def Seg.text : Seg → Str
  | .key k => k
  | .idx n => Nat.toDigits 10 n

def Seg.sigil : Seg → Char
  | .key _ => '.'
  | .idx _ => '#'

/-- the kind of value the segment is applied to -/
def Seg.kind : Seg → Kind
  | .key _ => .object
  | .idx _ => .list

def Seg.isKey : Seg → Bool
  | .key _ => true
  | .idx _ => false

/-- the container kind a descent asks for: an object before a '.', a list before a '#' -/
def wantKind (wantObj : Bool) : Kind := if wantObj then .object else .list

theorem wantKind_isKey (s : Seg) : wantKind s.isKey = s.kind := by cases s <;> rfl

def render : List Seg → Str
  | [] => []
  | s :: rest => s.sigil :: (s.text ++ render rest)

/-- value of a digit string read in base ten (most significant digit first) -/
def decVal : Str → Nat → Nat
  | [], n => n
  | c :: t, n => decVal t (n * 10 + (c.toNat - 48))

/-- canonical decimal: the text is exactly the decimal numeral of its value, i.e. non-empty,
only digits, no sign, no leading zero except "0" itself (`C10_grammar_canonical`) -/
def canonNat (b : Str) : Option Nat :=
  if Nat.toDigits 10 (decVal b 0) = b then some (decVal b 0) else none

/-- right-to-left scanner: the characters read since the last sigil, and the segments after them -/
def segAux : Str → Option (Str × List Seg)
  | [] => some ([], [])
  | c :: t =>
    match segAux t with
    | none => none
    | some (body, segs) =>
      if c == '.' then (if body.isEmpty then none else some ([], .key body :: segs))
      else if c == '#' then
        (match canonNat body with
         | none => none
         | some n => some ([], .idx n :: segs))
      else some (c :: body, segs)

/-- the property's grammar: one or more of '.' key (key non-empty, free of '.' and '#') or
'#' digits (canonical decimal: only digits, no leading zero except "0" itself) -/
def segments (s : Str) : Option (List Seg) :=
  match segAux s with
  | some ([], seg :: segs) => some (seg :: segs)
  | _ => none

/-- one `Get`: `key` needs an object value, `idx` a list value; the result is what
`O.get` / `L.get` return (containers as `h.getVal`, by reference) -/
def navStep (h : Heap) (v : Val) : Seg → Option Val
  | .key k =>
    match v with
    | .obj r => (match O.get h r.addr k with | .ok w => some w | .panic _ => none)
    | _ => none
  | .idx n =>
    match v with
    | .list r => (match L.get h r.addr (n : Int) with | .ok w => some w | .panic _ => none)
    | _ => none

/-- apply Get segment by segment -/
def navigate (h : Heap) (v : Val) : List Seg → Option Val
  | [] => some v
  | s :: rest =>
    match navStep h v s with
    | none => none
    | some w => navigate h w rest

/-! ## the model's methods on a receiver value -/

/-- the four tree-form methods on a receiver value with explicit fuel; on a scalar there is
no method to call: modelled as panic / undefined / no-op (never reached from a container root
on the paths the theorems talk about) -/
def getV (fuel : Nat) (h : Heap) (v : Val) (s : Str) : Out Val :=
  match v with
  | .list r => TF.getL fuel h r.addr s
  | .obj r => TF.getO fuel h r.addr s
  | _ => .panic .badTF

def typeV (fuel : Nat) (h : Heap) (v : Val) (s : Str) : Kind :=
  match v with
  | .list r => TF.typeL fuel h r.addr s
  | .obj r => TF.typeO fuel h r.addr s
  | _ => .undefined

def setV (fuel : Nat) (h : Heap) (v : Val) (s : Str) (g : GoVal) : Heap × Out Unit :=
  match v with
  | .list r => TF.setL fuel h r.addr s g
  | .obj r => TF.setO fuel h r.addr s g
  | _ => (h, .panic .badTF)

def unsetV (fuel : Nat) (h : Heap) (v : Val) (s : Str) : Heap × Out Unit :=
  match v with
  | .list r => TF.unsetL fuel h r.addr s
  | .obj r => TF.unsetO fuel h r.addr s
  | _ => (h, .panic .badTF)

/-- the library's calls. The fuel is the model's own; `len(tf) + 1` is one more than the methods can
use up, so that also the call on the empty text reaches the guard (`badTF`) and not the end of the fuel -/
def getTF (h : Heap) (v : Val) (s : Str) : Out Val := getV (s.length + 1) h v s
def typeTF (h : Heap) (v : Val) (s : Str) : Kind := typeV (s.length + 1) h v s
def setTF (h : Heap) (v : Val) (s : Str) (g : GoVal) : Heap × Out Unit := setV (s.length + 1) h v s g
def unsetTF (h : Heap) (v : Val) (s : Str) : Heap × Out Unit := unsetV (s.length + 1) h v s

/-! ## the text: `indexOf`, `split`, `strip`, `parseIdx` -/

theorem indexOf_cons (c x : Char) (xs : Str) :
    TF.indexOf c (x :: xs) = if x = c then 0 else if TF.indexOf c xs < 0 then -1 else TF.indexOf c xs + 1 := by
  simp only [TF.indexOf, beq_iff_eq]

theorem indexOf_ge (c : Char) (t : Str) : -1 ≤ TF.indexOf c t := by
  induction t with
  | nil => exact Int.le_refl _
  | cons x xs ih =>
    rw [indexOf_cons]
    by_cases hx : x = c
    · rw [if_pos hx]; decide
    · by_cases hr : TF.indexOf c xs < 0
      · rw [if_neg hx, if_pos hr]; decide
      · rw [if_neg hx, if_neg hr]; omega

theorem indexOf_append (c : Char) (seg u : Str) (h : ∀ x ∈ seg, x ≠ c) :
    TF.indexOf c (seg ++ u) = if TF.indexOf c u < 0 then -1 else seg.length + TF.indexOf c u := by
  induction seg with
  | nil =>
    have := indexOf_ge c u
    by_cases hu : TF.indexOf c u < 0
    · simp only [List.nil_append, if_pos hu]; omega
    · simp only [List.nil_append, if_neg hu, List.length_nil]; omega
  | cons x xs ih =>
    rw [List.cons_append, indexOf_cons, if_neg (h x List.mem_cons_self),
      ih (fun y hy => h y (List.mem_cons_of_mem _ hy))]
    by_cases hu : TF.indexOf c u < 0
    · simp only [if_pos hu]; rfl
    · simp only [if_neg hu, List.length_cons]
      rw [if_neg (by omega)]; omega

/-- the definition with its tests as propositions -/
theorem split_def (t : Str) :
    TF.split t =
      if 0 < TF.indexOf '.' t ∧ (TF.indexOf '#' t < 0 ∨ TF.indexOf '.' t < TF.indexOf '#' t) then
        .dot (t.take (TF.indexOf '.' t).toNat) (t.drop (TF.indexOf '.' t).toNat)
      else if 0 < TF.indexOf '#' t ∧ (TF.indexOf '.' t < 0 ∨ TF.indexOf '#' t < TF.indexOf '.' t) then
        .hash (t.take (TF.indexOf '#' t).toNat) (t.drop (TF.indexOf '#' t).toNat)
      else .leaf t := by
  simp only [TF.split, Bool.and_eq_true, Bool.or_eq_true, decide_eq_true_eq, gt_iff_lt]

theorem indexOf_hit (c : Char) (seg u : Str) (h : ∀ x ∈ seg, x ≠ c) :
    TF.indexOf c (seg ++ c :: u) = seg.length := by
  rw [indexOf_append _ _ _ h, indexOf_cons, if_pos rfl, if_neg (by decide), Int.add_zero]

theorem indexOf_miss (c d : Char) (seg u : Str) (h : ∀ x ∈ seg, x ≠ c) (hd : d ≠ c) :
    TF.indexOf c (seg ++ d :: u) = -1 ∨ (seg.length : Int) < TF.indexOf c (seg ++ d :: u) := by
  have := indexOf_ge c u
  rw [indexOf_append _ _ _ h, indexOf_cons, if_neg hd]
  by_cases hu : TF.indexOf c u < 0
  · left; rw [if_pos hu, if_pos (by decide)]
  · right; rw [if_neg hu, if_neg (by omega)]; omega

theorem split_sigilFree (t : Str) (h : SigilFree t) : TF.split t = .leaf t := by
  have hd := indexOf_append '.' t [] h.ne_dot
  have hh := indexOf_append '#' t [] h.ne_hash
  rw [List.append_nil] at hd hh
  rw [split_def, hd, hh]
  rfl

theorem split_dot (seg u : Str) (hne : seg ≠ []) (h : SigilFree seg) :
    TF.split (seg ++ '.' :: u) = .dot seg ('.' :: u) := by
  have hd := indexOf_hit '.' seg u h.ne_dot
  have hh := indexOf_miss '#' '.' seg u h.ne_hash (by decide)
  have hl : 0 < seg.length := List.length_pos_iff.2 hne
  rw [split_def, if_pos (by omega), hd]
  simp

theorem split_hash (seg u : Str) (hne : seg ≠ []) (h : SigilFree seg) :
    TF.split (seg ++ '#' :: u) = .hash seg ('#' :: u) := by
  have hh := indexOf_hit '#' seg u h.ne_hash
  have hd := indexOf_miss '.' '#' seg u h.ne_dot (by decide)
  have hl : 0 < seg.length := List.length_pos_iff.2 hne
  rw [split_def, if_neg (by omega), if_pos (by omega), hh]
  simp

/-- an empty first segment: the whole remaining text becomes the leaf (finding K1) -/
theorem split_sigil_head (c : Char) (u : Str) (hc : isSigil c = true) :
    TF.split (c :: u) = .leaf (c :: u) := by
  have h0 : TF.indexOf c (c :: u) = 0 := by rw [indexOf_cons, if_pos rfl]
  rcases isSigil_iff.1 hc with rfl | rfl <;> rw [split_def, if_neg (by omega), if_neg (by omega)]

theorem seg_decomp (t : Str) :
    ∃ seg rest, t = seg ++ rest ∧ SigilFree seg ∧ (rest = [] ∨ SigilHead rest) := by
  induction t with
  | nil => exact ⟨[], [], rfl, (by intro c hc; cases hc), Or.inl rfl⟩
  | cons x xs ih =>
    cases hx : isSigil x
    · obtain ⟨seg, rest, e, hf, hr⟩ := ih
      refine ⟨x :: seg, rest, by rw [e]; rfl, ?_, hr⟩
      intro c hc
      rcases List.mem_cons.1 hc with rfl | hc
      · exact hx
      · exact hf c hc
    · exact ⟨[], x :: xs, rfl, (by intro c hc; cases hc), Or.inr ⟨x, xs, rfl, hx⟩⟩

theorem split_inv (t : Str) :
    match TF.split t with
    | .dot seg rest => ∃ u, rest = '.' :: u ∧ seg ≠ [] ∧ SigilFree seg ∧ t = seg ++ rest
    | .hash seg rest => ∃ u, rest = '#' :: u ∧ seg ≠ [] ∧ SigilFree seg ∧ t = seg ++ rest
    | .leaf x => x = t ∧ (SigilFree t ∨ SigilHead t) := by
  obtain ⟨seg, rest, rfl, hf, hr⟩ := seg_decomp t
  rcases hr with rfl | ⟨c, u, rfl, hc⟩
  · rw [List.append_nil, split_sigilFree _ hf]; exact ⟨rfl, Or.inl hf⟩
  · by_cases hne : seg = []
    · subst hne
      rw [List.nil_append, split_sigil_head c u hc]; exact ⟨rfl, Or.inr ⟨c, u, rfl, hc⟩⟩
    · rcases isSigil_iff.1 hc with rfl | rfl
      · rw [split_dot seg u hne hf]; exact ⟨u, rfl, hne, hf, rfl⟩
      · rw [split_hash seg u hne hf]; exact ⟨u, rfl, hne, hf, rfl⟩

theorem split_leaf_inv {t x : Str} (h : TF.split t = .leaf x) :
    x = t ∧ (SigilFree t ∨ ∃ c u, t = c :: u ∧ isSigil c = true) := by
  have := split_inv t
  rwa [h] at this

theorem strip_cons (c d : Char) (t : Str) (ht : t ≠ []) :
    TF.strip c (d :: t) = if d = c then some t else none := by
  cases t with
  | nil => exact absurd rfl ht
  | cons x xs => by_cases hd : d = c <;> simp [TF.strip, hd]

theorem strip_short (c : Char) (t : Str) (ht : t.length < 2) : TF.strip c t = none := by
  cases t with
  | nil => rfl
  | cons x u =>
    cases u with
    | nil => simp only [TF.strip, List.isEmpty_nil, Bool.not_true, Bool.and_false]; rfl
    | cons y u => simp only [List.length_cons] at ht; omega

theorem strip_some {c : Char} {tf t : Str} (hs : TF.strip c tf = some t) : tf = c :: t ∧ t ≠ [] := by
  cases tf with
  | nil => simp [TF.strip] at hs
  | cons d u =>
    simp only [TF.strip] at hs
    split at hs
    · next hc =>
      simp only [Bool.and_eq_true, beq_iff_eq, Bool.not_eq_true', List.isEmpty_eq_false_iff] at hc
      cases hs
      exact ⟨by rw [hc.1], hc.2⟩
    · cases hs

theorem parseIdx_toDigits (n : Nat) (hn : n < 2 ^ 63) : TF.parseIdx (Nat.toDigits 10 n) = some (n : Int) := by
  have := parseIntBase0_itoa (n : Int) (by unfold InRange; omega)
  have e : itoa (n : Int) = Nat.toDigits 10 n := by
    unfold itoa
    rw [if_neg (by omega)]
    simp
  rw [e] at this
  exact this

/-- an index that does not fit a Go `int`: `ParseInt` reports a range error -/
theorem parseIdx_toDigits_big (m : Nat) (hm : 2 ^ 63 ≤ m) : TF.parseIdx (Nat.toDigits 10 m) = none := by
  have hp := parseUintBase0_toDigits m
  have hu := contains_us_toDigits m
  obtain ⟨d0, more, e, hd, _⟩ := toDigits_shape m
  have hs := Strict.parseIntBase0_signed false d0 more (hd d0 List.mem_cons_self)
  rw [e] at hp hu ⊢
  rw [if_neg Bool.false_ne_true, List.nil_append, hp, Option.bind_some, hu] at hs
  rw [TF.parseIdx, hs]
  simp only [Bool.false_and, Bool.false_eq_true, if_false, Bool.not_false, Bool.true_and, decide_eq_true_eq]
  exact if_pos hm

theorem toDigits_ne_nil (n : Nat) : Nat.toDigits 10 n ≠ [] := by
  by_cases h : n = 0
  · subst h; decide
  · obtain ⟨c, t, e, _⟩ := toDigits_head n (by omega)
    rw [e]; simp

theorem toDigits_sigilFree (n : Nat) : SigilFree (Nat.toDigits 10 n) := by
  intro c hc
  have := mem_toDigits_dig hc
  simp only [isSigil, Bool.or_eq_false_iff, beq_eq_false_iff_ne]
  constructor <;> (intro e; subst e; revert this; decide)

theorem Seg.text_ne_nil {s : Seg} (hs : s.Valid) : s.text ≠ [] := by
  cases s with
  | key k => exact hs.1
  | idx n => exact toDigits_ne_nil n

theorem Seg.text_sigilFree {s : Seg} (hs : s.Valid) : SigilFree s.text := by
  cases s with
  | key k => exact hs.2
  | idx n => exact toDigits_sigilFree n

theorem Seg.isSigil_sigil (s : Seg) : isSigil s.sigil = true := by cases s <;> rfl

theorem render_cons (s : Seg) (q : List Seg) : render (s :: q) = s.sigil :: (s.text ++ render q) := rfl

theorem render_append (p q : List Seg) : render (p ++ q) = render p ++ render q := by
  induction p with
  | nil => rfl
  | cons s p ih => simp [render, ih]

theorem ValidPath.keys {p : List Seg} (h : ValidPath p) : ValidKeys p :=
  fun s hs _ e => by subst e; exact h _ hs
theorem ValidPath.head {s : Seg} {q : List Seg} (h : ValidPath (s :: q)) : s.Valid := h s (by simp)
theorem ValidPath.tail {s : Seg} {q : List Seg} (h : ValidPath (s :: q)) : ValidPath q :=
  fun x hx => h x (by simp [hx])

/-! ## the skeleton of GetTF, SetTF and UnsetTF -/

/-- the first segment of a text and what follows it, as a method with sigil `c` reads them -/
def readHead (c : Char) (tf : Str) : Option (Str × Str) :=
  match TF.strip c tf with
  | none => none
  | some t =>
    match TF.split t with
    | .dot seg rest => some (seg, rest)
    | .hash seg rest => some (seg, rest)
    | .leaf seg => some (seg, [])

/-- the second alternative is the empty segment of finding K1: the whole remaining text, sigils
included, is the segment -/
theorem readHead_some {c : Char} {tf seg rest : Str} (h : readHead c tf = some (seg, rest)) :
    tf = c :: (seg ++ rest) ∧ seg ≠ [] ∧
      (SigilFree seg ∧ (rest = [] ∨ SigilHead rest) ∨ SigilHead seg ∧ rest = []) := by
  unfold readHead at h
  cases hs : TF.strip c tf with
  | none => simp [hs] at h
  | some t =>
    obtain ⟨rfl, ht⟩ := strip_some hs
    simp only [hs] at h
    have hi := split_inv t
    cases hsp : TF.split t with
    | dot s r | hash s r =>
      rw [hsp] at hi
      simp only [hsp, Option.some.injEq, Prod.mk.injEq] at h
      obtain ⟨rfl, rfl⟩ := h
      obtain ⟨u, rfl, hne, hf, rfl⟩ := hi
      exact ⟨rfl, hne, Or.inl ⟨hf, Or.inr ⟨_, _, rfl, rfl⟩⟩⟩
    | leaf s =>
      rw [hsp] at hi
      simp only [hsp, Option.some.injEq, Prod.mk.injEq] at h
      obtain ⟨rfl, rfl⟩ := h
      obtain ⟨rfl, hx⟩ := hi
      exact ⟨by rw [List.append_nil], ht, hx.imp (fun hf => ⟨hf, Or.inl rfl⟩) (fun hh => ⟨hh, rfl⟩)⟩

theorem readHead_seg (c d : Char) {seg rest : Str} (hne : seg ≠ []) (hf : SigilFree seg)
    (hr : rest = [] ∨ SigilHead rest) :
    readHead c (d :: (seg ++ rest)) = if d = c then some (seg, rest) else none := by
  unfold readHead
  rw [strip_cons c d _ (by simp [hne])]
  by_cases hd : d = c
  · simp only [if_pos hd]
    rcases hr with rfl | ⟨x, u, rfl, hx⟩
    · rw [List.append_nil, split_sigilFree _ hf]
    · rcases isSigil_iff.1 hx with rfl | rfl
      · rw [split_dot _ _ hne hf]
      · rw [split_hash _ _ hne hf]
  · simp only [if_neg hd]

theorem readHead_sigilHead (c : Char) {t : Str} (ht : SigilHead t) : readHead c (c :: t) = some (t, []) := by
  obtain ⟨x, u, rfl, hx⟩ := ht
  unfold readHead
  simp only [strip_cons c c _ (List.cons_ne_nil x u), if_true, split_sigil_head x u hx]

/-- a slot of a container cell: element `i` of the list at `a`, or field `k` of the object at `a` -/
inductive Slot
  | item (a : Nat) (i : Int)
  | field (a : Nat) (k : Str)

/-- the sigil a receiver's methods expect (a scalar has no methods) -/
def recvSigil : Val → Option Char
  | .list _ => some '#'
  | .obj _ => some '.'
  | _ => none

/-- the slot of the receiver that a segment text names: a list reads an index
(`strconv.ParseInt(seg, 0, 64)`), an object takes the text as the key -/
def readSlot : Val → Str → Option Slot
  | .list r, seg => (TF.parseIdx seg).map (.item r.addr)
  | .obj r, seg => some (.field r.addr seg)
  | _, _ => none

/-- the slot a well-formed segment addresses in a receiver of the matching kind -/
def slotOf : Val → Seg → Option Slot
  | .list r, .idx i => some (.item r.addr i)
  | .obj r, .key k => some (.field r.addr k)
  | _, _ => none

/-- what GetTF, SetTF and UnsetTF share, on a receiver value: the guard, the split, reading the first segment,
then finishing (`leaf`) or going on with the rest of the text (`down`, told whether the next sigil
is '.'); `bad` receives the two text errors -/
def walkV {R : Type} (v : Val) (bad : PanicKind → R) (leaf : Slot → R) (down : Slot → Bool → Str → R)
    (tf : Str) : R :=
  match recvSigil v with
  | none => bad .badTF
  | some c =>
    match TF.strip c tf with
    | none => bad .badTF
    | some t =>
      match TF.split t with
      | .dot seg rest => match readSlot v seg with | none => bad .badInt | some sl => down sl true rest
      | .hash seg rest => match readSlot v seg with | none => bad .badInt | some sl => down sl false rest
      | .leaf seg => match readSlot v seg with | none => bad .badInt | some sl => leaf sl

theorem walkV_eq {R : Type} {v : Val} {c : Char} (hc : recvSigil v = some c) (bad : PanicKind → R)
    (leaf : Slot → R) (down : Slot → Bool → Str → R) (tf : Str) :
    walkV v bad leaf down tf =
      match readHead c tf with
      | none => bad .badTF
      | some (seg, rest) =>
        match readSlot v seg with
        | none => bad .badInt
        | some sl => match rest with | [] => leaf sl | x :: _ => down sl (x == '.') rest := by
  unfold walkV readHead
  simp only [hc]
  cases TF.strip c tf with
  | none => rfl
  | some t =>
    dsimp only
    have hi := split_inv t
    cases hsp : TF.split t with
    | dot seg rest | hash seg rest => rw [hsp] at hi; obtain ⟨u, rfl, _⟩ := hi; cases readSlot v seg <;> rfl
    | leaf seg => cases readSlot v seg <;> rfl

theorem walkV_congr {R : Type} {v : Val} {bad : PanicKind → R} {leaf : Slot → R}
    {down down' : Slot → Bool → Str → R} {tf : Str}
    (hdown : ∀ sl b rest, rest.length + 2 ≤ tf.length → down sl b rest = down' sl b rest) :
    walkV v bad leaf down tf = walkV v bad leaf down' tf := by
  cases hc : recvSigil v with
  | none => unfold walkV; rw [hc]
  | some c =>
    rw [walkV_eq hc, walkV_eq hc]
    cases hr : readHead c tf with
    | none => rfl
    | some sr =>
      obtain ⟨seg, rest⟩ := sr
      obtain ⟨rfl, hne, _⟩ := readHead_some hr
      have := List.length_pos_iff.2 hne
      dsimp only
      cases readSlot v seg with
      | none => rfl
      | some sl =>
        cases rest with
        | nil => rfl
        | cons x u => exact hdown sl _ (x :: u) (by simp only [List.length_cons, List.length_append]; omega)

theorem walkV_seg {R : Type} (v : Val) (bad : PanicKind → R) (leaf : Slot → R) (down : Slot → Bool → Str → R)
    (s : Seg) (hs : s.Valid) {rest : Str} (hr : rest = [] ∨ SigilHead rest) :
    walkV v bad leaf down (s.sigil :: (s.text ++ rest)) =
      match slotOf v s with
      | none => bad .badTF
      | some sl => match (generalizing := false) rest with | [] => leaf sl | x :: _ => down sl (x == '.') rest := by
  cases hc : recvSigil v with
  | none =>
    cases v with
    | list r => cases hc
    | obj r => cases hc
    | _ => cases s <;> rfl
  | some c =>
    rw [walkV_eq hc, readHead_seg c _ (Seg.text_ne_nil hs) (Seg.text_sigilFree hs) hr]
    cases v <;> cases hc <;> cases s
    · rfl
    · simp only [Seg.sigil, if_true, readSlot, Seg.text, parseIdx_toDigits _ hs, slotOf, Option.map_some]
    · rfl
    · rfl

theorem render_tail (q : List Seg) : render q = [] ∨ SigilHead (render q) := by
  cases q with
  | nil => exact Or.inl rfl
  | cons s q => exact Or.inr ⟨_, _, rfl, s.isSigil_sigil⟩

theorem walkV_render {R : Type} (v : Val) (bad : PanicKind → R) (leaf : Slot → R) (down : Slot → Bool → Str → R)
    (s : Seg) (q : List Seg) (hs : s.Valid) :
    walkV v bad leaf down (render (s :: q)) =
      match slotOf v s with
      | none => bad .badTF
      | some sl => match q with | [] => leaf sl | s' :: _ => down sl s'.isKey (render q) := by
  rw [render_cons, walkV_seg v bad leaf down s hs (render_tail q)]
  cases slotOf v s with
  | none => rfl
  | some sl =>
    cases q with
    | nil => rfl
    | cons s' q' => cases s' <;> rfl

/-- a family whose value at `n + 1` uses the value at `n` only on texts at least two characters shorter
does not depend on the fuel beyond the text's length -/
theorem fuel_indep {α R : Type} (F : Nat → α → Str → R)
    (step : ∀ n m a tf, (∀ b t, t.length + 2 ≤ tf.length → F n b t = F m b t) → F (n + 1) a tf = F (m + 1) a tf) :
    ∀ (n m : Nat) (a : α) (tf : Str), tf.length < n → tf.length < m → F n a tf = F m a tf := by
  intro n
  induction n with
  | zero => intro m a tf hn; omega
  | succ n ih =>
    intro m a tf hn hm
    obtain ⟨m, rfl⟩ := Nat.exists_eq_succ_of_ne_zero (by omega : m ≠ 0)
    exact step n m a tf fun b t ht => ih m b t (by omega) (by omega)

/-! ## the grammar is the image of `render` -/

theorem decVal_toDigits (n : Nat) : decVal (Nat.toDigits 10 n) 0 = n := by
  have e : ∀ (t : Str) (m : Nat), decVal t m = t.foldl (fun n c => n * 10 + (c.toNat - 48)) m := by
    intro t
    induction t with
    | nil => intro m; rfl
    | cons c t ih => intro m; exact ih _
  rw [e]
  exact Strict.digitsVal_toDigits n

theorem canonNat_some {b : Str} {n : Nat} (h : canonNat b = some n) : b = Nat.toDigits 10 n := by
  unfold canonNat at h
  split at h
  · next e => cases h; exact e.symm
  · cases h

/-! ### `canonNat` is the explicit grammar: digits only, no leading zero except "0" -/

def isDigit (c : Char) : Bool := 48 ≤ c.toNat && c.toNat ≤ 57

theorem digitChar_sub (c : Char) (h : 48 ≤ c.toNat ∧ c.toNat ≤ 57) : Nat.digitChar (c.toNat - 48) = c := by
  have h10 : ∀ k, k < 10 → Nat.digitChar k = Char.ofNat (k + 48) := by decide
  rw [h10 _ (by omega), Nat.sub_add_cancel h.1, Char.ofNat_toNat]

theorem decVal_digits (t : Str) (ht : ∀ c ∈ t, 48 ≤ c.toNat ∧ c.toNat ≤ 57) : ∀ m, 0 < m →
    Nat.toDigits 10 (decVal t m) = Nat.toDigits 10 m ++ t := by
  induction t with
  | nil => intro m _; simp [decVal]
  | cons c t ih =>
    intro m hm
    have hc := ht c (by simp)
    rw [decVal, ih (fun x hx => ht x (by simp [hx])) _ (by omega)]
    rw [Nat.toDigits_of_base_le (by decide) (by omega)]
    have hk : c.toNat - 48 < 10 := by omega
    have h1 : (m * 10 + (c.toNat - 48)) / 10 = m := by
      rw [Nat.mul_comm, Nat.mul_add_div (by decide), Nat.div_eq_of_lt hk, Nat.add_zero]
    have h2 : (m * 10 + (c.toNat - 48)) % 10 = c.toNat - 48 := by
      rw [Nat.mul_comm, Nat.mul_add_mod, Nat.mod_eq_of_lt hk]
    rw [h1, h2, digitChar_sub c hc]
    simp

theorem isDigit_iff (c : Char) : isDigit c = true ↔ 48 ≤ c.toNat ∧ c.toNat ≤ 57 := by
  simp [isDigit]

/-- non-empty, only digits, no leading zero except "0" itself: the decimal numeral of its value -/
theorem canon_roundtrip {b : Str} (hne : b ≠ []) (hd : ∀ c ∈ b, isDigit c = true)
    (hz : b = ['0'] ∨ b.head? ≠ some '0') : Nat.toDigits 10 (decVal b 0) = b := by
  rcases hz with rfl | hz
  · decide
  · cases b with
    | nil => exact absurd rfl hne
    | cons c t =>
      have hc := (isDigit_iff c).1 (hd c (by simp))
      have hc0 : c ≠ '0' := by intro e; subst e; simp at hz
      have hpos : 0 < c.toNat - 48 := by
        have : c.toNat ≠ 48 := fun e => hc0 ((char_eq_iff c '0').2 e)
        omega
      rw [decVal]
      simp only [Nat.zero_mul, Nat.zero_add]
      rw [decVal_digits t (fun x hx => (isDigit_iff x).1 (hd x (by simp [hx]))) _ hpos,
        Nat.toDigits_of_lt_base (by omega), digitChar_sub c hc]
      rfl

theorem segAux_append_free (seg rest b : Str) (segs : List Seg) (hf : SigilFree seg)
    (hr : segAux rest = some (b, segs)) : segAux (seg ++ rest) = some (seg ++ b, segs) := by
  induction seg with
  | nil => exact hr
  | cons c seg ih =>
    have := ih (fun x hx => hf x (by simp [hx]))
    simp [segAux, this, hf.ne_dot c List.mem_cons_self, hf.ne_hash c List.mem_cons_self]

theorem segAux_render (p : List Seg) (hp : ValidKeys p) :
    segAux (render p) = some ([], p) := by
  induction p with
  | nil => rfl
  | cons s q ih =>
    have ihq := ih (fun x hx => hp x (by simp [hx]))
    cases s with
    | key k =>
      have hk := hp (.key k) (by simp) k rfl
      have := segAux_append_free k (render q) [] q hk.2 ihq
      simp only [render_cons, Seg.sigil, Seg.text, segAux, this]
      simp [hk.1]
    | idx n =>
      have := segAux_append_free (Nat.toDigits 10 n) (render q) [] q (toDigits_sigilFree n) ihq
      simp only [render_cons, Seg.sigil, Seg.text, segAux, this]
      simp [canonNat, decVal_toDigits]

theorem segments_render (p : List Seg) (hne : p ≠ []) (hp : ValidKeys p) :
    segments (render p) = some p := by
  unfold segments
  rw [segAux_render p hp]
  cases p with
  | nil => exact absurd rfl hne
  | cons s q => rfl

theorem ValidKeys.cons {s : Seg} {q : List Seg} (hs : ∀ k, s = .key k → ValidKey k)
    (hq : ValidKeys q) : ValidKeys (s :: q) := by
  intro x hx k ek
  rcases List.mem_cons.1 hx with rfl | hx
  · exact hs k ek
  · exact hq x hx k ek

theorem segAux_sound : ∀ (s : Str) (b : Str) (segs : List Seg), segAux s = some (b, segs) →
    s = b ++ render segs ∧ SigilFree b ∧ ValidKeys segs
  | [], b, segs, h => by
    simp only [segAux, Option.some.injEq, Prod.mk.injEq] at h
    obtain ⟨rfl, rfl⟩ := h
    exact ⟨rfl, (fun _ hc => by cases hc), (fun _ hx => by cases hx)⟩
  | c :: t, b, segs, h => by
    simp only [segAux] at h
    cases ht : segAux t with
    | none => simp [ht] at h
    | some pr =>
      obtain ⟨b', segs'⟩ := pr
      obtain ⟨e, hf, hk⟩ := segAux_sound t b' segs' ht
      simp only [ht] at h
      by_cases h1 : c = '.'
      · subst h1
        simp only [beq_self_eq_true, if_true] at h
        split at h
        · cases h
        · next hb =>
          simp only [Option.some.injEq, Prod.mk.injEq] at h
          obtain ⟨rfl, rfl⟩ := h
          exact ⟨by rw [e]; rfl, (fun _ hc => by cases hc),
            ValidKeys.cons (fun k ek => by cases ek; exact ⟨by simpa using hb, hf⟩) hk⟩
      · have h1' : (c == '.') = false := by simpa using h1
        simp only [h1'] at h
        by_cases h2 : c = '#'
        · subst h2
          simp only [beq_self_eq_true, if_true] at h
          cases hc : canonNat b' with
          | none => simp [hc] at h
          | some n =>
            simp only [hc] at h
            obtain ⟨rfl, rfl⟩ := h
            exact ⟨by rw [e, canonNat_some hc]; rfl, (fun _ hc => by cases hc), ValidKeys.cons (fun _ ek => by cases ek) hk⟩
        · have h2' : (c == '#') = false := by simpa using h2
          simp only [h2', Bool.false_eq_true, if_false, Option.some.injEq, Prod.mk.injEq] at h
          obtain ⟨rfl, rfl⟩ := h
          refine ⟨by rw [e]; rfl, ?_, hk⟩
          intro x hx
          rcases List.mem_cons.1 hx with rfl | hx
          · simp [isSigil, h1', h2']
          · exact hf x hx

theorem segments_some {s : Str} {p : List Seg} (h : segments s = some p) :
    s = render p ∧ p ≠ [] ∧ ValidKeys p := by
  unfold segments at h
  split at h
  · next seg segs hs =>
    cases h
    obtain ⟨e, _, hk⟩ := segAux_sound s [] (seg :: segs) hs
    exact ⟨e, by simp, hk⟩
  · cases h

theorem segments_validPath {s : Str} {p : List Seg} (hs : segments s = some p)
    (hi : ∀ n, Seg.idx n ∈ p → n < 2 ^ 63) : s = render p ∧ p ≠ [] ∧ ValidPath p := by
  obtain ⟨e, hne, hk⟩ := segments_some hs
  refine ⟨e, hne, fun x hx => ?_⟩
  cases x with
  | key k => exact hk _ hx k rfl
  | idx n => exact hi n hx

end TFP
end Anytype
