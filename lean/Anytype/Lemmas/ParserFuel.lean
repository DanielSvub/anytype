/-
Fuel lemmas for the parser machines: an ok result reads a `Run` (the fuel-free big-step semantics),
hence at least one item; results other than the fuel sentinel do not depend on the fuel
(monotonicity), and `items.length + 1` is enough fuel.
Stated for the generic `exec` and exported for `pList` / `pObject`.
-/
import Anytype.Lemmas.ParserExec
namespace Anytype

theorem bumpLine_of_ne {c : Char} (h : c ≠ '\n') (line : Nat) : bumpLine c line = line := by
  simp [bumpLine, h]

def PRes.NotFuel (r : PRes) : Prop := ∀ l, r ≠ .err ⟨.fuel, l⟩

theorem PRes.notFuel_ok (v rest l) : (PRes.ok v rest l).NotFuel := fun _ h => by cases h

theorem step_fail_notFuel {σ c line e} (h : step σ c line = .fail e) : (PRes.err e).NotFuel := by
  rintro l ⟨⟩
  rcases (step_fail h).2.2.1 with h | h | h | h <;> cases h

/-! ### an ok result read a non-empty region -/

/-- `Run σ line c v line'`: started in configuration `σ` with line counter `line`, the machine reads
exactly the items `c` and returns `v` on the last of them, with line counter `line'` (the big-step
semantics of `step`, without fuel) -/
inductive Run : Cfg → Nat → List Item → JVal → Nat → Prop
  | ret {σ ch line v} :
      step σ ch (bumpLine ch line) = .ret v → Run σ line [some ch] v (bumpLine ch line)
  | goto {σ ch line σ' c v line'} :
      step σ ch (bumpLine ch line) = .goto σ' → Run σ' (bumpLine ch line) c v line' →
      Run σ line (some ch :: c) v line'
  | call {σ ch line σc k c₁ o l₁ c₂ v line'} :
      step σ ch (bumpLine ch line) = .call σc k → Run σc (bumpLine ch line) c₁ o l₁ →
      Run (k o) l₁ c₂ v line' → Run σ line (some ch :: (c₁ ++ c₂)) v line'

/-- An ok result reads a `Run` and returns what follows it.

The cases of `exec`, here and in the inductions below: no fuel; end of input; an ill-formed item;
then a character on which `step` says goto, ret, fail, or call — the callee failing or returning. -/
theorem exec_ok_run (f : Nat) {items σ line} : ∀ {v rest l'},
    exec f items σ line = .ok v rest l' → ∃ c, items = c ++ rest ∧ Run σ line c v l' := by
  fun_induction exec f items σ line with
  | case1 | case2 | case3 | case6 | case7 => nofun
  | case4 _ _ _ _ _ _ hs ih =>
    intro v rest l' h
    obtain ⟨c, rfl, hc⟩ := ih h
    exact ⟨_, rfl, .goto hs hc⟩
  | case5 _ _ _ _ _ _ hs =>
    intro v rest l' h
    cases h
    exact ⟨_, rfl, .ret hs⟩
  | case8 _ _ _ _ _ _ _ hs _ _ _ hi ih₁ ih₂ =>
    intro v rest l' h
    obtain ⟨c₁, rfl, hc₁⟩ := ih₁ hi
    obtain ⟨c₂, rfl, hc₂⟩ := ih₂ h
    exact ⟨_, by rw [List.cons_append, List.append_assoc], .call hs hc₁ hc₂⟩

theorem Run.ne_nil {σ line c v l'} (h : Run σ line c v l') : c ≠ [] := by
  cases h <;> exact List.cons_ne_nil _ _

theorem exec_ok_length (f : Nat) {items σ line v rest l'}
    (h : exec f items σ line = .ok v rest l') : rest.length < items.length := by
  obtain ⟨c, rfl, hc⟩ := exec_ok_run f h
  have := List.length_pos_iff.2 hc.ne_nil
  rw [List.length_append]; omega

theorem exec_add_one (f : Nat) (items σ line) :
    (exec f items σ line).NotFuel → exec (f + 1) items σ line = exec f items σ line := by
  fun_induction exec f items σ line with
  | case1 => exact fun hr => absurd rfl (hr none)
  | case2 => exact fun _ => exec_nil _ _ _
  | case3 => exact fun _ => exec_none _ _ _ _
  | case4 _ _ _ _ _ _ hs ih => exact fun hr => (exec_goto hs _ _).trans (ih hr)
  | case5 _ _ _ _ _ _ hs => exact fun _ => exec_ret hs _ _
  | case6 _ _ _ _ _ _ hs => exact fun _ => exec_fail hs _ _
  | case7 _ _ _ _ _ _ _ hs _ hi ih => intro hr; rw [exec_call hs, ih (hi ▸ hr), hi]
  | case8 _ _ _ _ _ _ _ hs _ _ _ hi ih₁ ih₂ =>
    intro hr
    rw [exec_call hs, ih₁ (hi ▸ PRes.notFuel_ok _ _ _), hi]
    exact ih₂ hr

theorem exec_mono (f : Nat) {items σ line r} (h : exec f items σ line = r) (hr : r.NotFuel) :
    ∀ f', f ≤ f' → exec f' items σ line = r := by
  intro f' hf
  induction hf with
  | refl => exact h
  | step _ ih => rw [exec_add_one _ _ _ _ (ih ▸ hr), ih]

theorem exec_total (f : Nat) (items σ line) :
    items.length < f → (exec f items σ line).NotFuel := by
  fun_induction exec f items σ line with
  | case1 => exact fun h => absurd h (Nat.not_lt_zero _)
  | case2 | case3 => exact fun _ _ h => nomatch h
  | case4 _ _ _ _ _ _ _ ih => exact fun h => ih (Nat.lt_of_succ_lt_succ h)
  | case5 => exact fun _ => PRes.notFuel_ok _ _ _
  | case6 _ _ _ _ _ _ hs => exact fun _ => step_fail_notFuel hs
  | case7 _ _ _ _ _ _ _ _ _ hi ih => exact fun h => hi ▸ ih (Nat.lt_of_succ_lt_succ h)
  | case8 _ _ _ _ _ _ _ _ _ _ _ hi _ ih₂ =>
    exact fun h => ih₂ (Nat.lt_trans (exec_ok_length _ hi) (Nat.lt_of_succ_lt_succ h))

theorem pList_ok_length {f items st acc val iv line v rest l'}
    (h : pList f items st acc val iv line = .ok v rest l') : rest.length < items.length := by
  rw [pList_eq_exec] at h; exact exec_ok_length f h

theorem pObject_ok_length {f items st acc key val iv line v rest l'}
    (h : pObject f items st acc key val iv line = .ok v rest l') : rest.length < items.length := by
  rw [pObject_eq_exec] at h; exact exec_ok_length f h

theorem exec_fuel_irrelevant {f : Nat} {items : List Item} (hf : items.length + 1 ≤ f) (σ line) :
    exec f items σ line = exec (items.length + 1) items σ line :=
  exec_mono _ rfl (exec_total _ _ _ _ (Nat.lt_succ_self _)) f hf

theorem pList_fuel_irrelevant {f : Nat} {items : List Item} (hf : items.length + 1 ≤ f)
    (st acc val iv line) :
    pList f items st acc val iv line = pList (items.length + 1) items st acc val iv line := by
  simp only [pList_eq_exec]; exact exec_fuel_irrelevant hf _ _

theorem pObject_fuel_irrelevant {f : Nat} {items : List Item} (hf : items.length + 1 ≤ f)
    (st acc key val iv line) :
    pObject f items st acc key val iv line =
      pObject (items.length + 1) items st acc key val iv line := by
  simp only [pObject_eq_exec]; exact exec_fuel_irrelevant hf _ _

end Anytype
