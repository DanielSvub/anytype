/-
What each operation of `Model/Slices.step` does, in terms of `Upd` (see `SlicesBasic`): either it
panics and changes nothing, or it replaces the header of one cell after an update of that cell's
array, or it adds a cell over a fresh array (`Shape`); `Delete` is a loop of the second kind.
-/
import Anytype.Lemmas.SlicesBasic
namespace Anytype.Slices
variable {α : Type}
variable {m : Mem α} {s : Slice} {cfg : Cfg α} {sorted : List α → List α} {σ : SHeap α} {op : Op α}

theorem abs_getElem? (σ : SHeap α) (c : Nat) : σ.abs[c]? = (σ.cells[c]?).map (view σ.mem) := by
  simp only [SHeap.abs, List.getElem?_map]

theorem abs_length (σ : SHeap α) : σ.abs.length = σ.cells.length := by
  simp only [SHeap.abs, List.length_map]

theorem view_prefix {k : Nat} (h : k ≤ s.len) :
    view m ⟨s.arr, k⟩ = (view m s).take k := by
  simp only [view, List.take_take, Nat.min_eq_left h]

theorem view_writeAt_one {i : Nat} (v : α) (ha : s.arr < m.length)
    (hi : i < s.len) (hc : s.len ≤ cap m s) :
    view (writeAt m s.arr i [v]) s = (view m s).set i v := by
  have hlt : i < (arrOf m s.arr).length := Nat.lt_of_lt_of_le hi hc
  unfold view
  rw [arrOf_writeAt_self _ _ ha, ← List.take_set, List.set_eq_take_append_cons_drop, if_pos hlt]
  simp only [List.length_singleton, List.append_assoc, List.singleton_append]

theorem view_writeAt_zero {ys : List α} (ha : s.arr < m.length)
    (hl : ys.length = s.len) : view (writeAt m s.arr 0 ys) s = ys := by
  simp only [view, arrOf_writeAt_self _ _ ha, List.take_zero, List.nil_append]
  exact List.take_left' hl

theorem Upd.of_fresh {m m' : Mem α} {s' : Slice} (a : Nat) (h : Upd m m.length m' s') : Upd m a m' s' := by
  refine ⟨h.len_le, fun b hb _ => h.frame b hb (Nat.ne_of_lt hb), Or.inr ?_, h.lt, h.cap⟩
  rcases h.arr with h | h <;> omega

theorem insertIdx_eq_take_drop {β : Type} (v : β) (xs : List β) (i : Nat) (h : i ≤ xs.length) :
    xs.insertIdx i v = xs.take i ++ v :: xs.drop i := by
  induction xs generalizing i with
  | nil =>
    have : i = 0 := by simpa using h
    subst this; rfl
  | cons x xs ih =>
    cases i with
    | zero => rfl
    | succ i =>
      rw [List.insertIdx_succ_cons, ih i (by simpa using h)]
      rfl

theorem insert_shift {β : Type} (v : β) (xs : List β) (i : Nat) (h : i < xs.length) :
    (xs.take (i + 1) ++ xs.drop i).set i v = xs.insertIdx i v := by
  rw [insertIdx_eq_take_drop v xs i (Nat.le_of_lt h), List.take_succ_eq_append_getElem h,
    List.append_assoc, List.set_append, if_neg (by simp [Nat.min_eq_left (Nat.le_of_lt h)])]
  simp [Nat.min_eq_left (Nat.le_of_lt h)]

/-- what a step does, for every operation but `Delete`: panic with nothing changed, or a new header
for one cell after an update of its array, or a new cell over a fresh array; and the step on plain
lists does the same to the contents -/
def Shape (cfg : Cfg α) (sorted : List α → List α) (σ : SHeap α) (op : Op α) : Prop :=
  (step cfg sorted σ op = (σ, .panic) ∧ astep sorted σ.abs op = (σ.abs, .panic)) ∨
  (∃ c s m' s', σ.cells[c]? = some s ∧ Upd σ.mem s.arr m' s' ∧
    step cfg sorted σ op = (⟨m', σ.cells.set c s'⟩, .done) ∧
    astep sorted σ.abs op = (σ.abs.set c (view m' s'), .done)) ∨
  (∃ m' s', Upd σ.mem σ.mem.length m' s' ∧
    step cfg sorted σ op = (⟨m', σ.cells ++ [s']⟩, .made σ.cells.length) ∧
    astep sorted σ.abs op = (σ.abs ++ [view m' s'], .made σ.abs.length))

theorem Shape.spec (h : Shape cfg sorted σ op) (hw : σ.WF) :
    (step cfg sorted σ op).1.WF ∧
    ((step cfg sorted σ op).1.abs, (step cfg sorted σ op).2) = astep sorted σ.abs op ∧
    ∀ c, (step cfg sorted σ op).2 = .made c →
      c = σ.cells.length ∧ ∃ s, (step cfg sorted σ op).1.cells[c]? = some s ∧ σ.mem.length ≤ s.arr := by
  rcases h with ⟨h1, h2⟩ | ⟨c, s, m', s', hc, hu, h1, h2⟩ | ⟨m', s', hu, h1, h2⟩ <;> rw [h1, h2]
  · exact ⟨hw, rfl, fun c hm => by cases hm⟩
  · obtain ⟨k1, k2⟩ := wf_set hw hc hu
    exact ⟨k1, by rw [k2], fun c hm => by cases hm⟩
  · obtain ⟨k1, k2⟩ := wf_append hw hu
    refine ⟨k1, by rw [k2, abs_length], fun c hm => ?_⟩
    cases hm
    refine ⟨rfl, s', by simp, ?_⟩
    rcases hu.arr with h | h <;> omega

theorem Shape.of_none {c : Nat} (ho : op.first = some c) (hc : σ.cells[c]? = none) :
    Shape cfg sorted σ op :=
  .inl ⟨step_of_none ho hc, astep_of_none ho (by rw [abs_getElem?, hc]; rfl)⟩

theorem alloc_pushAll (cfg : Cfg α) (σ : SHeap α) (n : Nat) (vs : List α) :
    ∃ m' s', pushAll cfg (alloc cfg σ 0 n) σ.cells.length vs = ⟨m', σ.cells ++ [s']⟩ ∧
      Upd σ.mem σ.mem.length m' s' ∧ view m' s' = vs := by
  obtain ⟨h1, h2⟩ := mk_upd cfg.zero σ.mem (Nat.zero_le n)
  obtain ⟨m', s', e, k1, k2⟩ := pushAll_upd cfg vs (alloc cfg σ 0 n) (c := σ.cells.length)
    (s := (mk cfg.zero σ.mem 0 n).2) (by simp [alloc]) h1.lt h1.cap
  exact ⟨m', s', by rw [e]; simp [alloc], h1.trans k1, k2.trans (congrArg (· ++ vs) h2)⟩

/-- `NewList`, `NewListOf`, `NewListFrom`: an allocation and the loop of `Add` -/
theorem Shape.of_alloc
    (n : Nat) (vs : List α)
    (h1 : step cfg sorted σ op =
    (pushAll cfg (alloc cfg σ 0 n) σ.cells.length vs, .made σ.cells.length))
    (h2 : astep sorted σ.abs op = (σ.abs ++ [vs], .made σ.abs.length)) : Shape cfg sorted σ op := by
  obtain ⟨m', s', e, hu, hv⟩ := alloc_pushAll cfg σ n vs
  exact .inr (.inr ⟨m', s', hu, by rw [h1, e], by rw [h2, hv]⟩)

theorem set_arrOf_self {a : Nat} (ha : a < m.length) : m.set a (arrOf m a) = m := by
  simp [arrOf, List.getD_eq_getElem?_getD, List.getElem?_eq_getElem ha]

theorem swap_append {a i j : Nat} (u v w : List α) (x y : α)
    (h : arrOf m a = u ++ x :: (v ++ y :: w)) (hi : i = u.length) (hj : j = u.length + 1 + v.length) :
    swap m a i j = m.set a (u ++ y :: (v ++ x :: w)) := by
  subst hi hj
  have hx : (u ++ x :: (v ++ y :: w))[u.length]? = some x := by simp
  have hy : (u ++ x :: (v ++ y :: w))[u.length + 1 + v.length]? = some y := by
    simp [Nat.add_assoc, Nat.add_comm 1]
  unfold swap
  rw [h, hx, hy]
  simp [Nat.add_assoc, Nat.add_comm 1]

/-- The loop swaps the innermost of its pairs first and then never touches what lies between the
remaining ones; so, by induction on the left halves `p` of the pairs read from the middle
outwards, it turns `p.reverse ++ mid ++ post` into `post.reverse ++ mid ++ p`. -/
theorem reverseLoop_append (a n : Nat) (rest : List α) :
    ∀ (p post mid : List α) (m : Mem α), a < m.length → post.length = p.length →
      n = p.length + mid.length + p.length →
      arrOf m a = p.reverse ++ mid ++ post ++ rest →
      reverseLoop a n m p.length = m.set a (post.reverse ++ mid ++ p ++ rest)
  | [], [], mid, m, ha, _, _, h => by
    rw [← set_arrOf_self ha, h]
    simp only [List.reverse_nil, List.nil_append, List.append_nil, List.length_nil, reverseLoop, List.set_set]
  | x :: p, y :: post, mid, m, ha, hl, hn, h => by
    show reverseLoop a n (swap m a p.length (n - 1 - p.length)) p.length = _
    rw [swap_append p.reverse mid (post ++ rest) x y (by rw [h]; simp only [List.reverse_cons, List.append_assoc, List.cons_append, List.nil_append])
        List.length_reverse.symm
        (by simp only [List.length_cons, List.length_reverse] at hn ⊢; omega),
      reverseLoop_append a n rest p post (y :: (mid ++ [x])) _ (by rw [List.length_set]; exact ha)
        (by simpa using hl)
        (by simp only [List.length_cons, List.length_append, List.length_nil] at hn ⊢; omega)
        (by rw [arrOf_set_self _ ha]; simp only [List.append_assoc, List.cons_append, List.nil_append])]
    simp only [List.append_assoc, List.cons_append, List.nil_append, List.set_set, List.reverse_cons]

theorem exists_pairs (l : List α) {k j : Nat} (h : k + j + k ≤ l.length) :
    ∃ p mid post rest : List α, l = p.reverse ++ mid ++ post ++ rest ∧ p.length = k ∧
      mid.length = j ∧ post.length = k := by
  refine ⟨(l.take k).reverse, (l.drop k).take j, ((l.drop k).drop j).take k, ((l.drop k).drop j).drop k,
    by simp only [List.reverse_reverse, List.append_assoc, List.take_append_drop],
    by rw [List.length_reverse, List.length_take_of_le (by omega)],
    List.length_take_of_le (by rw [List.length_drop]; omega),
    List.length_take_of_le (by rw [List.length_drop, List.length_drop]; omega)⟩

theorem reverse_upd (ha : s.arr < m.length) (hl : s.len ≤ cap m s) :
    Upd m s.arr (reverseLoop s.arr s.len m (s.len / 2)) s ∧
    view (reverseLoop s.arr s.len m (s.len / 2)) s = (view m s).reverse := by
  have hn : s.len = s.len / 2 + s.len % 2 + s.len / 2 := by omega
  obtain ⟨p, mid, post, rest, hA, hp, hmid, hpost⟩ :=
    exists_pairs (arrOf m s.arr) (k := s.len / 2) (j := s.len % 2) (by rw [← hn]; exact hl)
  have hr := reverseLoop_append s.arr s.len rest p post mid m ha (by rw [hp, hpost])
    (by rw [hp, hmid]; exact hn) hA
  rw [hp] at hr
  have hlen : ∀ {u v : List α}, u.length = p.length → v.length = p.length →
      (u ++ mid ++ v).length = s.len := by
    intro u v hu hv; rw [hn]; simp only [List.length_append, hu, hv, hp, hmid]
  have hmid' : mid.reverse = mid :=
    match mid, (hmid ▸ Nat.mod_lt s.len (by decide) : mid.length < 2) with
    | [], _ => rfl
    | [_], _ => rfl
    | _ :: _ :: _, h => absurd h (Nat.not_lt.2 (Nat.le_add_left 2 _))
  rw [hr]
  refine ⟨set_upd _ ha (by rw [List.length_append, hlen (by simp [hp, hpost]) rfl]; exact Nat.le_add_right _ _), ?_⟩
  unfold view
  rw [arrOf_set_self _ ha, hA, List.take_left' (hlen (by simp [hp, hpost]) rfl),
    List.take_left' (hlen (by simp) (by rw [hp, hpost]))]
  simp only [List.append_assoc, List.reverse_append, hmid', List.reverse_reverse]

/-- `make([]T, n)` followed by a copy of `n` elements into it; the old lists are as they were -/
theorem mk_copy_upd (zero : α) {ys : List α} {len : Nat} (hl : ys.length = len) {t : Slice}
    (ht : t.arr < m.length) :
    Upd m m.length (writeAt (mk zero m len len).1 (mk zero m len len).2.arr 0 ys)
      (mk zero m len len).2 ∧
    view (writeAt (mk zero m len len).1 (mk zero m len len).2.arr 0 ys) (mk zero m len len).2 = ys ∧
    view (mk zero m len len).1 t = view m t := by
  obtain ⟨h1, _⟩ := mk_upd zero m (Nat.le_refl len)
  exact ⟨h1.trans (writeAt_upd h1.lt h1.cap (by rw [Nat.zero_add, hl]; exact h1.cap)),
    view_writeAt_zero h1.lt hl, view_congr (h1.frame _ ht (Nat.ne_of_lt ht))⟩

/-- an operation on one list: what is known of that list's header -/
theorem Shape.of_cell (hw : σ.WF) {c : Nat} (ho : op.first = some c)
    (h : ∀ s, σ.cells[c]? = some s → s.arr < σ.mem.length → s.len ≤ cap σ.mem s →
      (view σ.mem s).length = s.len → σ.abs[c]? = some (view σ.mem s) → Shape cfg sorted σ op) :
    Shape cfg sorted σ op := by
  cases hc : σ.cells[c]? with
  | none => exact .of_none ho hc
  | some s =>
    obtain ⟨ha, hl⟩ := hw.of_mem hc
    exact h s hc ha hl (view_length hl) (by rw [abs_getElem?, hc]; rfl)

section ops
variable (cfg : Cfg α) (sorted : List α → List α) {σ : SHeap α} (hw : σ.WF)
include hw

theorem shape_add (c : Nat) (vs : List α) : Shape cfg sorted σ (.add c vs) := by
  refine .of_cell hw rfl fun s hc ha hl _ hc' => ?_
  obtain ⟨m', s', e, k1, k2⟩ := pushAll_upd cfg vs σ hc ha hl
  exact .inr (.inl ⟨c, s, m', s', hc, k1, by simp only [step, hc, e], by simp only [astep, hc', k2]⟩)

theorem shape_replace (c i : Nat) (v : α) : Shape cfg sorted σ (.replace c i v) := by
  refine .of_cell hw rfl fun s hc ha hl hvl hc' => ?_
  by_cases hi : i < s.len
  · refine .inr (.inl ⟨c, s, writeAt σ.mem s.arr i [v], s, hc, ?_, ?_, ?_⟩)
    · exact writeAt_upd ha hl (Nat.le_trans hi hl)
    · simp only [step, hc, if_pos hi, set_eq_self hc]
    · simp only [astep, hc', hvl, if_pos hi, view_writeAt_one v ha hi hl]
  · exact .inl ⟨by simp only [step, hc, if_neg hi],
      by simp only [astep, hc', hvl, if_neg hi]⟩

omit hw in
theorem shape_clear (c : Nat) : Shape cfg sorted σ (.clear c) := by
  cases hc : σ.cells[c]? with
  | none => exact .of_none rfl hc
  | some s =>
    obtain ⟨h1, h2⟩ := mk_upd cfg.zero σ.mem (Nat.le_refl 0)
    refine .inr (.inl ⟨c, s, _, _, hc, h1.of_fresh s.arr, ?_, ?_⟩)
    · simp only [step, hc]
    · simp only [astep, abs_getElem?, hc, Option.map_some, h2, List.replicate_zero]

theorem shape_clone (c : Nat) : Shape cfg sorted σ (.clone c) := by
  refine .of_cell hw rfl fun s hc ha _ hvl hc' => ?_
  obtain ⟨hu, hv, hv'⟩ := mk_copy_upd cfg.zero hvl ha
  refine .inr (.inr ⟨_, _, hu, ?_, ?_⟩)
  · simp only [step, hc, hv']
  · simp only [astep, hc', hv]

theorem shape_subList (c start stop : Nat) : Shape cfg sorted σ (.subList c start stop) := by
  refine .of_cell hw rfl fun s hc ha _ hvl hc' => ?_
  by_cases hi : start ≤ stop ∧ stop ≤ s.len
  · have hlen : (((view σ.mem s).take stop).drop start).length = stop - start := by
      rw [List.length_drop, List.length_take, hvl, Nat.min_eq_left hi.2]
    obtain ⟨hu, hv, hv'⟩ := mk_copy_upd cfg.zero hlen ha
    refine .inr (.inr ⟨_, _, hu, ?_, ?_⟩)
    · simp only [step, hc, hv', if_pos hi]
    · simp only [astep, hc', hvl, if_pos hi, hv]
  · exact .inl ⟨by simp only [step, hc, if_neg hi],
      by simp only [astep, hc', hvl, if_neg hi]⟩

theorem deleteAt_upd {c : Nat} (hc : σ.cells[c]? = some s) {i : Nat} (hi : i < s.len) :
    ∃ m' s', deleteAt cfg σ c s i = ⟨m', σ.cells.set c s'⟩ ∧ Upd σ.mem s.arr m' s' ∧
      view m' s' = (view σ.mem s).eraseIdx i := by
  obtain ⟨ha, hl⟩ := hw.of_mem hc
  have hl' : (Slice.mk s.arr i).len ≤ cap σ.mem ⟨s.arr, i⟩ := Nat.le_trans (Nat.le_of_lt hi) hl
  obtain ⟨k1, k2, _⟩ := append_upd cfg ((view σ.mem s).drop (i + 1)) (s := ⟨s.arr, i⟩) ha hl'
  refine ⟨_, _, rfl, k1, ?_⟩
  rw [k2, view_prefix (Nat.le_of_lt hi), List.eraseIdx_eq_take_drop_succ]

theorem shape_pop (c : Nat) : Shape cfg sorted σ (.pop c) := by
  refine .of_cell hw rfl fun s hc _ _ hvl hc' => ?_
  by_cases hi : s.len = 0
  · exact .inl ⟨by simp only [step, hc, if_pos hi],
      by simp only [astep, hc', hvl, if_pos hi]⟩
  · obtain ⟨m', s', h1, h2, h3⟩ := deleteAt_upd cfg hw hc (i := s.len - 1) (Nat.sub_lt (Nat.pos_of_ne_zero hi) Nat.one_pos)
    refine .inr (.inl ⟨c, s, m', s', hc, h2, ?_, ?_⟩)
    · simp only [step, hc, if_neg hi, h1]
    · simp only [astep, hc', hvl, if_neg hi, h3]
      rw [List.eraseIdx_eq_dropLast (by omega)]

theorem shape_insert (c i : Nat) (v : α) : Shape cfg sorted σ (.insert c i v) := by
  refine .of_cell hw rfl fun s hc ha hl hvl hc' => ?_
  by_cases hi : i > s.len
  · exact .inl ⟨by simp only [step, hc, if_pos hi],
      by simp only [astep, hc', hvl, if_pos hi]⟩
  by_cases hi2 : i = s.len
  · obtain ⟨k1, k2, _⟩ := append_upd cfg [v] ha hl
    refine .inr (.inl ⟨c, s, _, _, hc, k1, ?_, ?_⟩)
    · simp only [step, hc, if_neg hi, if_pos hi2, push_eq cfg σ hc]
    · simp only [astep, hc', hvl, if_neg hi, k2]
      rw [hi2, ← hvl, List.insertIdx_length_self]
  · have hlt : i < s.len := Nat.lt_of_le_of_ne (Nat.le_of_not_lt hi) hi2
    have hl' : (Slice.mk s.arr (i + 1)).len ≤ cap σ.mem ⟨s.arr, i + 1⟩ := Nat.le_trans hlt hl
    obtain ⟨k1, k2, k3⟩ := append_upd cfg ((view σ.mem s).drop i) (s := ⟨s.arr, i + 1⟩) ha hl'
    have k3' : i < (append cfg σ.mem ⟨s.arr, i + 1⟩ ((view σ.mem s).drop i)).2.len := by
      rw [k3]; show i < i + 1 + _; omega
    have k4 : Upd _ _ (writeAt (append cfg σ.mem ⟨s.arr, i + 1⟩ ((view σ.mem s).drop i)).1
        (append cfg σ.mem ⟨s.arr, i + 1⟩ ((view σ.mem s).drop i)).2.arr i [v]) _ :=
      writeAt_upd k1.lt k1.cap (Nat.le_trans (by simp only [List.length_singleton]; omega) k1.cap)
    refine .inr (.inl ⟨c, s, _, _, hc, k1.trans k4, ?_, ?_⟩)
    · simp only [step, hc, if_neg hi, if_neg hi2]
    · simp only [astep, hc', hvl, if_neg hi]
      rw [view_writeAt_one v k1.lt k3' k1.cap, k2, view_prefix (s := s) hlt,
        insert_shift v _ i (by omega)]

theorem shape_concat (c d : Nat) : Shape cfg sorted σ (.concat c d) := by
  cases hc : σ.cells[c]? with
  | none => exact .of_none rfl hc
  | some s =>
    cases hd : σ.cells[d]? with
    | none =>
      exact .inl ⟨by simp only [step, hc, hd],
        by simp only [astep, abs_getElem?, hc, hd, Option.map_none, Option.map_some]⟩
    | some t =>
      obtain ⟨ha, _⟩ := hw.of_mem hc
      obtain ⟨hb, _⟩ := hw.of_mem hd
      obtain ⟨h0, v0⟩ := mk_upd cfg.zero σ.mem (Nat.zero_le (s.len + t.len))
      have e0 : view (mk cfg.zero σ.mem 0 (s.len + t.len)).1 s = view σ.mem s :=
        view_congr (h0.frame _ ha (Nat.ne_of_lt ha))
      obtain ⟨h1, v1, _⟩ := append_upd cfg (view σ.mem s) h0.lt h0.cap
      have h01 := h0.trans h1
      have e1 : view (append cfg (mk cfg.zero σ.mem 0 (s.len + t.len)).1
          (mk cfg.zero σ.mem 0 (s.len + t.len)).2 (view σ.mem s)).1 t = view σ.mem t :=
        view_congr (h01.frame _ hb (Nat.ne_of_lt hb))
      obtain ⟨h2, v2, _⟩ := append_upd cfg (view σ.mem t) h01.lt h01.cap
      refine .inr (.inr ⟨_, _, h01.trans h2, ?_, ?_⟩)
      · simp only [step, hc, hd, e0, e1]
      · simp only [astep, abs_getElem?, hc, hd, Option.map_some, v2, v1, v0, List.replicate_zero,
          List.nil_append]

theorem shape_sort (c : Nat) : Shape cfg sorted σ (.sort c) := by
  refine .of_cell hw rfl fun s hc _ _ hvl hc' => ?_
  by_cases hi : s.len = 0
  · exact .inl ⟨by simp only [step, hc, if_pos hi],
      by simp only [astep, hc', hvl, if_pos hi]⟩
  · obtain ⟨m', s', h1, h2, h3⟩ := alloc_pushAll cfg ⟨σ.mem, []⟩ (sorted (view σ.mem s)).length
      (sorted (view σ.mem s))
    simp only [List.length_nil, List.nil_append] at h1
    refine .inr (.inl ⟨c, s, m', s', hc, h2.of_fresh s.arr, ?_, ?_⟩)
    · simp only [step, hc, if_neg hi, h1, List.getElem?_cons_zero]
    · simp only [astep, hc', hvl, if_neg hi, h3]

theorem shape_reverse (c : Nat) : Shape cfg sorted σ (.reverse c) := by
  refine .of_cell hw rfl fun s hc ha hl _ hc' => ?_
  obtain ⟨h1, h2⟩ := reverse_upd ha hl
  refine .inr (.inl ⟨c, s, _, s, hc, h1, ?_, ?_⟩)
  · simp only [step, hc, set_eq_self hc]
  · simp only [astep, hc', h2]

theorem deleteLoop_spec (c : Nat) (is : List Nat) :
    (deleteLoop cfg c σ is).1.WF ∧
    ((deleteLoop cfg c σ is).1.abs, (deleteLoop cfg c σ is).2) = adeleteLoop c σ.abs is ∧
    ∀ k, (deleteLoop cfg c σ is).2 ≠ .made k := by
  induction is generalizing σ with
  | nil => exact ⟨hw, rfl, fun k h => by cases h⟩
  | cons i rest ih =>
    cases hc : σ.cells[c]? with
    | none =>
      simp only [deleteLoop, adeleteLoop, abs_getElem?, hc, Option.map_none]
      exact ⟨hw, trivial, fun k h => by cases h⟩
    | some s =>
      obtain ⟨ha, hl⟩ := hw.of_mem hc
      have hvl := view_length hl
      by_cases hi : i < s.len
      · obtain ⟨m', s', h1, h2, h3⟩ := deleteAt_upd cfg hw hc hi
        obtain ⟨k1, k2⟩ := wf_set hw hc h2
        simp only [deleteLoop, adeleteLoop, abs_getElem?, hc, Option.map_some, hvl, if_pos hi, h1]
        rw [← h3, ← k2]
        exact ih k1
      · simp only [deleteLoop, adeleteLoop, abs_getElem?, hc, Option.map_some, hvl, if_neg hi]
        exact ⟨hw, trivial, fun k h => by cases h⟩

end ops

end Anytype.Slices
