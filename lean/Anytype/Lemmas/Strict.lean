/-
The strict RFC 8259 decoder (`Spec/Json.lean`): its string reader on `quoteBody`, its number reader stage by
stage (`number'`) with what each stage does when a suffix is appended, and on `itoa`.
-/
import Anytype.Lemmas.Strconv
namespace Anytype
namespace Strict

theorem stringBody_escChar (c : Char) (f : Nat) (t acc : Str) :
    stringBody (f + 1) (escChar c ++ t) acc false = stringBody f t (acc ++ [c]) false := by
  rcases escChar_cases c with ⟨rfl, e⟩ | ⟨rfl, e⟩ | ⟨rfl, e⟩ | ⟨rfl, e⟩ | ⟨rfl, e⟩ | ⟨rfl, e⟩ | ⟨rfl, e⟩ |
    ⟨h, e⟩ | ⟨h, h1, h2, e⟩ <;> rw [e]
  iterate 7 rfl
  · have : ¬ (0xD800 ≤ c.toNat ∧ c.toNat < 0xDC00) ∧ ¬ (0xDC00 ≤ c.toNat ∧ c.toNat < 0xE000) := by omega
    simp [stringBody, hex4_u00 c h, charOfNat_toNat, this]
  · simp [stringBody, h1, h2]
    omega

theorem stringBody_quoteBody : (s : Str) → ∀ (f : Nat) (acc rest : Str), s.length < f →
    stringBody f (quoteBody s ++ '"' :: rest) acc false = some (some (acc ++ s), rest)
  | _, 0, _, _, h => absurd h (Nat.not_lt_zero _)
  | [], f + 1, acc, rest, _ => by simp [quoteBody, stringBody]
  | c :: s, f + 1, acc, rest, h => by
    rw [quoteBody_cons, List.append_assoc, stringBody_escChar,
      stringBody_quoteBody s f _ _ (by simpa using h)]
    simp

/-- the text after a number does not continue the number -/
def NumStop (rest : Str) : Prop :=
  ∀ c t, rest = c :: t → F64.isDigit c = false ∧ c ≠ '.' ∧ c ≠ 'e' ∧ c ≠ 'E' ∧ c ≠ '+' ∧ c ≠ '-'

def signSplit (s : Str) : Bool × Str := match s with | '-' :: t => (true, t) | _ => (false, s)

def fracSplit (s2 : Str) : Str × Str × Bool :=
  match s2 with
  | '.' :: t => let (f, r) := takeDigits t; (f, r, true)
  | _ => ([], s2, false)

def expSplit (s3 : Str) : Option (Option Int × Str) :=
  match s3 with
  | c :: t =>
    if c == 'e' || c == 'E' then
      let (esign, t') : Int × Str := match t with | '+' :: u => (1, u) | '-' :: u => (-1, u) | _ => (1, t)
      let (ed, r) := takeDigits t'
      if ed.isEmpty then none
      else
        let sig := ed.dropWhile (· == '0')
        let ev := if sig.length > 6 then 1000000 else digitsVal sig
        some (some (esign * (ev : Int)), r)
    else some (none, s3)
  | [] => some (none, [])

def numFinal (neg : Bool) (ip fp : Str) (hasFrac : Bool) (ex : Option Int) (rest : Str) : Option (Option JVal × Str) :=
  let m := digitsVal (ip ++ fp)
  if !hasFrac && ex.isNone then
    let iv : Int := if neg then -(m : Int) else (m : Int)
    if -(2:Int)^63 ≤ iv ∧ iv < (2:Int)^63 then some (some (.int iv), rest)
    else
      match F64.roundRat neg m 1 with
      | some f => some (some (.float f), rest)
      | none => some (none, rest)
  else
    let e10 : Int := ex.getD 0 - (fp.length : Int)
    if m == 0 then some (some (.float (F64.withSign neg F64.posZero)), rest)
    else
      let nd : Int := F64.decLen m
      if e10 + nd > 400 then some (none, rest)
      else if e10 + nd < -400 then some (some (.float (F64.withSign neg F64.posZero)), rest)
      else
        let (n, d) := if e10 ≥ 0 then (m * 10 ^ e10.toNat, 1) else (m, 10 ^ (-e10).toNat)
        match F64.roundRat neg n d with
        | some f => some (some (.float f), rest)
        | none => some (none, rest)

/-- `Strict.number` with its `let`s as the named functions above, so that each stage has lemmas of its own;
`number_eq` is `rfl` -/
def number' (s : Str) : Option (Option JVal × Str) :=
  let p := signSplit s
  let q := takeDigits p.2
  match q.1 with
  | [] => none
  | d0 :: more =>
    if d0 == '0' && !more.isEmpty then none
    else
      let fr := fracSplit q.2
      if fr.2.2 && fr.1.isEmpty then none
      else
        match expSplit fr.2.1 with
        | none => none
        | some (ex, rest) => numFinal p.1 q.1 fr.1 fr.2.2 ex rest

theorem number_eq (s : Str) : number s = number' s := by
  rfl

def app (rest : Str) {α : Type} (p : α × Str) : α × Str := (p.1, p.2 ++ rest)

theorem signSplit_of_ne {c : Char} (h : c ≠ '-') (t : Str) : signSplit (c :: t) = (false, c :: t) := by
  unfold signSplit; split
  · rename_i h1; simp at h1; exact absurd h1.1 h
  · rfl

theorem signSplit_append (s rest : Str) (hs : s ≠ []) :
    signSplit (s ++ rest) = app rest (signSplit s) := by
  cases s with
  | nil => contradiction
  | cons c t =>
    by_cases h : c = '-'
    · subst h; rfl
    · rw [List.cons_append, signSplit_of_ne h, signSplit_of_ne h]; rfl

theorem takeDigits_append (s rest : Str) (hr : NumStop rest) :
    takeDigits (s ++ rest) = app rest (takeDigits s) := by
  induction s with
  | nil =>
    cases rest with
    | nil => rfl
    | cons c t => simp [takeDigits, (hr c t rfl).1, app]
  | cons c s ih =>
    simp only [List.cons_append, takeDigits]
    split
    · rw [ih]; rfl
    · rfl

theorem fracSplit_append (s rest : Str) (hr : NumStop rest) :
    fracSplit (s ++ rest) = ((fracSplit s).1, (fracSplit s).2.1 ++ rest, (fracSplit s).2.2) := by
  cases s with
  | nil =>
    cases rest with
    | nil => rfl
    | cons c t =>
      have := (hr c t rfl).2.1
      simp only [List.nil_append]
      unfold fracSplit
      split
      · rename_i h1; simp at h1; exact absurd h1.1 this
      · rfl
  | cons c t =>
    by_cases h : c = '.'
    · subst h
      simp only [List.cons_append, fracSplit, takeDigits_append t rest hr]
      rfl
    · have a : ∀ u, fracSplit (c :: u) = ([], c :: u, false) := by
        intro u
        unfold fracSplit; split
        · rename_i h1; simp at h1; exact absurd h1.1 h
        · rfl
      rw [List.cons_append, a, a]; rfl

def expSign (t : Str) : Int × Str := match t with | '+' :: u => (1, u) | '-' :: u => (-1, u) | _ => (1, t)

theorem expSign_append (t rest : Str) (hr : NumStop rest) : expSign (t ++ rest) = app rest (expSign t) := by
  cases t with
  | nil =>
    cases rest with
    | nil => rfl
    | cons c u =>
      have h := hr c u rfl
      simp only [List.nil_append]
      unfold expSign
      split
      · rename_i h1; simp at h1; exact absurd h1.1 h.2.2.2.2.1
      · rename_i h1; simp at h1; exact absurd h1.1 h.2.2.2.2.2
      · rfl
  | cons c u =>
    by_cases h1 : c = '+'
    · subst h1; rfl
    by_cases h2 : c = '-'
    · subst h2; rfl
    have a : ∀ w, expSign (c :: w) = (1, c :: w) := by
      intro w; unfold expSign; split
      · rename_i h; simp at h; exact absurd h.1 h1
      · rename_i h; simp at h; exact absurd h.1 h2
      · rfl
    rw [List.cons_append, a, a]; rfl

theorem expSplit_eq (c : Char) (t : Str) (h : (c == 'e' || c == 'E') = true) :
    expSplit (c :: t) =
      (let p := expSign t
       let q := takeDigits p.2
       if q.1.isEmpty then none
       else some (some (p.1 * ((if (q.1.dropWhile (· == '0')).length > 6 then 1000000 else digitsVal (q.1.dropWhile (· == '0')) : Nat) : Int)), q.2)) := by
  simp only [expSplit, h, if_true]
  rfl

theorem expSplit_append (s rest : Str) (hr : NumStop rest) :
    expSplit (s ++ rest) = (expSplit s).map (app rest) := by
  cases s with
  | nil =>
    cases rest with
    | nil => rfl
    | cons c t =>
      have h := hr c t rfl
      simp [expSplit, h, app]
  | cons c t =>
    by_cases h : (c == 'e' || c == 'E') = true
    · rw [List.cons_append, expSplit_eq _ _ h, expSplit_eq _ _ h]
      simp only [expSign_append t rest hr, app, takeDigits_append _ rest hr]
      split <;> simp [app]
    · simp [expSplit, h, app]

theorem numFinal_append (neg : Bool) (ip fp : Str) (hasFrac : Bool) (ex : Option Int) (r rest : Str) :
    numFinal neg ip fp hasFrac ex (r ++ rest) = (numFinal neg ip fp hasFrac ex r).map (app rest) := by
  -- every leaf is `some (_, rest)`: the map goes through the `if`s, which leaves the two matches on `roundRat`
  unfold numFinal
  simp only [apply_ite (Option.map (app rest)), Option.map_some, app]
  generalize F64.roundRat neg (digitsVal (ip ++ fp)) 1 = o1
  generalize F64.roundRat neg (Prod.fst _) _ = o2
  cases o1 <;> cases o2 <;> rfl

theorem number'_append (s rest : Str) (hs : s ≠ []) (hr : NumStop rest) :
    number' (s ++ rest) = (number' s).map (app rest) := by
  unfold number'
  simp only [signSplit_append s rest hs, app, takeDigits_append _ rest hr]
  split
  · rfl
  · split
    · rfl
    · simp only [fracSplit_append _ rest hr]
      split
      · rfl
      · rw [expSplit_append _ rest hr]
        cases expSplit (fracSplit (takeDigits (signSplit s).2).2).2.1 with
        | none => rfl
        | some p => 
          obtain ⟨ex, r⟩ := p
          simp only [Option.map_some, app, numFinal_append]

theorem number_append (s rest : Str) (v : Option JVal) (h : number s = some (v, [])) (hr : NumStop rest) :
    number (s ++ rest) = some (v, rest) := by
  have hs : s ≠ [] := by
    intro h0; subst h0
    have : number [] = none := by decide
    rw [this] at h; cases h
  rw [number_eq, number'_append s rest hs hr, ← number_eq, h]
  rfl

theorem takeDigits_all (s : Str) (h : ∀ c ∈ s, F64.isDigit c = true) : takeDigits s = (s, []) := by
  induction s with
  | nil => rfl
  | cons c s ih =>
    simp only [takeDigits, h c (by simp), if_true, ih (fun d hd => h d (by simp [hd]))]

theorem number_toDigits (neg : Bool) (n : Nat)
    (hr : InRange (if neg then -(n : Int) else (n : Int))) :
    number' ((if neg then ['-'] else []) ++ Nat.toDigits 10 n) =
      some (some (.int (if neg then -(n : Int) else (n : Int))), []) := by
  obtain ⟨d0, more, e, hd, hz⟩ := toDigits_shape n
  have hv := digitsVal_toDigits n
  rw [e] at hv ⊢
  have hs : signSplit ((if neg then ['-'] else []) ++ d0 :: more) = (neg, d0 :: more) := by
    cases neg
    · exact signSplit_of_ne (by rintro rfl; exact absurd (hd _ List.mem_cons_self) (by decide)) _
    · rfl
  have hz' : (d0 == '0' && !more.isEmpty) = false := by
    by_cases h : d0 = '0'
    · simp [hz h]
    · simp [h]
  unfold number'
  simp only [hs, takeDigits_all _ hd, hz']
  simp [fracSplit, expSplit, numFinal, hv]
  intro h1
  unfold InRange at hr
  cases neg <;> simp at hr h1 <;> omega

theorem number_itoa (i : Int) (h : InRange i) : number (itoa i) = some (some (.int i), []) := by
  obtain ⟨neg, n, e, hv⟩ := itoa_eq i
  rw [number_eq, e, number_toDigits neg n (hv ▸ h), hv]

end Strict
end Anytype
