/-
How `parseVal` normalises a Go value into one of the seven stored kinds (C12; C13 and C19 build
on it): kinds, the typed getters on a stored value, integer widths, rejection of unsupported
values, fresh nested cells (`Stored`). The float32 widening is in Lemmas/Float32.lean.
-/
import Anytype.Lemmas.HeapWF
import Anytype.Model.ObjectOps
import Anytype.Lemmas.Assoc
namespace Anytype
open Heap

/-- the kind a Go value is stored as (`none` = rejected at the top level) -/
def kindOfGo : GoVal → Option Kind
  | .nil => some .nil
  | .bool _ => some .bool
  | .intw _ _ => some .int
  | .f64 _ => some .float
  | .f32 _ => some .float
  | .str _ => some .string
  | .list _ => some .list
  | .obj _ => some .object
  | .slice _ _ => some .list
  | .map _ _ => some .object
  | .unsupported => none

/-- the six typed getters (there is none for nil) -/
def Kind.isGetter : Kind → Bool
  | .object | .list | .string | .bool | .int | .float => true
  | .nil | .undefined => false

theorem Val.kind_ne_undefined (x : Val) : x.kind ≠ .undefined := by cases x <;> nofun

/-- the type assertion of a typed getter, applied to what `Get` returned for the stored `x` -/
theorem assert_kind (h : Heap) (x : Val) (k : Kind) :
    (if (h.getVal x).kind == k then Out.ok (h.getVal x) else .panic .notKind) =
      if k = x.kind then .ok (h.getVal x) else .panic .notKind := by
  rw [getVal_kind]
  by_cases hk : k = x.kind
  · rw [if_pos hk, hk, if_pos (beq_self_eq_true _)]
  · rw [if_neg hk, if_neg (fun e => hk (eq_of_beq e).symm)]

/-- exactly the typed getter of the stored kind succeeds; on a stored nil none of the six does -/
theorem getters_exactly_kind {f : Kind → Out Val} {x y : Val}
    (hk : ∀ k, f k = if k = x.kind then .ok y else .panic .notKind) :
    (∀ k, k.isGetter = true → ((∃ v, f k = .ok v) ↔ k = x.kind)) ∧
    (x = .nil → ∀ k, k.isGetter = true → f k = .panic .notKind) := by
  refine ⟨fun k _ => ?_, fun hn k hg => ?_⟩
  · rw [hk k]
    by_cases e : k = x.kind
    · rw [if_pos e]; exact ⟨fun _ => e, fun _ => ⟨y, rfl⟩⟩
    · rw [if_neg e]; exact ⟨nofun, fun e' => absurd e' e⟩
  · rw [hk k, if_neg]
    rintro rfl
    rw [hn] at hg
    cases hg

namespace L

theorem get_stored (h : Heap) (a : Nat) (i : Int) (x : Val) (h0 : 0 ≤ i)
    (hx : (h.items a)[i.toNat]? = some x) : get h a i = .ok (h.getVal x) := by
  obtain ⟨hn, e⟩ := List.getElem?_eq_some_iff.1 hx
  rw [get_in h a i h0 hn, e]

theorem getK_stored (h : Heap) (a : Nat) (k : Kind) (i : Int) (x : Val) (h0 : 0 ≤ i)
    (hx : (h.items a)[i.toNat]? = some x) :
    getK h a k i = if k = x.kind then .ok (h.getVal x) else .panic .notKind := by
  rw [getK, get_stored h a i x h0 hx]
  exact assert_kind h x k

end L

namespace O

theorem get_stored (h : Heap) (a : Nat) (key : Str) (x : Val) (hx : lookup (h.fields a) key = some x) :
    get h a key = .ok (h.getVal x) := by
  rw [get, hx]

theorem getK_stored (h : Heap) (a : Nat) (k : Kind) (key : Str) (x : Val)
    (hx : lookup (h.fields a) key = some x) :
    getK h a k key = if k = x.kind then .ok (h.getVal x) else .panic .notKind := by
  rw [getK, get_stored h a key x hx]
  exact assert_kind h x k

end O

theorem wrap64_of_inRange (v : Int) (hv : InRange v) : wrap64 v = v := by
  unfold InRange at hv
  unfold wrap64
  simp only
  split <;> omega

/-- `int(uint64)` of a value beyond the `int` range is the two's-complement wrap -/
theorem wrap64_unsigned_big (v : Int) (h1 : (2:Int)^63 ≤ v) (h2 : v < (2:Int)^64) :
    wrap64 v = v - (2:Int)^64 := by
  unfold wrap64
  rw [Int.emod_eq_of_lt (Int.le_trans (by decide) h1) h2]
  exact if_neg (Int.not_lt.2 h1)

/-! ### rejection: exactly the values containing a value of an unsupported Go type panic -/

mutual
def hasUnsupported : GoVal → Bool
  | .unsupported => true
  | .slice _ xs => hasUnsupportedList xs
  | .map _ kvs => hasUnsupportedFields kvs
  | _ => false
def hasUnsupportedList : List GoVal → Bool
  | [] => false
  | g :: gs => hasUnsupported g || hasUnsupportedList gs
def hasUnsupportedFields : List (Str × GoVal) → Bool
  | [] => false
  | (_, g) :: kvs => hasUnsupported g || hasUnsupportedFields kvs
end

/-- the outcome `o` of a conversion is a panic exactly if `b`, and then the "unsupported type"
panic -/
def Out.Rejects {α : Type} (o : Out α) (b : Bool) : Prop :=
  match o with
  | .ok _ => b = false
  | .panic k => b = true ∧ k = .unsupported

theorem Out.Rejects.of_true {α : Type} {o : Out α} (r : o.Rejects true) : o = .panic .unsupported := by
  cases o with
  | ok _ => cases r
  | panic k => rw [r.2]

theorem Out.Rejects.of_false {α : Type} {o : Out α} (r : o.Rejects false) : ∃ v, o = .ok v := by
  cases o with
  | ok v => exact ⟨v, rfl⟩
  | panic k => cases r.1

theorem Out.Rejects.iff {α : Type} {o : Out α} {b : Bool} (r : o.Rejects b) :
    (o.isPanic = true ↔ b = true) ∧ ∀ k, o = .panic k → k = .unsupported := by
  cases o with
  | ok v => exact ⟨by rw [show b = false from r]; exact Iff.rfl, nofun⟩
  | panic k => exact ⟨by rw [r.1]; exact Iff.rfl, fun _ e => by cases e; exact r.2⟩

/-- the first unsupported value met ends the conversion, and nothing else does -/
theorem parseVal_rejects :
    (∀ g h, (parseVal h g).2.Rejects (hasUnsupported g)) ∧
    (∀ gs h a, (addEach h a gs).2.Rejects (hasUnsupportedList gs)) ∧
    (∀ kvs h a, (setEach h a kvs).2.Rejects (hasUnsupportedFields kvs)) := by
  refine GoVal.nested_induction ?_ ?_ ?_ ?_ ?_ ?_ ?_ ?_
  · intro g hs h
    rw [parseVal_scalar h hs]
    cases g <;> first | rfl | cases hs
  · exact fun h => ⟨rfl, rfl⟩
  · intro fl xs ih h
    have := ih (h ++ [.list [] 0]) h.length
    rw [parseVal, hasUnsupported]
    split <;> next hq => rw [hq] at this; exact this
  · intro fl kvs ih h
    have := ih (h ++ [.obj [] 0]) h.length
    rw [parseVal, hasUnsupported]
    split <;> next hq => rw [hq] at this; exact this
  · exact fun h a => rfl
  · intro g gs ihg ihgs h a
    have := ihg h
    rw [addEach, hasUnsupportedList]
    split
    · next hq => rw [hq] at this; exact ⟨by rw [this.1]; rfl, this.2⟩
    · next hq =>
      rw [hq] at this
      rw [show hasUnsupported g = false from this]
      exact ihgs _ a
  · exact fun h a => rfl
  · intro k g kvs ihg ihkvs h a
    have := ihg h
    rw [setEach, hasUnsupportedFields]
    split
    · next hq => rw [hq] at this; exact ⟨by rw [this.1]; rfl, this.2⟩
    · next hq =>
      rw [hq] at this
      rw [show hasUnsupported g = false from this]
      exact ihkvs _ a

theorem parseVal_rejected (h : Heap) (g : GoVal) : (parseVal h g).2.Rejects (hasUnsupported g) :=
  parseVal_rejects.1 g h

theorem setEach_ok_of_supported : ∀ (h : Heap) (a : Nat) (kvs : List (Str × GoVal)),
    hasUnsupportedFields kvs = false → (setEach h a kvs).2 = .ok () :=
  fun h a kvs hs => (hs ▸ parseVal_rejects.2.2 kvs h a).of_false.choose_spec

theorem addEach_panic_of_unsupported : ∀ (h : Heap) (a : Nat) (gs : List GoVal), hasUnsupportedList gs = true →
    (addEach h a gs).2 = .panic .unsupported :=
  fun h a gs hs => (hs ▸ parseVal_rejects.2.1 gs h a).of_true

theorem setEach_panic_of_unsupported : ∀ (h : Heap) (a : Nat) (kvs : List (Str × GoVal)),
    hasUnsupportedFields kvs = true → (setEach h a kvs).2 = .panic .unsupported :=
  fun h a kvs hs => (hs ▸ parseVal_rejects.2.2 kvs h a).of_true

theorem parseVal_reject (h : Heap) {g : GoVal} (hs : hasUnsupported g = true) :
    ∃ h1, parseVal h g = (h1, .panic .unsupported) ∧ Ext0 h h1 :=
  ⟨_, Prod.ext rfl (hs ▸ parseVal_rejected h g).of_true, parseVal_ext0 h g⟩

/-! ### nested maps and slices become fresh cells with recursively normalised content -/

/-- `m[k] = v` for each pair, in order, starting from `pre` -/
def setAll (pre ps : List (Str × Val)) : List (Str × Val) :=
  ps.foldl (fun acc p => setKV acc p.1 p.2) pre

theorem setAll_cons (pre : List (Str × Val)) (k : Str) (v : Val) (ps : List (Str × Val)) :
    setAll pre ((k, v) :: ps) = setAll (setKV pre k v) ps := rfl

/-- a Go map has distinct keys: then the fields are the pairs themselves, in iteration order -/
theorem setAll_nodup (pre ps : List (Str × Val)) (hn : ((pre ++ ps).map Prod.fst).Nodup) :
    setAll pre ps = pre ++ ps := by
  induction ps generalizing pre with
  | nil => exact (List.append_nil pre).symm
  | cons p ps ih =>
    obtain ⟨k, v⟩ := p
    have hk : k ∉ pre.map Prod.fst := fun hm => by
      rw [List.map_append] at hn
      exact (List.nodup_append.1 hn).2.2 k hm k List.mem_cons_self rfl
    rw [setAll_cons, setKV_of_not_mem pre k v hk, ih _ (by rwa [List.append_assoc]), List.append_assoc]
    rfl

mutual
/-- `Stored h lo g v`: in heap `h` the value `v` is the normal form of the Go value `g`, every cell
created for a nested map / slice has an address `≥ lo`, is of the right kind with ego level 0 (a
plain `*list` / `*object`), and holds the normal forms of the elements, in order -/
def Stored (h : Heap) (lo : Nat) : GoVal → Val → Prop
  | .nil, v => v = .nil
  | .bool b, v => v = .bool b
  | .intw _ i, v => v = .int (wrap64 i)
  | .f64 f, v => v = .float f
  | .f32 b, v => v = .float (f32to64 b)
  | .str s, v => v = .str s
  | .list r, v => v = .list r
  | .obj r, v => v = .obj r
  | .slice _ xs, v => ∃ b, v = .list ⟨b, 0⟩ ∧ lo ≤ b ∧ h.isList b = true ∧ h.ego b = 0 ∧
      StoredList h lo xs (h.items b)
  | .map _ kvs, v => ∃ b ps, v = .obj ⟨b, 0⟩ ∧ lo ≤ b ∧ h.isObj b = true ∧ h.ego b = 0 ∧
      StoredFields h lo kvs ps ∧ h.fields b = setAll [] ps
  | .unsupported, _ => False
def StoredList (h : Heap) (lo : Nat) : List GoVal → List Val → Prop
  | [], vs => vs = []
  | g :: gs, vs => ∃ v vs', vs = v :: vs' ∧ Stored h lo g v ∧ StoredList h lo gs vs'
def StoredFields (h : Heap) (lo : Nat) : List (Str × GoVal) → List (Str × Val) → Prop
  | [], ps => ps = []
  | (k, g) :: kvs, ps => ∃ v ps', ps = (k, v) :: ps' ∧ Stored h lo g v ∧ StoredFields h lo kvs ps'
end

theorem Stored.scalar {h : Heap} {lo : Nat} {g : GoVal} {v : Val} (hs : g.isScalar = true) :
    Stored h lo g v ↔ v = scalarVal g := by
  cases g <;> first | exact Iff.rfl | cases hs

/-- `Stored` only looks at cells `≥ lo`: it survives every heap change that leaves those cells alone,
and lowering the bound -/
theorem Stored.weaken {h h' : Heap} {lo lo' : Nat} (hle : lo' ≤ lo)
    (hh : ∀ b, lo ≤ b → b < h.length → h'[b]? = h[b]?) :
    (∀ g v, Stored h lo g v → Stored h' lo' g v) ∧
    (∀ gs vs, StoredList h lo gs vs → StoredList h' lo' gs vs) ∧
    (∀ kvs ps, StoredFields h lo kvs ps → StoredFields h' lo' kvs ps) := by
  refine GoVal.nested_induction ?_ ?_ ?_ ?_ ?_ ?_ ?_ ?_
  · exact fun g hs v hst => (Stored.scalar hs).2 ((Stored.scalar hs).1 hst)
  · exact fun v hst => hst
  · intro fl xs ih v hst
    simp only [Stored] at hst ⊢
    obtain ⟨b, hv, hlo, hl, he, hx⟩ := hst
    have e := hh b hlo (isList_lt hl)
    exact ⟨b, hv, Nat.le_trans hle hlo, (isList_congr e).trans hl, (ego_congr e).trans he,
      items_congr e ▸ ih _ hx⟩
  · intro fl kvs ih v hst
    simp only [Stored] at hst ⊢
    obtain ⟨b, ps, hv, hlo, hl, he, hx, hf⟩ := hst
    have e := hh b hlo (isObj_lt hl)
    exact ⟨b, ps, hv, Nat.le_trans hle hlo, (isObj_congr e).trans hl, (ego_congr e).trans he,
      ih _ hx, (fields_congr e).trans hf⟩
  · exact fun vs hst => hst
  · intro g gs ihg ihgs vs hst
    simp only [StoredList] at hst ⊢
    obtain ⟨v, vs', e, h1, h2⟩ := hst
    exact ⟨v, vs', e, ihg v h1, ihgs vs' h2⟩
  · exact fun ps hst => hst
  · intro k g kvs ihg ihkvs ps hst
    simp only [StoredFields] at hst ⊢
    obtain ⟨v, ps', e, h1, h2⟩ := hst
    exact ⟨v, ps', e, ihg v h1, ihkvs ps' h2⟩

/-- In the loops the value just converted lives in cells `[h.length, h1.length)`; the rest of the
loop only writes to the receiver `a`, an older cell, and to newer cells, so `Stored.weaken` carries
its normal form to the end. -/
theorem parseVal_stored_all :
    (∀ g h h' v, parseVal h g = (h', .ok v) → Stored h' h.length g v) ∧
    (∀ gs h a h' u, h.isList a = true → addEach h a gs = (h', .ok u) →
      ∃ vs, h'.items a = h.items a ++ vs ∧ StoredList h' h.length gs vs) ∧
    (∀ kvs h a h' u, h.isObj a = true → setEach h a kvs = (h', .ok u) →
      ∃ ps, h'.fields a = setAll (h.fields a) ps ∧ StoredFields h' h.length kvs ps) := by
  refine GoVal.nested_induction ?_ ?_ ?_ ?_ ?_ ?_ ?_ ?_
  · intro g hs h h' v hp
    rw [parseVal_scalar h hs] at hp
    cases hp
    exact (Stored.scalar hs).2 rfl
  · exact fun h h' v hp => nomatch hp
  · intro fl xs ih h h' v hp
    obtain ⟨rfl, hq⟩ := parseVal_slice_inv hp
    obtain ⟨vs, hvs, hst⟩ := ih _ _ _ _ (isList_append_new h [] 0) hq
    have e := addEach_ext (h ++ [.list [] 0]) h.length xs
    rw [hq] at e
    have hlt := length_lt_append h (.list [] 0)
    simp only [Stored]
    refine ⟨h.length, rfl, Nat.le_refl _, (e.isList hlt).trans (isList_append_new h [] 0),
      (e.ego hlt).trans (ego_append_new_list h [] 0), ?_⟩
    rw [hvs, items_append_new, List.nil_append]
    exact (Stored.weaken (Nat.le_of_lt hlt) fun _ _ _ => rfl).2.1 xs vs hst
  · intro fl kvs ih h h' v hp
    obtain ⟨rfl, hq⟩ := parseVal_map_inv hp
    obtain ⟨ps, hps, hst⟩ := ih _ _ _ _ (isObj_append_new h [] 0) hq
    have e := setEach_ext (h ++ [.obj [] 0]) h.length kvs
    rw [hq] at e
    have hlt := length_lt_append h (.obj [] 0)
    simp only [Stored]
    exact ⟨h.length, ps, rfl, Nat.le_refl _, (e.isObj hlt).trans (isObj_append_new h [] 0),
      (e.ego hlt).trans (ego_append_new_obj h [] 0),
      (Stored.weaken (Nat.le_of_lt hlt) fun _ _ _ => rfl).2.2 kvs ps hst, by rw [hps, fields_append_new]⟩
  · intro h a h' u _ hp
    cases hp
    exact ⟨[], (List.append_nil _).symm, rfl⟩
  · intro g gs ihg ihgs h a h' u hl hp
    rw [addEach] at hp
    split at hp
    · cases hp
    · next h1 v hq =>
      have e0 := parseVal_ext0 h g
      rw [hq] at e0
      have hlt : a < h.length := isList_lt hl
      have hl1 : h1.isList a = true := (e0.isList hlt).trans hl
      obtain ⟨vs, hvs, hst⟩ := ihgs _ a h' u ((isList_setItems h1 a a _).trans hl1) hp
      have e2 := (Ext.setItems h1 a (h1.items a ++ [v])).trans (addEach_ext _ a gs)
      rw [hp] at e2
      refine ⟨v :: vs, ?_, ?_⟩
      · rw [hvs, items_setItems_same _ hl1, e0.items hlt, List.append_assoc]; rfl
      · simp only [StoredList]
        exact ⟨v, vs, rfl,
          (Stored.weaken (Nat.le_refl _) fun b hb1 hb =>
            e2.other b hb (Nat.ne_of_gt (Nat.lt_of_lt_of_le hlt hb1))).1 g v (ihg h h1 v hq),
          (Stored.weaken (by rw [length_setItems]; exact e0.len) fun _ _ _ => rfl).2.1 gs vs hst⟩
  · intro h a h' u _ hp
    cases hp
    exact ⟨[], rfl, rfl⟩
  · intro k g kvs ihg ihkvs h a h' u hl hp
    rw [setEach] at hp
    split at hp
    · cases hp
    · next h1 v hq =>
      have e0 := parseVal_ext0 h g
      rw [hq] at e0
      have hlt : a < h.length := isObj_lt hl
      have hl1 : h1.isObj a = true := (e0.isObj hlt).trans hl
      obtain ⟨ps, hps, hst⟩ := ihkvs _ a h' u ((isObj_setFields h1 a a _).trans hl1) hp
      have e2 := (Ext.setFields h1 a (setKV (h1.fields a) k v)).trans (setEach_ext _ a kvs)
      rw [hp] at e2
      refine ⟨(k, v) :: ps, ?_, ?_⟩
      · rw [hps, fields_setFields_same _ hl1, e0.fields hlt, setAll_cons]
      · simp only [StoredFields]
        exact ⟨v, ps, rfl,
          (Stored.weaken (Nat.le_refl _) fun b hb1 hb =>
            e2.other b hb (Nat.ne_of_gt (Nat.lt_of_lt_of_le hlt hb1))).1 g v (ihg h h1 v hq),
          (Stored.weaken (by rw [length_setFields]; exact e0.len) fun _ _ _ => rfl).2.2 kvs ps hst⟩

theorem parseVal_stored (h : Heap) (g : GoVal) (h' : Heap) (v : Val) :
    parseVal h g = (h', .ok v) → Stored h' h.length g v :=
  parseVal_stored_all.1 g h h' v

theorem addEach_stored : ∀ (h : Heap) (a : Nat) (gs : List GoVal) (h' : Heap) (u : Unit),
    h.isList a = true → addEach h a gs = (h', .ok u) →
    ∃ vs, h'.items a = h.items a ++ vs ∧ StoredList h' h.length gs vs :=
  fun h a gs => parseVal_stored_all.2.1 gs h a

theorem setEach_stored : ∀ (h : Heap) (a : Nat) (kvs : List (Str × GoVal)) (h' : Heap) (u : Unit),
    h.isObj a = true → setEach h a kvs = (h', .ok u) →
    ∃ ps, h'.fields a = setAll (h.fields a) ps ∧ StoredFields h' h.length kvs ps :=
  fun h a kvs => parseVal_stored_all.2.2 kvs h a

end Anytype
