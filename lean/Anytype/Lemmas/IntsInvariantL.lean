/-
The hypothesis `IntsOK h a` of `Lemmas/ListGen2Eq` ("the ints stored in the list cell `a` are in the
int64 range") as an invariant of the whole heap: `AllIntsOK h`, every int in any list cell and any
object field is `InRange`.  No operation needs a precondition on its `GoVal` arguments or callbacks,
because whatever is stored goes through `parseVal`, which wraps every integer with `wrap64`; so the
conditional equalities of `ListGen2Eq` (`Filter`, `FilterInts`) hold on every heap the List API builds.
The object side, clone, the tree-form writes and the parser are in `Lemmas/IntsInvariantO`.
-/
import Anytype.Lemmas.ListGen2Eq
import Anytype.Lemmas.HeapWF
namespace Anytype
open Heap L2Eq

/-- on a heap: the items of every list cell and the field values of every object cell -/
def AllIntsOK (h : Heap) : Prop :=
  ∀ a, (∀ v ∈ h.items a, IntOK v) ∧ (∀ kv ∈ h.fields a, IntOK kv.2)

/-- the hypothesis of `filterGen_eq` / `filterIntsGen_eq`, for every receiver -/
theorem AllIntsOK.intsOK {h : Heap} (ok : AllIntsOK h) (a : Nat) : IntsOK h a := (ok a).1

theorem AllIntsOK.heapIntsOK {h : Heap} (ok : AllIntsOK h) : HeapIntsOK h := fun a => (ok a).1

/-- on one cell: its items, or its field values -/
def Cell.intsOK : Cell → Prop
  | .list xs _ => ∀ v ∈ xs, IntOK v
  | .obj kvs _ => ∀ kv ∈ kvs, IntOK kv.2

theorem Cell.intsOK_iff {h : Heap} {a : Nat} {c : Cell} (e : h[a]? = some c) :
    c.intsOK ↔ (∀ v ∈ h.items a, IntOK v) ∧ (∀ kv ∈ h.fields a, IntOK kv.2) := by
  cases c <;> simp [Cell.intsOK, items, fields, e]

theorem allIntsOK_iff_cells (h : Heap) : AllIntsOK h ↔ ∀ c ∈ h, c.intsOK := by
  constructor
  · intro ok c hc
    obtain ⟨a, e⟩ := List.mem_iff_getElem?.1 hc
    exact (Cell.intsOK_iff e).2 (ok a)
  · intro hc a
    cases e : h[a]? with
    | none => simp [items, fields, e]
    | some c => exact (Cell.intsOK_iff e).1 (hc c (List.mem_of_getElem? e))

theorem intOK_int_iff (i : Int) : IntOK (.int i) ↔ InRange i := Iff.rfl

theorem intOK_of_kind {v : Val} (hk : v.kind ≠ .int) : IntOK v := by
  cases v <;> simp_all [IntOK, Val.kind]

theorem allIntsOK_nil : AllIntsOK [] := by
  intro a; simp [items, fields]

/-- the shape every primitive has: the cells are old cells, or cells in range -/
theorem AllIntsOK.of_cells {h H : Heap} (ok : AllIntsOK h) (hc : ∀ c ∈ H, c ∈ h ∨ c.intsOK) :
    AllIntsOK H :=
  (allIntsOK_iff_cells H).2 fun c hm => (hc c hm).elim ((allIntsOK_iff_cells h).1 ok c) id

theorem AllIntsOK.append {h : Heap} (ok : AllIntsOK h) {c : Cell} (hx : c.intsOK) :
    AllIntsOK (h ++ [c]) :=
  ok.of_cells fun c' hm =>
    (List.mem_append.1 hm).imp id fun hm => by rw [List.mem_singleton.1 hm]; exact hx

theorem AllIntsOK.set {h : Heap} (ok : AllIntsOK h) (a : Nat) {c : Cell} (hx : c.intsOK) :
    AllIntsOK (h.set a c) :=
  ok.of_cells fun c' hm => (List.mem_or_eq_of_mem_set hm).imp id fun e => by rw [e]; exact hx

theorem AllIntsOK.setItems {h : Heap} (ok : AllIntsOK h) (a : Nat) (xs : List Val)
    (hx : ∀ v ∈ xs, IntOK v) : AllIntsOK (h.setItems a xs) := by
  unfold Heap.setItems
  split
  · exact ok.set a hx
  · exact ok

theorem AllIntsOK.setItems_sub {h : Heap} (ok : AllIntsOK h) (a : Nat) (xs : List Val)
    (hx : ∀ v ∈ xs, v ∈ h.items a) : AllIntsOK (h.setItems a xs) :=
  ok.setItems a xs (fun v hv => (ok a).1 v (hx v hv))

theorem AllIntsOK.setFields {h : Heap} (ok : AllIntsOK h) (a : Nat) (kvs : List (Str × Val))
    (hx : ∀ kv ∈ kvs, IntOK kv.2) : AllIntsOK (h.setFields a kvs) := by
  unfold Heap.setFields
  split
  · exact ok.set a hx
  · exact ok

theorem AllIntsOK.alloc_list {h : Heap} (ok : AllIntsOK h) : AllIntsOK (h ++ [.list [] 0]) :=
  ok.append (c := .list [] 0) (fun _ hv => nomatch hv)

theorem AllIntsOK.alloc_obj {h : Heap} (ok : AllIntsOK h) : AllIntsOK (h ++ [.obj [] 0]) :=
  ok.append (c := .obj [] 0) (fun _ hv => nomatch hv)

theorem intOK_setKV {kvs : List (Str × Val)} {k : Str} {v : Val}
    (hk : ∀ kv ∈ kvs, IntOK kv.2) (hv : IntOK v) : ∀ kv ∈ setKV kvs k v, IntOK kv.2 := by
  intro kv hm
  rcases mem_setKV hm with e | hm
  · rw [e]; exact hv
  · exact hk kv hm

theorem AllIntsOK.setKV {h : Heap} (ok : AllIntsOK h) (a : Nat) (k : Str) {v : Val} (hv : IntOK v) :
    AllIntsOK (h.setFields a (setKV (h.fields a) k v)) :=
  ok.setFields a _ (intOK_setKV (ok a).2 hv)

/-! The operations are cascades of `if`s and of matches on the result of `parseVal` or of a loop.
The next lemmas take the invariant through these nodes, so that an operation is proved by one pass
over its definition.  (Their matches have to be on the very types the model matches on: Lean
identifies two matchers only if they are the same definition.) -/

theorem AllIntsOK.ite {α : Type} {c : Prop} [Decidable c] {p q : Heap × α} (hp : AllIntsOK p.1)
    (hq : AllIntsOK q.1) : AllIntsOK (if c then p else q).1 := by split <;> assumption

theorem AllIntsOK.bind {β : Type} {p : Heap × Out Val}
    (hp : AllIntsOK p.1 ∧ ∀ v, p.2 = .ok v → IntOK v) {k : Heap → Val → Heap × Out β}
    (hk : ∀ h1 v, AllIntsOK h1 → IntOK v → AllIntsOK (k h1 v).1) :
    AllIntsOK (match (generalizing := false) p with
      | (h1, .panic e) => ((h1, .panic e) : Heap × Out β)
      | (h1, .ok v) => k h1 v).1 := by
  rcases p with ⟨h1, v | e⟩
  · exact hk h1 v hp.1 (hp.2 v rfl)
  · exact hp.1

theorem AllIntsOK.andThen {β : Type} {p : Heap × Out Unit} (hp : AllIntsOK p.1)
    {k : Heap → Heap × Out β} (hk : ∀ h1, AllIntsOK h1 → AllIntsOK (k h1).1) :
    AllIntsOK (match (generalizing := false) p with
      | (h1, .panic e) => ((h1, .panic e) : Heap × Out β)
      | (h1, .ok _) => k h1).1 := by
  rcases p with ⟨h1, _ | e⟩
  · exact hk h1 hp
  · exact hp

theorem AllIntsOK.step {β : Type} {p : Heap × Out Nat} (hp : AllIntsOK p.1)
    {k : Heap → Nat → Heap × Out β} (hk : ∀ h1 c, AllIntsOK h1 → AllIntsOK (k h1 c).1) :
    AllIntsOK (match (generalizing := false) p with
      | (h1, .panic e) => ((h1, .panic e) : Heap × Out β)
      | (h1, .ok c) => k h1 c).1 := by
  rcases p with ⟨h1, c | e⟩
  · exact hk h1 c hp
  · exact hp

theorem AllIntsOK.wrap {β : Type} {p : Heap × Out Unit} (hp : AllIntsOK p.1) (f : Heap → β) :
    AllIntsOK (match (generalizing := false) p with
      | (h1, .ok _) => (h1, Out.ok (f h1))
      | (h1, .panic e) => (h1, .panic e)).1 := by
  rcases p with ⟨h1, _ | e⟩ <;> exact hp

theorem AllIntsOK.wrapRef {β : Type} {p : Heap × Out Ref} (hp : AllIntsOK p.1) (f : Heap → β) :
    AllIntsOK (match (generalizing := false) p with
      | (h1, .ok _) => (h1, Out.ok (f h1))
      | (h1, .panic e) => (h1, .panic e)).1 := by
  rcases p with ⟨h1, _ | e⟩ <;> exact hp

theorem AllIntsOK.getVal_item {h : Heap} (ok : AllIntsOK h) {a : Nat} {v : Val} (hv : v ∈ h.items a) :
    IntOK (h.getVal v) := intOK_getVal h ((ok a).1 v hv)

theorem AllIntsOK.getVal_field {h : Heap} (ok : AllIntsOK h) {a : Nat} {kv : Str × Val} (hv : kv ∈ h.fields a) :
    IntOK (h.getVal kv.2) := intOK_getVal h ((ok a).2 kv hv)

theorem allIntsOK_pure {h : Heap} (ok : AllIntsOK h) {w : Val} (hw : IntOK w) :
    AllIntsOK (h, Out.ok w).1 ∧ ∀ v, (h, Out.ok w).2 = .ok v → IntOK v :=
  ⟨ok, fun v e => by cases e; exact hw⟩

mutual
theorem parseVal_allIntsOK : ∀ (h : Heap) (g : GoVal), AllIntsOK h →
    AllIntsOK (parseVal h g).1 ∧ ∀ v, (parseVal h g).2 = .ok v → IntOK v
  | h, .nil, ok => allIntsOK_pure ok trivial
  | h, .bool _, ok => allIntsOK_pure ok trivial
  | h, .intw _ i, ok => allIntsOK_pure ok (wrap64_inRange' i)
  | h, .f64 _, ok => allIntsOK_pure ok trivial
  | h, .f32 _, ok => allIntsOK_pure ok trivial
  | h, .str _, ok => allIntsOK_pure ok trivial
  | h, .list _, ok => allIntsOK_pure ok trivial
  | h, .obj _, ok => allIntsOK_pure ok trivial
  | h, .unsupported, ok => ⟨ok, fun v e => nomatch e⟩
  | h, .slice _ xs, ok => by
    have ih := addEach_allIntsOK _ h.length xs ok.alloc_list
    simp only [parseVal]
    refine ⟨ih.wrap _, fun v e => ?_⟩
    split at e <;> cases e; trivial
  | h, .map _ kvs, ok => by
    have ih := setEach_allIntsOK _ h.length kvs ok.alloc_obj
    simp only [parseVal]
    refine ⟨ih.wrap _, fun v e => ?_⟩
    split at e <;> cases e; trivial
theorem addEach_allIntsOK : ∀ (h : Heap) (a : Nat) (gs : List GoVal), AllIntsOK h → AllIntsOK (addEach h a gs).1
  | h, a, [], ok => by simp only [addEach]; exact ok
  | h, a, g :: gs, ok => by
    simp only [addEach]
    refine .bind (parseVal_allIntsOK h g ok) fun h1 v ok1 hv =>
      addEach_allIntsOK _ a gs (ok1.setItems a _ fun w hw => ?_)
    rcases List.mem_append.1 hw with hw | hw
    · exact (ok1 a).1 w hw
    · rw [List.mem_singleton.1 hw]; exact hv
theorem setEach_allIntsOK : ∀ (h : Heap) (a : Nat) (kvs : List (Str × GoVal)), AllIntsOK h →
    AllIntsOK (setEach h a kvs).1
  | h, a, [], ok => by simp only [setEach]; exact ok
  | h, a, (k, g) :: kvs, ok => by
    simp only [setEach]
    exact .bind (parseVal_allIntsOK h g ok) fun h1 v ok1 hv => setEach_allIntsOK _ a kvs (ok1.setKV a k hv)
end

/-- `parseVal` with its result named -/
theorem parseVal_allIntsOK' {h h1 : Heap} {g : GoVal} {r : Out Val} (ok : AllIntsOK h)
    (hp : parseVal h g = (h1, r)) : AllIntsOK h1 ∧ ∀ v, r = .ok v → IntOK v := by
  have := parseVal_allIntsOK h g ok
  rw [hp] at this; exact this

/-! ### every List operation of the alphabet `LOp` (`Lemmas/HeapWF`) keeps the invariant: no
precondition on the arguments at all -/

theorem stepL_allIntsOK (h : Heap) (op : LOp) (ok : AllIntsOK h) : AllIntsOK (stepL h op) := by
  have add (h : Heap) (a : Nat) (gs : List GoVal) (ok : AllIntsOK h) : AllIntsOK (L.add h a gs).1 := by
    unfold L.add
    exact (addEach_allIntsOK h a gs ok).wrap _
  have delete (a : Nat) : ∀ (ds : List Int) (h : Heap), AllIntsOK h → AllIntsOK (L.deleteLoop h a ds).1 := by
    intro ds
    induction ds with
    | nil => exact fun _ ok => ok
    | cons d ds ih =>
      intro h ok
      unfold L.deleteLoop
      refine .ite ok (ih _ (ok.setItems_sub a _ fun w hw => ?_))
      rcases List.mem_append.1 hw with hw | hw
      · exact List.mem_of_mem_take hw
      · exact List.mem_of_mem_drop hw
  cases op <;> simp only [stepL]
  case new gs =>
    unfold L.new
    exact (addEach_allIntsOK _ h.length gs ok.alloc_list).wrap _
  case newOf g c =>
    unfold L.newOf
    refine .ite ok (.bind (parseVal_allIntsOK _ g ok.alloc_list) fun h1 v ok1 hv =>
      ok1.setItems _ _ fun w hw => ?_)
    rw [(List.mem_replicate.1 hw).2]; exact hv
  case newFrom g =>
    rcases L.newFrom_fst h g with e | e <;> rw [e]
    · exact ok
    · exact (parseVal_allIntsOK h g ok).1
  case add a gs => exact add h a gs ok
  case insert a i g =>
    unfold L.insert
    refine .ite ok (.ite (add h a [g] ok) (.bind (parseVal_allIntsOK h g ok) fun h1 v ok1 hv =>
      ok1.setItems a _ fun w hw => ?_))
    rcases List.mem_or_eq_of_mem_set hw with hw | hw
    · rcases List.mem_append.1 hw with hw | hw
      · exact (ok1 a).1 w (List.mem_of_mem_take hw)
      · exact (ok1 a).1 w (List.mem_of_mem_drop hw)
    · rw [hw]; exact hv
  case replace a i g =>
    unfold L.replace
    refine .ite ok (.bind (parseVal_allIntsOK h g ok) fun h1 v ok1 hv => ok1.setItems a _ fun w hw => ?_)
    rcases List.mem_or_eq_of_mem_set hw with hw | hw
    · exact (ok1 a).1 w hw
    · rw [hw]; exact hv
  case delete a idx =>
    unfold L.delete
    exact (delete a _ h ok).wrap _
  case pop a =>
    unfold L.pop L.delete
    exact (delete a _ h ok).wrap _
  case clear a => exact ok.setItems a [] (by simp)
  case reverse a =>
    rw [L.reverse_eq]
    exact ok.setItems_sub a _ (fun w hw => List.mem_reverse.1 hw)
  case sort a =>
    -- the ints `Sort` writes back are the ints it extracted
    unfold L.sort
    simp only
    split
    · exact ok
    · exact ok.setItems a _ (fun w hw => by
        obtain ⟨s, _, rfl⟩ := List.mem_map.1 hw; trivial)
    · next i rest hx =>
      refine ok.setItems a _ (fun w hw => ?_)
      obtain ⟨s, hs, rfl⟩ := List.mem_map.1 hw
      have hs' := (List.mem_mergeSort).1 hs
      obtain ⟨x, hx', hxs⟩ := List.mem_filterMap.1 hs'
      cases x <;> simp only [L.asInt, reduceCtorEq, Option.some.injEq] at hxs
      subst hxs
      exact (ok a).1 _ hx'
    · exact ok.setItems a _ (fun w hw => by
        obtain ⟨s, _, rfl⟩ := List.mem_map.1 hw; trivial)
    · exact ok
  case subList a s e =>
    rw [L.subList_cases h a s e]
    exact .ite ok (.ite ok (.ite ok (ok.append fun w hw =>
      (ok a).1 w (List.mem_of_mem_drop (List.mem_of_mem_take hw)))))
  case concat a r =>
    by_cases hb : h.isList r.addr = true
    · rw [L.concat_ok h a r hb]
      refine ok.append (fun w hw => ?_)
      rcases List.mem_append.1 hw with hw | hw
      · exact (ok a).1 w hw
      · exact (ok r.addr).1 w hw
    · rw [L.concat_bad h a r hb]; exact ok

theorem runL_allIntsOK (h : Heap) (ops : List LOp) (ok : AllIntsOK h) : AllIntsOK (runL h ops) := by
  induction ops generalizing h with
  | nil => exact ok
  | cons op ops ih => exact ih _ (stepL_allIntsOK h op ok)

/-- every heap a program of List operations builds from nothing satisfies the invariant -/
theorem runL_nil_allIntsOK (ops : List LOp) : AllIntsOK (runL [] ops) := runL_allIntsOK [] ops allIntsOK_nil

namespace L

/-- `Filter`: what is kept is `getVal` of a stored item -/
theorem filter_allIntsOK (h : Heap) (a : Nat) (p : Val → Bool) (ok : AllIntsOK h) :
    AllIntsOK (filter h a p).1 := by
  unfold filter
  refine ok.append (fun w hw => ?_)
  rcases mem_filterLoop h p _ _ _ hw with hm | ⟨x, hx, e⟩
  · cases hm
  · rw [e]; exact ok.getVal_item hx

theorem filterK_allIntsOK (h : Heap) (a : Nat) (k : Kind) (p : Val → Bool) (ok : AllIntsOK h) :
    AllIntsOK (filterK h a k p).1 := by
  unfold filterK
  refine ok.append (fun w hw => ?_)
  rcases mem_filterKLoop h k p _ _ _ hw with hm | ⟨x, hx, _, e | e⟩
  · cases hm
  · rw [e]; exact (ok a).1 x hx
  · rw [e]; exact ok.getVal_item hx

/-- the loop of `Map`: every callback result goes through `parseVal` (no hypothesis on the callback) -/
theorem mapLoop_allIntsOK (res : Nat) (f : Int → Val → GoVal) : ∀ (xs : List Val) (h : Heap) (i : Int),
    AllIntsOK h → AllIntsOK (mapLoop res f h xs i).1 := by
  intro xs
  induction xs with
  | nil => intro h i ok; exact ok
  | cons x xs ih =>
    intro h i ok
    unfold mapLoop
    exact .andThen (addEach_allIntsOK h res _ ok) fun h1 ok1 => ih h1 _ ok1

theorem map_allIntsOK (h : Heap) (a : Nat) (f : Int → Val → GoVal) (ok : AllIntsOK h) :
    AllIntsOK (map h a f).1 := by
  unfold map
  exact (mapLoop_allIntsOK h.length f (h.items a) _ 0 ok.alloc_list).wrap _

theorem mapValues_allIntsOK (h : Heap) (a : Nat) (f : Val → GoVal) (ok : AllIntsOK h) :
    AllIntsOK (mapValues h a f).1 := map_allIntsOK h a _ ok

theorem mapKLoop_allIntsOK (res : Nat) (k : Kind) (f : Val → GoVal) : ∀ (xs : List Val) (h : Heap),
    AllIntsOK h → AllIntsOK (mapKLoop res k f h xs).1 := by
  intro xs
  induction xs with
  | nil => intro h ok; exact ok
  | cons x xs ih =>
    intro h ok
    unfold mapKLoop
    split
    · next v _ => exact .andThen (addEach_allIntsOK h res [f v] ok) fun h1 ok1 => ih h1 ok1
    · exact ih h ok

theorem mapK_allIntsOK (h : Heap) (a : Nat) (k : Kind) (f : Val → GoVal) (ok : AllIntsOK h) :
    AllIntsOK (mapK h a k f).1 := by
  unfold mapK
  exact (mapKLoop_allIntsOK h.length k f (h.items a) _ ok.alloc_list).wrap _

theorem get_intOK (h : Heap) (a : Nat) (i : Int) (ok : AllIntsOK h) {v : Val} (hv : get h a i = .ok v) :
    IntOK v := by
  unfold get at hv
  split at hv
  · cases hv
  · split at hv
    · next w hw =>
      cases hv
      exact ok.getVal_item (List.mem_of_getElem? hw)
    · cases hv

end L

/-! ### the corollary: `Filter` / `FilterInts` of the Go code are the model's on every heap that
satisfies the invariant, whatever the receiver -/

open Generated Generated.L2 in
theorem filterGen_eq_of_allIntsOK (h : Heap) (ok : AllIntsOK h) (a : Nat) (p : Val → Bool) :
    filterGen h a p = okOf (L.filter h a p) := filterGen_eq h a p (ok.intsOK a)

open Generated Generated.L2 in
theorem filterIntsGen_eq_of_allIntsOK (h : Heap) (ok : AllIntsOK h) (a : Nat) (p : Val → Bool) :
    filterIntsGen h a p = okOf (L.filterK h a .int p) := filterIntsGen_eq h a p (ok.intsOK a)

/-- … in particular on every heap built by List operations from the empty heap -/
theorem filterGen_eq_of_runL (ops : List LOp) (a : Nat) (p : Val → Bool) :
    Generated.L2.filterGen (runL [] ops) a p = okOf (L.filter (runL [] ops) a p) :=
  filterGen_eq_of_allIntsOK _ (runL_nil_allIntsOK ops) a p

theorem filterIntsGen_eq_of_runL (ops : List LOp) (a : Nat) (p : Val → Bool) :
    Generated.L2.filterIntsGen (runL [] ops) a p = okOf (L.filterK (runL [] ops) a .int p) :=
  filterIntsGen_eq_of_allIntsOK _ (runL_nil_allIntsOK ops) a p

/-! ### the predicate is neither vacuous nor trivial -/

/-- a heap with a list cell (ints at both ends of the range, a reference) and an object cell -/
example : AllIntsOK [Cell.list [.int (2^63 - 1), .str ['a'], .int (-2^63), .obj ⟨1, 0⟩] 0,
    Cell.obj [(['k'], .int 7), (['l'], .list ⟨0, 0⟩)] 0] := by
  rw [allIntsOK_iff_cells]
  intro c hc
  simp only [List.mem_cons, List.not_mem_nil, or_false] at hc
  rcases hc with rfl | rfl <;> intro v hv <;>
    simp only [List.mem_cons, List.not_mem_nil, or_false] at hv
  · rcases hv with rfl | rfl | rfl | rfl <;> simp [IntOK, InRange]
  · rcases hv with rfl | rfl <;> simp [IntOK, InRange]

/-- an out-of-range int in a list cell violates it -/
example : ¬ AllIntsOK [Cell.list [.int (2^63)] 0] := by
  intro ok
  have := (ok 0).1 (.int (2^63)) (by simp [items])
  simp [IntOK, InRange] at this

/-- … and so does one in an object field -/
example : ¬ AllIntsOK [Cell.list [] 0, Cell.obj [(['k'], .int (-2^63 - 1))] 0] := by
  intro ok
  have := (ok 1).2 (['k'], .int (-2^63 - 1)) (by simp [fields])
  simp [IntOK, InRange] at this

end Anytype

#print axioms Anytype.allIntsOK_iff_cells
#print axioms Anytype.parseVal_allIntsOK
#print axioms Anytype.addEach_allIntsOK
#print axioms Anytype.setEach_allIntsOK
#print axioms Anytype.L.filter_allIntsOK
#print axioms Anytype.L.filterK_allIntsOK
#print axioms Anytype.L.map_allIntsOK
#print axioms Anytype.L.mapValues_allIntsOK
#print axioms Anytype.L.mapK_allIntsOK
#print axioms Anytype.stepL_allIntsOK
#print axioms Anytype.runL_nil_allIntsOK
#print axioms Anytype.filterGen_eq_of_allIntsOK
#print axioms Anytype.filterIntsGen_eq_of_allIntsOK
#print axioms Anytype.filterGen_eq_of_runL
#print axioms Anytype.filterIntsGen_eq_of_runL
