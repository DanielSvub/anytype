/-
Consequences of the float-formatting contract that the proofs use: alphabet, non-emptiness, and
"not an integer literal" all follow from the `strict` field.
-/
import Anytype.Lemmas.NumberShape
namespace Anytype

theorem FmtContract.nonempty (hf : FmtContract) (x : F64) (hx : x.isFinite = true) : serF x ≠ [] :=
  (Strict.number_chars _ _ (hf.strict x hx)).1

theorem FmtContract.chars (hf : FmtContract) (x : F64) (hx : x.isFinite = true) :
    ∀ c ∈ serF x, isNumChar c = true :=
  (Strict.number_chars _ _ (hf.strict x hx)).2

theorem FmtContract.not_int (hf : FmtContract) (x : F64) (hx : x.isFinite = true) :
    parseIntBase0 (serF x) = none :=
  Strict.parseIntBase0_of_number_float _ x (hf.strict x hx)

/-! ### spot checks

`FmtContract` speaks of all finite floats (`fmtContract_holds` proves it); independently of that proof,
evaluation shows that both fields hold at sample points (zeros, a whole value, 0.1,
1e+21 in 'e' format, 1e-07, 123456.789, the largest finite and the smallest subnormal value, 2^63).
The correspondence run tests `fmtContractAt` on many more values. -/

/-- executable form of the two contract fields at one float -/
def fmtContractAt (x : F64) : Bool :=
  F64.parseFloat (serF x) == some x &&
  (match Strict.number (serF x) with | some (some (.float y), []) => y == x | _ => false)

theorem fmtContractAt_samples : [F64.posZero, F64.negZero, F64.one, ⟨0x3FB999999999999A⟩, ⟨0x444B1AE4D6E2EF50⟩,
    ⟨0x3E7AD7F29ABCAF48⟩, ⟨0x40FE240C9FBE76C9⟩, F64.maxFinite, ⟨1⟩, ⟨0x43E0000000000000⟩].all fmtContractAt = true := by
  decide +kernel

example : [F64.posZero, F64.negZero, F64.one, ⟨0x3FB999999999999A⟩, ⟨0x444B1AE4D6E2EF50⟩, ⟨0x3E7AD7F29ABCAF48⟩,
    ⟨0x40FE240C9FBE76C9⟩, F64.maxFinite, ⟨1⟩, ⟨0x43E0000000000000⟩].all fmtContractAt = true :=
  fmtContractAt_samples

end Anytype
