/-
Well-formedness of value trees (the domain of C01/C02), the float-formatting contract,
and kind trees.
-/
import Anytype.Model.Parser
import Anytype.Spec.Json
namespace Anytype

/-! ### the domain: ints in range, floats finite, keys of every object pairwise distinct -/

mutual
def JVal.WF : JVal → Prop
  | .null => True
  | .bool _ => True
  | .int i => InRange i
  | .float f => f.isFinite = true
  | .str _ => True
  | .list xs => WFList xs
  | .obj kvs => (kvs.map Prod.fst).Nodup ∧ WFFields kvs
def WFList : List JVal → Prop
  | [] => True
  | x :: xs => x.WF ∧ WFList xs
def WFFields : List (Str × JVal) → Prop
  | [] => True
  | kv :: kvs => kv.2.WF ∧ WFFields kvs
end

theorem WFList_iff (xs : List JVal) : WFList xs ↔ ∀ x ∈ xs, x.WF := by
  induction xs with
  | nil => simp [WFList]
  | cons x xs ih => simp [WFList, ih]

theorem WFFields_iff (kvs : List (Str × JVal)) : WFFields kvs ↔ ∀ kv ∈ kvs, kv.2.WF := by
  induction kvs with
  | nil => simp [WFFields]
  | cons x xs ih => simp [WFFields, ih]

inductive KTree
  | leaf (k : Kind)
  | list (ts : List KTree)
  | obj (ts : List (Str × KTree))

mutual
def kindTree : JVal → KTree
  | .null => .leaf .nil
  | .bool _ => .leaf .bool
  | .int _ => .leaf .int
  | .float _ => .leaf .float
  | .str _ => .leaf .string
  | .list xs => .list (kindTreeList xs)
  | .obj kvs => .obj (kindTreeFields kvs)
def kindTreeList : List JVal → List KTree
  | [] => []
  | x :: xs => kindTree x :: kindTreeList xs
def kindTreeFields : List (Str × JVal) → List (Str × KTree)
  | [] => []
  | kv :: kvs => (kv.1, kindTree kv.2) :: kindTreeFields kvs
end

/-- the RFC 8259 number alphabet -/
def isNumChar (c : Char) : Bool :=
  F64.isDigit c || c == '+' || c == '-' || c == '.' || c == 'e' || c == 'E'

/-! ### the float-formatting contract

What the text-side proofs assume about Go's shortest float formatting
(`strconv.FormatFloat(x, 'e'|'f', -1, 64)`), modelled by the executable `serF`: every field is a plain
statement about `serF` on finite inputs. `fmtContract_holds` (`Lemmas/FmtContractHolds.lean`) proves it. -/

structure FmtContract : Prop where
  /-- `strconv.ParseFloat` reads the shortest representation back to the identical float64 -/
  parse_back : ∀ x : F64, x.isFinite = true → F64.parseFloat (serF x) = some x
  /-- the text is, as a whole, an RFC 8259 number which a strict reader takes for a float, namely
  the identical float64 (in particular it has a fraction or an exponent, or exceeds the int range) -/
  strict : ∀ x : F64, x.isFinite = true → Strict.number (serF x) = some (some (.float x), [])

/-! ### a concrete nested value in the domain (non-vacuity witness) -/

/-- fields: a key and a string with `"`, `\`, control characters, a non-ASCII character, U+FFFD and an
astral character; the empty key; extreme ints, negative zero, an empty object and an empty list -/
def sampleFields : List (Str × JVal) :=
  [ (['k', '"', '\\', '\x01', 'é'], .str ['a', '"', '\\', '\n', '\x1f', 'é', Char.ofNat 0xFFFD, Char.ofNat 0x1F600]),
    ([], .list [.int (-9223372036854775808), .int 9223372036854775807, .float F64.negZero, .obj [], .list []]),
    (['b'], .obj [(['x'], .null), (['y'], .bool true), (['z'], .bool false), ([' '], .float F64.one)]) ]

def sampleList : List JVal := [.obj sampleFields, .str [], .int 0, .list [.list []]]

theorem sampleFields_WF : (JVal.obj sampleFields).WF := by
  simp [sampleFields, JVal.WF, WFList, WFFields, InRange]
  decide

theorem sampleList_WF : (JVal.list sampleList).WF := by
  simp [sampleList, sampleFields, JVal.WF, WFList, WFFields, InRange]
  decide

end Anytype
