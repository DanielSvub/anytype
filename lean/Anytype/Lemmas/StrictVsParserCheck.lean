/-
Strict decoder vs. lenient parser, part 5: executable forms of "the strict decoder reads `s` as `v`" and
"`number` reads `s` as `v`" (on `beqJ`, `Lemmas/JValEq.lean`), used to state the non-vacuity examples of
C03: the kernel evaluates the checkers on concrete documents.
-/
import Anytype.Lemmas.StrictVsParserCap
import Anytype.Lemmas.JValEq
namespace Anytype
namespace SVP

/-- executable form of `Strict.decode s = .ok v []` -/
def decodesTo (s : Str) (v : JVal) : Bool :=
  match Strict.decode s with
  | .ok w [] => beqJ w v
  | _ => false

theorem decodesTo_sound {s : Str} {v : JVal} (h : decodesTo s v = true) : Strict.decode s = .ok v [] := by
  unfold decodesTo at h
  split at h
  · rename_i w hw
    rw [hw, beqJ_sound w v h]
  · cases h

/-- executable form of `Strict.number s = some (some v, rest)` -/
def numberIs (s : Str) (v : JVal) (rest : Str) : Bool :=
  match Strict.number s with
  | some (some w, r) => beqJ w v && r == rest
  | _ => false

theorem numberIs_sound {s : Str} {v : JVal} {rest : Str} (h : numberIs s v rest = true) :
    Strict.number s = some (some v, rest) := by
  unfold numberIs at h
  split at h
  · rename_i w r hw
    simp at h
    rw [hw, beqJ_sound w v h.1, h.2]
  · cases h

/-- A fact about the characters of a string literal.  The kernel reads a literal as `String.ofList`
of its characters, so `apply of_chars (p := …)` hands it the character list `l`; evaluating
`String.toList` on the literal instead takes time quadratic in its length. -/
theorem of_chars {p : Str → Prop} {l : Str} (h : p l) : p (String.ofList l).toList :=
  String.toList_ofList.symm ▸ h

end SVP
end Anytype
