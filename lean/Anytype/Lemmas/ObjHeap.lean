/-
The Object operations on the heap. Every mutator replaces the fields of one cell (`setFields`), so
its frame, the distinct-keys invariant and its effect on the cell read as a finite map (`absMap`)
are facts about that one step; `Heap.Keeps` carries such facts through `parseVal` and the loops of
`Add` / `Set`, whatever the arguments are.
-/
import Anytype.Lemmas.Assoc
import Anytype.Lemmas.Heap
namespace Anytype

/-- the arguments `parseVal` stores without allocating: nil, bool, every integer and float
type, strings, and existing List / Object values (by reference) -/
def GoVal.isScalar : GoVal → Bool
  | .nil | .bool _ | .intw _ _ | .f64 _ | .f32 _ | .str _ | .list _ | .obj _ => true
  | _ => false

/-- what is stored for such an argument -/
def scalarVal : GoVal → Val
  | .nil => .nil
  | .bool b => .bool b
  | .intw _ v => .int (wrap64 v)
  | .f64 f => .float f
  | .f32 b => .float (f32to64 b)
  | .str s => .str s
  | .list r => .list r
  | .obj r => .obj r
  | _ => .nil

/-- an argument list of `Set` whose keys are all strings -/
def toPairs (ps : List (Str × GoVal)) : O.Pairs := ps.map (fun p => (some p.1, p.2))

/-- the pairs applied to a field list one after the other, in argument order -/
def applyPairs (fs : List (Str × Val)) (ps : List (Str × GoVal)) : List (Str × Val) :=
  ps.foldl (fun acc p => setKV acc p.1 (scalarVal p.2)) fs

/-- what `Pluck` stores under a key: the result of `Get(key)` (it panics where `Get` does, so
the default is never stored) -/
def pluckVal (h : Heap) (a : Nat) (k : Str) : Val :=
  match O.get h a k with
  | .ok v => v
  | .panic _ => .nil

/-- the abstraction function: a field list as a finite map -/
def absMap {α : Type} (fs : List (Str × α)) : Str → Option α := lookup fs
/-- `m[k] = v` on abstract maps -/
def updMap {α : Type} (m : Str → Option α) (k : Str) (v : α) : Str → Option α :=
  fun k' => if k' = k then some v else m k'
/-- `delete(m, k)` on abstract maps -/
def delMap {α : Type} (m : Str → Option α) (k : Str) : Str → Option α :=
  fun k' => if k' = k then none else m k'

/-- the mutators (arguments of `Set` / `NewObject` are arbitrary Go values with string keys) -/
inductive OOp
  | new (ps : List (Str × GoVal))
  | set (a : Nat) (ps : List (Str × GoVal))
  | unset (a : Nat) (ks : List Str)
  | clear (a : Nat)

/-- the heap after one operation (whether or not it panicked) -/
def stepO (h : Heap) : OOp → Heap
  | .new ps => (O.new h (toPairs ps) false).1
  | .set a ps => (O.set h a (toPairs ps) false).1
  | .unset a ks => (O.unset h a ks).1
  | .clear a => (O.clear h a).1

def runO (h : Heap) (prog : List OOp) : Heap := prog.foldl stepO h

/-- all values are scalars or existing containers -/
def OOp.scalar : OOp → Bool
  | .new ps => ps.all (fun p => p.2.isScalar)
  | .set _ ps => ps.all (fun p => p.2.isScalar)
  | _ => true

/-- the abstract map semantics of one operation, seen from object `a` -/
def absStep (a : Nat) (m : Str → Option Val) : OOp → (Str → Option Val)
  | .new _ => m
  | .set b ps => if b = a then ps.foldl (fun m p => updMap m p.1 (scalarVal p.2)) m else m
  | .unset b ks => if b = a then (fun k => if k ∈ ks then none else m k) else m
  | .clear b => if b = a then (fun _ => none) else m

namespace OH

theorem fields_of_not_isObj {h : Heap} {a : Nat} (ho : h.isObj a = false) : h.fields a = [] :=
  Heap.fields_of_not_isObj ho

theorem frame_setFields (h : Heap) (a : Nat) (fs) :
    (h.setFields a fs).length = h.length ∧ ∀ b, b ≠ a → (h.setFields a fs)[b]? = h[b]? :=
  ⟨Heap.length_setFields h a fs, fun _ hb => Heap.getElem?_setFields_ne h fs hb⟩

theorem parseVal_scalar (h : Heap) (g : GoVal) (hs : g.isScalar = true) :
    parseVal h g = (h, .ok (scalarVal g)) := by
  cases g <;> first | rfl | cases hs

/-- `h1` extends `h` and agrees with it on every old cell other than `a` -/
def ExtExcept (a : Nat) (h h1 : Heap) : Prop :=
  h.length ≤ h1.length ∧ ∀ b, b < h.length → b ≠ a → h1[b]? = h[b]?

/-- `h1` extends `h` and agrees with it on every old cell -/
def Ext (h h1 : Heap) : Prop := h.length ≤ h1.length ∧ ∀ b, b < h.length → h1[b]? = h[b]?

/-- `Ext` is `Heap.Ext0`; `ExtExcept` is `Heap.Ext` without its clause on kinds and ego levels -/
theorem Ext.of_ext0 {h h1 : Heap} (e : Heap.Ext0 h h1) : Ext h h1 := ⟨e.len, e.same⟩
theorem ExtExcept.of_ext {a : Nat} {h h1 : Heap} (e : Heap.Ext h h1 a) : ExtExcept a h h1 :=
  ⟨e.len, e.other⟩

theorem Ext.refl (h : Heap) : Ext h h := ⟨Nat.le_refl _, fun _ _ => rfl⟩
theorem ExtExcept.refl (a : Nat) (h : Heap) : ExtExcept a h h := ⟨Nat.le_refl _, fun _ _ _ => rfl⟩
theorem Ext.toExcept {h h1 : Heap} (e : Ext h h1) (a : Nat) : ExtExcept a h h1 :=
  ⟨e.1, fun b hb _ => e.2 b hb⟩
theorem ExtExcept.setFields (a : Nat) (h : Heap) (fs) : ExtExcept a h (h.setFields a fs) :=
  .of_ext (Heap.Ext.setFields h a fs)
/-- a change at a fresh address is invisible from the old heap -/
theorem ExtExcept.toExt {a : Nat} {h h1 : Heap} (e : ExtExcept a h h1) (ha : h.length ≤ a) : Ext h h1 :=
  ⟨e.1, fun b hb => e.2 b hb (Nat.ne_of_lt (Nat.lt_of_lt_of_le hb ha))⟩
theorem Ext.append (h : Heap) (c : Cell) : Ext h (h ++ [c]) := .of_ext0 (Heap.Ext0.append h c)
theorem Ext.trans {h h1 h2 : Heap} (e1 : Ext h h1) (e2 : Ext h1 h2) : Ext h h2 :=
  ⟨Nat.le_trans e1.1 e2.1, fun b hb => by rw [e2.2 b (Nat.lt_of_lt_of_le hb e1.1), e1.2 b hb]⟩

theorem ExtExcept.setItems (a : Nat) (h : Heap) (xs) : ExtExcept a h (h.setItems a xs) :=
  .of_ext (Heap.Ext.setItems h a xs)
/-- a step that leaves all of `h₀` but cell `a` alone may be followed by one that writes `a`
or a cell that `h₀` did not have -/
theorem ExtExcept.step {a a' : Nat} {h₀ h h' : Heap} (e : ExtExcept a h₀ h) (e' : ExtExcept a' h h')
    (ha' : a' = a ∨ h₀.length ≤ a') : ExtExcept a h₀ h' :=
  ⟨Nat.le_trans e.1 e'.1, fun b hb hne => by
    have hne' : b ≠ a' := fun eq =>
      ha'.elim (fun e' => hne (eq.trans e')) (fun hl => Nat.not_lt.2 hl (eq ▸ hb))
    rw [e'.2 b (Nat.lt_of_lt_of_le hb e.1) hne', e.2 b hb hne]⟩

/-- allocation followed by changes to the new cell only -/
theorem Ext.of_append_except {h : Heap} {c : Cell} {h1 : Heap}
    (e : ExtExcept h.length (h ++ [c]) h1) : Ext h h1 :=
  (((Ext.append h c).toExcept _).step e (.inl rfl)).toExt (Nat.le_refl _)

/-- the Go-map invariant: every object cell holds distinct keys -/
def AllNodup (h : Heap) : Prop := ∀ a, (keysOf (h.fields a)).Nodup

theorem AllNodup.nil : AllNodup [] := by
  intro a; simp [Heap.fields]

theorem AllNodup.setFields {h : Heap} (hn : AllNodup h) (a : Nat) {fs : List (Str × Val)}
    (hfs : (keysOf fs).Nodup) : AllNodup (h.setFields a fs) := by
  intro b
  rw [fields_setFields]
  split
  · exact hfs
  · exact hn b

theorem AllNodup.setItems {h : Heap} (hn : AllNodup h) (a : Nat) (xs) : AllNodup (h.setItems a xs) := by
  intro b; rw [Heap.fields_setItems]; exact hn b

theorem AllNodup.append {h : Heap} (hn : AllNodup h) {c : Cell}
    (hc : ∀ fs e, c = .obj fs e → (keysOf fs).Nodup) : AllNodup (h ++ [c]) := by
  intro b
  by_cases hb : b = h.length
  · subst hb
    unfold Heap.fields
    rw [Heap.getElem?_append_new]
    cases c with
    | list xs e => exact List.nodup_nil
    | obj fs e => exact hc fs e rfl
  · have : (h ++ [c])[b]? = h[b]? := by rw [Heap.getElem?_append_cell, if_neg hb]
    rw [Heap.fields_congr this]
    exact hn b

/-- seen from `h₀`, only cell `a` changes: writes may go to `a` and to cells `h₀` did not have -/
theorem ExtExcept.keeps (a : Nat) (h₀ : Heap) :
    Heap.Keeps (ExtExcept a h₀) (fun b => b = a ∨ h₀.length ≤ b) where
  alloc e _ _ := ⟨e.step ((Ext.append _ _).toExcept a) (.inl rfl), .inr e.1⟩
  items e ha xs := e.step (ExtExcept.setItems _ _ xs) ha
  field e ha _ _ := e.step (ExtExcept.setFields _ _ _) ha

theorem AllNodup.keeps : Heap.Keeps AllNodup (fun _ => True) where
  alloc hn _ hc := ⟨hn.append (by rintro fs e rfl; rcases hc with hc | hc <;> cases hc; exact List.nodup_nil), trivial⟩
  items hn _ xs := hn.setItems _ xs
  field hn _ k v := hn.setFields _ (nodup_setKV (hn _) k v)

section
variable {P : Heap → Prop} {W : Nat → Prop} (K : Heap.Keeps P W)
include K

/-- the loop of `Set` with arbitrary arguments (nested slices / maps, unsupported values,
non-string keys) -/
theorem setLoop_keeps (a : Nat) (hW : W a) (pairs : O.Pairs) :
    ∀ h, P h → P (O.setLoop h a pairs).1 := by
  induction pairs with
  | nil => exact fun _ hP => hP
  | cons p rest ih =>
    intro h hP
    obtain ⟨_ | k, g⟩ := p
    · exact hP
    · have hg := parseVal_keeps K h g hP
      rw [O.setLoop]
      generalize parseVal h g = r at hg ⊢
      obtain ⟨h1, v | q⟩ := r
      · exact ih _ (K.field hg hW k _)
      · exact hg

end

theorem set_fst (h : Heap) (a : Nat) (pairs : O.Pairs) :
    (O.set h a pairs false).1 = (O.setLoop h a pairs).1 := by
  unfold O.set
  simp only [Bool.false_eq_true, if_false]
  cases O.setLoop h a pairs with
  | mk h1 o => cases o <;> rfl

theorem new_fst (h : Heap) (pairs : O.Pairs) (odd : Bool) :
    (O.new h pairs odd).1 = (O.set (h ++ [Cell.obj [] 0]) h.length pairs odd).1 := by
  unfold O.new
  simp only
  cases O.set (h ++ [Cell.obj [] 0]) h.length pairs odd with
  | mk h1 o => cases o <;> rfl

/-- on string keys the loop of `Set` is the loop `NewObjectFrom` runs over a map -/
theorem setLoop_toPairs_append (h : Heap) (a : Nat) (ps : List (Str × GoVal)) (tail : O.Pairs) :
    O.setLoop h a (toPairs ps ++ tail) = match setEach h a ps with
      | (h1, .ok _) => O.setLoop h1 a tail
      | (h1, .panic p) => (h1, .panic p) := by
  induction ps generalizing h with
  | nil => rfl
  | cons p ps ih =>
    obtain ⟨k, g⟩ := p
    show O.setLoop h a ((some k, g) :: (toPairs ps ++ tail)) = _
    rw [O.setLoop, setEach]
    cases parseVal h g with
    | mk h1 o =>
      cases o with
      | ok v => exact ih _
      | panic q => rfl

theorem setLoop_toPairs (h : Heap) (a : Nat) (ps : List (Str × GoVal)) :
    O.setLoop h a (toPairs ps) = setEach h a ps := by
  have := setLoop_toPairs_append h a ps []
  rw [List.append_nil] at this
  rw [this]
  cases setEach h a ps with
  | mk h1 o => cases o <;> rfl

theorem setEach_scalar (h : Heap) (a : Nat) (ps : List (Str × GoVal))
    (hs : ∀ p ∈ ps, p.2.isScalar = true) :
    setEach h a ps = (h.setFields a (applyPairs (h.fields a) ps), .ok ()) := by
  induction ps generalizing h with
  | nil => simp [setEach, applyPairs, Heap.setFields_fields_self]
  | cons p ps ih =>
    obtain ⟨k, g⟩ := p
    rw [List.forall_mem_cons] at hs
    rw [setEach, parseVal_scalar h g hs.1]
    simp only
    rw [ih _ hs.2, Heap.setFields_setFields]
    cases ho : h.isObj a with
    | true => rw [Heap.fields_setFields_same _ ho]; rfl
    | false => rw [Heap.setFields_of_not_isObj _ ho, Heap.setFields_of_not_isObj _ ho]

theorem setLoop_scalar (h : Heap) (a : Nat) (ps : List (Str × GoVal))
    (hs : ∀ p ∈ ps, p.2.isScalar = true) :
    O.setLoop h a (toPairs ps) = (h.setFields a (applyPairs (h.fields a) ps), .ok ()) := by
  rw [setLoop_toPairs, setEach_scalar h a ps hs]

/-- `NewObjectFrom(map)` builds the same object as `NewObject` with the map's pairs, whatever
the values are -/
theorem newFrom_map (h : Heap) (fl : Flavour) (ps : List (Str × GoVal)) :
    O.newFrom h (.map fl ps) = O.new h (toPairs ps) false := by
  unfold O.newFrom O.new O.set
  simp only [parseVal, Bool.false_eq_true, if_false, setLoop_toPairs]
  cases setEach (h ++ [Cell.obj [] 0]) h.length ps with
  | mk h1 o => cases o <;> rfl

theorem get_setFields_ne (hh : Heap) (a res : Nat) (x) (hne : res ≠ a) (key : Str) :
    O.get (hh.setFields res x) a key = O.get hh a key := by
  unfold O.get
  rw [Heap.fields_setFields_other hh x (fun e => hne e.symm)]
  cases lookup (hh.fields a) key <;> simp [Heap.getVal_setFields]

theorem get_of_mem_keys {h : Heap} {a : Nat} {k : Str} (hk : k ∈ keysOf (h.fields a)) :
    O.get h a k = .ok (pluckVal h a k) := by
  obtain ⟨v, hv⟩ := exists_lookup_of_mem_keys hk
  simp only [pluckVal, O.get, hv]

theorem pluckLoop_ok (hh : Heap) (a res : Nat) (ks : List Str) (hne : res ≠ a)
    (hr : hh.isObj res = true) (hall : ∀ k ∈ ks, k ∈ keysOf (hh.fields a)) :
    O.pluckLoop hh a res ks
      = (hh.setFields res (ks.foldl (fun acc k => setKV acc k (pluckVal hh a k)) (hh.fields res)),
          .ok ()) := by
  induction ks generalizing hh with
  | nil => simp [O.pluckLoop, Heap.setFields_fields_self]
  | cons key rest ih =>
    rw [List.forall_mem_cons] at hall
    have hne' : a ≠ res := fun e => hne e.symm
    rw [O.pluckLoop, get_of_mem_keys hall.1]
    simp only
    rw [ih _ (by rw [Heap.isObj_setFields]; exact hr) (by rw [Heap.fields_setFields_other _ _ hne']; exact hall.2),
      Heap.setFields_setFields, Heap.fields_setFields_same _ hr]
    simp only [pluckVal, get_setFields_ne _ _ _ _ hne, List.foldl_cons]

theorem pluckLoop_missing (hh : Heap) (a res : Nat) (ks : List Str) (hne : res ≠ a)
    (hmiss : ∃ k ∈ ks, k ∉ keysOf (hh.fields a)) :
    ∃ acc, O.pluckLoop hh a res ks = (hh.setFields res acc, .panic .missingKey) := by
  induction ks generalizing hh with
  | nil => obtain ⟨k, hk, _⟩ := hmiss; cases hk
  | cons key rest ih =>
    rw [O.pluckLoop]
    by_cases hk : key ∈ keysOf (hh.fields a)
    · obtain ⟨k, hkm, hkn⟩ := hmiss
      have hk' : k ∈ rest := (List.mem_cons.1 hkm).resolve_left fun e => hkn (e ▸ hk)
      obtain ⟨acc, hacc⟩ := ih (hh.setFields res (setKV (hh.fields res) key (pluckVal hh a key)))
        ⟨k, hk', by rw [Heap.fields_setFields_other _ _ (Ne.symm hne)]; exact hkn⟩
      exact ⟨acc, by simp only [get_of_mem_keys hk, hacc, Heap.setFields_setFields]⟩
    · exact ⟨hh.fields res, by simp only [O.get, lookup_eq_none_iff.2 hk, Heap.setFields_fields_self]⟩

theorem absMap_setKV {α : Type} (fs : List (Str × α)) (k : Str) (v : α) :
    absMap (setKV fs k v) = updMap (absMap fs) k v :=
  funext fun k' => lookup_setKV fs k v k'

theorem absMap_applyPairs (fs : List (Str × Val)) (ps : List (Str × GoVal)) :
    absMap (applyPairs fs ps) = ps.foldl (fun m p => updMap m p.1 (scalarVal p.2)) (absMap fs) := by
  induction ps generalizing fs with
  | nil => rfl
  | cons p ps ih =>
    show absMap (applyPairs (setKV fs p.1 (scalarVal p.2)) ps) = _
    rw [ih, absMap_setKV]; rfl

theorem set_scalar (h : Heap) (a : Nat) (ps : List (Str × GoVal))
    (hs : ∀ p ∈ ps, p.2.isScalar = true) :
    O.set h a (toPairs ps) false
      = (h.setFields a (applyPairs (h.fields a) ps), .ok (h.egoRef a)) := by
  unfold O.set
  simp only [Bool.false_eq_true, if_false, setLoop_scalar h a ps hs, Heap.egoRef_setFields]

/-- `Set(k, v)` then `Get(k)`, for a scalar or an existing container `v` -/
theorem get_set (h : Heap) (a : Nat) (k : Str) (g : GoVal) (ho : h.isObj a = true)
    (hg : g.isScalar = true) :
    O.get (O.set h a (toPairs [(k, g)]) false).1 a k = .ok (h.getVal (scalarVal g)) := by
  rw [set_scalar h a [(k, g)] (List.forall_mem_singleton.2 hg)]
  show O.get (h.setFields a (setKV (h.fields a) k (scalarVal g))) a k = _
  unfold O.get
  rw [Heap.fields_setFields_same _ ho, lookup_setKV, if_pos rfl]
  simp only [Heap.getVal_setFields]

theorem new_scalar (h : Heap) (ps : List (Str × GoVal)) (hs : ∀ p ∈ ps, p.2.isScalar = true) :
    O.new h (toPairs ps) false
      = ((h ++ [Cell.obj [] 0]).setFields h.length (applyPairs [] ps), .ok ⟨h.length, 0⟩) := by
  have h1 := set_scalar (h ++ [Cell.obj [] 0]) h.length ps hs
  rw [Heap.fields_append_new] at h1
  unfold O.new
  simp only [h1]

theorem stepO_allNodup (h : Heap) (op : OOp) (hn : AllNodup h) : AllNodup (stepO h op) := by
  cases op with
  | new ps =>
    simp only [stepO, new_fst, set_fst]
    have := AllNodup.keeps.alloc hn (.inr rfl)
    exact setLoop_keeps AllNodup.keeps _ this.2 _ _ this.1
  | set a ps =>
    simp only [stepO, set_fst]
    exact setLoop_keeps AllNodup.keeps a trivial _ h hn
  | unset a ks => exact hn.setFields a (nodup_foldl_delKV ks (hn a))
  | clear a => exact hn.setFields a List.nodup_nil

/-- the shape shared by `Set`, `Unset` and `Clear`: the fields of cell `b` are replaced by `F` of
them; seen from object `a`, its map changes as `F` says if `b = a`, and not at all otherwise -/
theorem sim_setFields {h : Heap} {a : Nat} (ho : h.isObj a = true) (b : Nat)
    (F : List (Str × Val) → List (Str × Val)) (G : (Str → Option Val) → Str → Option Val)
    (hFG : absMap (F (h.fields b)) = G (absMap (h.fields b))) :
    (h.setFields b (F (h.fields b))).isObj a = true ∧
    absMap ((h.setFields b (F (h.fields b))).fields a)
      = if b = a then G (absMap (h.fields a)) else absMap (h.fields a) := by
  rw [Heap.isObj_setFields]
  refine ⟨ho, ?_⟩
  by_cases hb : b = a
  · subst hb; rw [if_pos rfl, Heap.fields_setFields_same _ ho, hFG]
  · rw [if_neg hb, Heap.fields_setFields_other _ _ (Ne.symm hb)]

theorem stepO_sim (h : Heap) (a : Nat) (ho : h.isObj a = true) (hn : AllNodup h) (op : OOp)
    (hs : op.scalar = true) :
    (stepO h op).isObj a = true ∧
    absMap ((stepO h op).fields a) = absStep a (absMap (h.fields a)) op := by
  cases op with
  | new ps =>
    -- the new object lives in a fresh cell, which is not `a`
    have hlt := Heap.isObj_lt ho
    simp only [stepO, absStep, new_scalar h ps (List.all_eq_true.1 hs), Heap.isObj_setFields,
      Heap.isObj_append_old h _ hlt, Heap.fields_setFields_other _ _ (Nat.ne_of_lt hlt),
      Heap.fields_append_old h _ hlt, ho, and_self]
  | set b ps =>
    simp only [stepO, absStep, set_fst, setLoop_scalar h b ps (List.all_eq_true.1 hs)]
    exact sim_setFields ho b (applyPairs · ps) (ps.foldl (fun m p => updMap m p.1 (scalarVal p.2)) ·)
      (absMap_applyPairs _ ps)
  | unset b ks =>
    exact sim_setFields ho b (ks.foldl delKV) (fun m k => if k ∈ ks then none else m k)
      (funext (lookup_foldl_delKV ks (hn b)))
  | clear b => exact sim_setFields ho b (fun _ => []) (fun _ _ => none) rfl

end OH
end Anytype
