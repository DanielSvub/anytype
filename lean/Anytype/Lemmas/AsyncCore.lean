/-
The invariant shared by the two accepted skeletons (`forEachSkel`, `mapSkel`), parametrised by
`c` = the position of the callback statement in the body and `L` = the length of the body (the
last statement is `done`), its preservation by main's actions and by the three kinds of worker
steps (a silent statement, the callback statement, `done`), and what follows from it.
-/
import Anytype.Lemmas.AsyncTrace
namespace Anytype.Async
variable {s : Skel} {isMap : Bool} {c L n : Nat} {st st' : State} {i : Nat} {w w' : Worker}

/-- the phase of the callback invocation of a worker, read off its program counter -/
def absPhase (c : Nat) (w : Worker) : Phase :=
  if c < w.pc then .finished else if w.inCall = true then .running else .idle

structure WkOk (c L n : Nat) (main : MainPc) (j : Nat) (w : Worker) : Prop where
  live_iff : w.live = true ↔ j < spawnedCount n main
  fresh : w.live = false → w = {}
  arg : w.live = true → w.arg = j
  pc_le : w.pc ≤ L
  inCall : w.inCall = true → w.pc = c

/-- number of workers that have executed `done` -/
def doneCount (L : Nat) (st : State) : Nat := st.workers.countP (fun w => decide (w.pc = L))

structure Core (isMap : Bool) (c L n : Nat) (st : State) : Prop where
  len : st.workers.length = n
  noPanic : st.panicked = false
  noUnsync : st.unsyncWrite = false
  wk : ∀ (j : Nat) (w : Worker), st.workers[j]? = some w → WkOk c L n st.main j w
  counter : st.counter = (if st.main = .start then 0 else (n : Int)) - (doneCount L st : Int)
  kle : ∀ k, st.main = .spawned k → k ≤ n
  ret : st.main = .returned → ∀ w ∈ st.workers, w.pc = L
  mon : runMon isMap n (observe st.log)
      = some ⟨st.workers.map (absPhase c), decide (st.main = .returned)⟩

theorem absPhase_running {v : Worker} (h : absPhase c v = .running) : v.inCall = true := by
  simp only [absPhase] at h
  split at h
  · cases h
  · split at h
    · assumption
    · cases h

theorem WkOk.congr_main {m m' : MainPc} {j : Nat}
    (h : WkOk c L n m j w) (e : spawnedCount n m' = spawnedCount n m) : WkOk c L n m' j w :=
  ⟨by rw [e]; exact h.live_iff, h.fresh, h.arg, h.pc_le, h.inCall⟩

theorem set_eq_self_of_getElem? {α} {l : List α} {a : α} (h : l[i]? = some a) :
    l.set i a = l := by
  apply List.ext_getElem?
  intro j
  rw [List.getElem?_set]
  by_cases hij : i = j
  · subst hij; rw [h]; simp [lt_length_of_getElem? h]
  · simp [hij]

theorem core_init (s : Skel) (isMap : Bool) (n : Nat) (hL : 0 < L) :
    Core isMap c L n (init s n) := by
  refine ⟨by simp [init], rfl, rfl, ?_, ?_, ?_, ?_, ?_⟩
  · intro j w h
    cases (init_worker h).1
    exact ⟨by simp [init, spawnedCount], fun _ => rfl, by simp, by simp, by simp⟩
  · have : doneCount L (init s n) = 0 := by
      simp only [doneCount, init]
      rw [List.countP_eq_zero]
      intro w hw
      rw [List.mem_replicate] at hw
      rw [hw.2]; simp; omega
    rw [this]; simp [init]
  · intro k h; simp [init] at h
  · intro h; simp [init] at h
  · simp [init, observe, runMon, monInit, absPhase]

theorem Core.basic (h : Core isMap c L n st) :
    Basic n st := by
  refine ⟨h.len, fun j hj hn => ?_⟩
  have hw := List.getElem?_eq_getElem (h.len ▸ hn : j < st.workers.length)
  have W := h.wk j _ hw
  rw [hw, W.fresh (Bool.eq_false_iff.2 fun hl => Nat.not_lt.2 hj (W.live_iff.1 hl))]

theorem core_add
    (hs : s.add = .beforeLoop) (hc : s.addIsCount = true)
    (h : Core isMap c L n st) (he : isEnabled s n st .add = true) :
    Core isMap c L n (step s n st .add) := by
  have hm := isEnabled_add he
  obtain ⟨len, noPanic, noUnsync, wk, counter, kle, ret, mon⟩ := h
  simp only [step, hs, addAmount, hc, if_true]
  refine ⟨len, noPanic, noUnsync, fun j w hw => (wk j w hw).congr_main (by rw [hm]; rfl), ?_,
    fun k hk => (by cases hk; exact Nat.zero_le n), fun hr => (by cases hr), ?_⟩
  · rw [counter, hm]
    simp only [doneCount, reduceCtorEq, if_false, if_true]
    omega
  · simpa [hm] using mon

theorem core_spawn
    (hs : s.add = .beforeLoop) (hL : 0 < L)
    (h : Core isMap c L n st) (he : isEnabled s n st .spawn = true) :
    Core isMap c L n (step s n st .spawn) := by
  obtain ⟨k, hm, hk⟩ := isEnabled_spawn he
  have hw := h.basic.unspawned hm hk
  obtain ⟨len, noPanic, noUnsync, wk, counter, kle, ret, mon⟩ := h
  simp only [step, hm, hs]
  refine ⟨by simpa using len, noPanic, noUnsync, ?_, ?_, fun k' hk' => (by cases hk'; exact hk),
    fun hr => (by cases hr), ?_⟩
  · refine forall_set_ne (P := fun j (w : Worker) => WkOk c L n (.spawned (k + 1)) j w) ?_ ?_
    · intro j w' hjk hw'
      have W := wk j w' hw'
      rw [hm] at W
      refine ⟨?_, W.fresh, W.arg, W.pc_le, W.inCall⟩
      rw [W.live_iff]; simp only [spawnedCount]; omega
    · exact ⟨by simp [spawnedCount], by simp, by simp, by simp, by simp⟩
  · have := countP_set_add (fun w => decide (w.pc = L))
      ({ live := true, pc := 0, inCall := false, arg := k } : Worker) hw
    have h0 : ¬ (0 = L) := Nat.ne_of_lt hL
    simp only [decide_eq_true_eq, h0, if_false, Nat.add_zero] at this
    simp only [doneCount, hm, reduceCtorEq, if_false] at counter ⊢
    rw [this]; exact counter
  · dsimp only
    rw [List.map_set]
    have e : absPhase c ({ live := true, pc := 0, inCall := false, arg := k } : Worker)
        = absPhase c ({} : Worker) := by simp [absPhase]
    rw [e, set_eq_self_of_getElem? (by rw [List.getElem?_map, hw]; rfl)]
    simpa [hm] using mon

theorem core_wait
    (hs : s.waitBeforeReturn = true) (hcL : c < L)
    (h : Core isMap c L n st) (he : isEnabled s n st .wait = true) :
    Core isMap c L n (step s n st .wait) := by
  obtain ⟨k, hm, hk, h0⟩ := isEnabled_wait he
  obtain ⟨len, noPanic, noUnsync, wk, counter, kle, ret, mon⟩ := h
  have hkn : k = n := Nat.le_antisymm (kle k hm) hk
  have hall : ∀ w ∈ st.workers, w.pc = L := by
    have : doneCount L st = st.workers.length := by
      simp only [hm, reduceCtorEq, if_false, h0 hs] at counter
      omega
    intro w hw
    simpa using List.countP_eq_length.1 this w hw
  simp only [step]
  refine ⟨len, noPanic, noUnsync, ?_, ?_, fun k' hk' => (by cases hk'), fun _ => hall, ?_⟩
  · intro j w hw
    exact (wk j w hw).congr_main (by simp [hm, spawnedCount, hkn])
  · simp only [doneCount, hm, reduceCtorEq, if_false] at counter ⊢
    exact counter
  · rw [observe_snoc_obs _ (by rfl), runMon_snoc, mon]
    simp only [Option.bind_some, monStep, hm, reduceCtorEq, decide_false, decide_true]
    rw [if_pos]
    refine ⟨trivial, ?_⟩
    intro p hp
    rw [List.mem_map] at hp
    obtain ⟨w, hw, rfl⟩ := hp
    simp [absPhase, hall w hw, hcL]

theorem Core.acting
    (h : Core isMap c L n st) (hw : st.workers[i]? = some w) (hl : w.live = true)
    (hpc : w.pc < L) :
    st.main ≠ .returned ∧ st.main ≠ .start ∧ w.arg = i ∧ i < n := by
  have W := h.wk i w hw
  refine ⟨?_, ?_, W.arg hl, ?_⟩
  · intro hr
    have := h.ret hr w (List.mem_iff_getElem?.2 ⟨i, hw⟩)
    omega
  · intro hs
    have := W.live_iff.1 hl
    simp [hs, spawnedCount] at this
  · have := lt_length_of_getElem? hw
    rw [h.len] at this; exact this

/-- the master lemma for worker steps: worker `i` goes from `w` to `w'`, main does not move -/
theorem core_update {pc' : Nat} {ic' : Bool}
    (h : Core isMap c L n st) (hw : st.workers[i]? = some w) (hl : w.live = true)
    (hpc : w.pc < L)
    (hworkers : st'.workers = st.workers.set i { w with pc := pc', inCall := ic' })
    (hmain : st'.main = st.main) (hp : st'.panicked = false) (hu : st'.unsyncWrite = false)
    (hpc' : pc' ≤ L) (hin : ic' = true → pc' = c)
    (hcounter : st'.counter = st.counter - (if pc' = L then 1 else 0))
    (hmon : runMon isMap n (observe st'.log)
    = some ⟨(st.workers.set i { w with pc := pc', inCall := ic' }).map (absPhase c), false⟩) :
    Core isMap c L n st' := by
  obtain ⟨hnr, hns, _, _⟩ := h.acting hw hl hpc
  obtain ⟨len, noPanic, noUnsync, wk, counter, kle, ret, mon⟩ := h
  have W := wk i w hw
  refine ⟨by rw [hworkers]; simpa using len, hp, hu, ?_, ?_, ?_, ?_, ?_⟩
  · rw [hworkers, hmain]
    exact forall_set (P := fun j (w : Worker) => WkOk c L n st.main j w) wk
      ⟨W.live_iff, fun h => (by rw [hl] at h; cases h), W.arg, hpc', hin⟩
  · have hset := countP_set_add (fun w => decide (w.pc = L))
      ({ w with pc := pc', inCall := ic' } : Worker) hw
    have hne : ¬ (w.pc = L) := Nat.ne_of_lt hpc
    simp only [decide_eq_true_eq, hne, if_false, Nat.add_zero] at hset
    rw [hcounter, counter, hmain]
    simp only [doneCount, hworkers]
    rw [hset]
    by_cases hL' : pc' = L
    · simp only [hL', if_true]; omega
    · simp only [hL', if_false]; omega
  · intro k hk; rw [hmain] at hk; exact kle k hk
  · intro hr; rw [hmain] at hr; exact absurd hr hnr
  · rw [hmon, hworkers, hmain]
    simp [hnr]

theorem stepWorker_enter {b : BodyStep}
    (hs : s.args = .byValue) (hb : s.body[w.pc]? = some b)
    (hk : b = .call ∨ b = .callWrite) (hic : w.inCall = false) :
    stepWorker s n st i w =
      { st with log := st.log ++ [.callStart w.arg],
                workers := st.workers.set i { w with inCall := true } } := by
  rcases hk with rfl | rfl <;> simp [stepWorker, hb, hic, readArg, hs]

/-- `lock`, and `unlock` by the holder, anywhere but at the callback statement: neither the log
nor the phase of the worker changes -/
theorem core_work_silent
    {b : BodyStep} (h : Core isMap c L n st) (hw : st.workers[i]? = some w)
    (hl : w.live = true) (hb : s.body[w.pc]? = some b)
    (hk : b = .lock ∨ b = .unlock ∧ st.mutex = some i) (hpc : w.pc + 1 < L) (hne : w.pc ≠ c) :
    Core isMap c L n (stepWorker s n st i w) := by
  have hlt : w.pc < L := Nat.lt_of_succ_lt hpc
  obtain ⟨hnr, _, _, _⟩ := h.acting hw hl hlt
  have W := h.wk i w hw
  have hic : w.inCall = false := by
    cases hic : w.inCall with
    | false => rfl
    | true => exact absurd (W.inCall hic) hne
  have habs : absPhase c { w with pc := w.pc + 1, inCall := false } = absPhase c w := by
    simp only [absPhase, hic, Bool.false_eq_true, if_false]
    by_cases h1 : c < w.pc
    · rw [if_pos h1, if_pos (Nat.lt_succ_of_lt h1)]
    · rw [if_neg h1, if_neg (by omega)]
  have key : ∀ mx : Option Nat, Core isMap c L n
      { st with mutex := mx,
                workers := st.workers.set i { w with pc := w.pc + 1, inCall := false } } := by
    intro mx
    refine core_update h hw hl hlt rfl rfl h.noPanic h.noUnsync
      (Nat.le_of_lt hpc) (fun h => Bool.noConfusion h) ?_ ?_
    · show st.counter = st.counter - (if w.pc + 1 = L then 1 else 0)
      rw [if_neg (Nat.ne_of_lt hpc)]; exact (Int.sub_zero _).symm
    · show runMon isMap n (observe st.log) = _
      rw [h.mon, List.map_set, habs, set_eq_self_of_getElem? (by rw [List.getElem?_map, hw]; rfl)]
      simp [hnr]
  rcases hk with rfl | ⟨rfl, hm⟩
  · simp only [stepWorker, hb]; exact key _
  · simp only [stepWorker, hb, if_pos hm]; exact key _

/-- the callback statement (`call`, or `callWrite` under the mutex): entered when, for Map, no
other callback is running; left with `callEnd` as the one observable event -/
theorem core_work_call
    {b : BodyStep} (hs : s.args = .byValue) (h : Core isMap c L n st)
    (hw : st.workers[i]? = some w) (hl : w.live = true) (hb : s.body[w.pc]? = some b)
    (hk : b = .call ∨ b = .callWrite ∧ (w.inCall = true → st.mutex = some i))
    (hpc : w.pc = c) (hcL : c + 1 < L)
    (hexcl : isMap = true → w.inCall = false → ∀ (j : Nat) (v : Worker),
    st.workers[j]? = some v → absPhase c v ≠ .running) :
    Core isMap c L n (stepWorker s n st i w) := by
  have hlt : w.pc < L := by rw [hpc]; exact Nat.lt_of_succ_lt hcL
  obtain ⟨hnr, _, ha, _⟩ := h.acting hw hl hlt
  have hphase : ∀ p : Phase, absPhase c w = p → (st.workers.map (absPhase c))[w.arg]? = some p := by
    intro p hp; rw [ha, List.getElem?_map, hw, ← hp]; rfl
  cases hic : w.inCall with
  | false =>
    rw [stepWorker_enter hs hb (hk.imp id And.left) hic]
    refine core_update h hw hl hlt rfl rfl h.noPanic h.noUnsync
      (Nat.le_of_lt hlt) (fun _ => hpc) ?_ ?_
    · show st.counter = st.counter - (if w.pc = L then 1 else 0)
      rw [if_neg (Nat.ne_of_lt hlt)]; exact (Int.sub_zero _).symm
    · show runMon isMap n (observe (st.log ++ [.callStart w.arg])) = _
      rw [observe_snoc_obs _ (by rfl), runMon_snoc, h.mon]
      simp only [Option.bind_some, monStep, hnr, decide_false]
      rw [if_pos, List.map_set, ha]
      · simp [absPhase, hpc]
      · refine ⟨trivial, hphase _ (by simp [absPhase, hpc, hic]), ?_⟩
        intro hm p hp
        rw [List.mem_map] at hp
        obtain ⟨v, hv, rfl⟩ := hp
        obtain ⟨j, hj⟩ := List.mem_iff_getElem?.1 hv
        exact hexcl hm hic j v hj
  | true =>
    have key : ∀ st' : State,
        st'.workers = st.workers.set i { w with pc := w.pc + 1, inCall := false } →
        st'.main = st.main → st'.panicked = false → st'.unsyncWrite = false →
        st'.counter = st.counter → observe st'.log = observe st.log ++ [.callEnd w.arg] →
        Core isMap c L n st' := by
      intro st' h1 h2 h3 h4 h5 h6
      refine core_update h hw hl hlt h1 h2 h3 h4
        hlt (fun h => Bool.noConfusion h) ?_ ?_
      · show st'.counter = st.counter - (if w.pc + 1 = L then 1 else 0)
        rw [h5, if_neg (by rw [hpc]; exact Nat.ne_of_lt hcL)]; exact (Int.sub_zero _).symm
      · rw [h6, runMon_snoc, h.mon]
        simp only [Option.bind_some, monStep, hnr, decide_false]
        rw [if_pos ⟨trivial, hphase _ (by simp [absPhase, hpc, hic])⟩, List.map_set, ha]
        simp [absPhase, hpc]
    rcases hk with rfl | ⟨rfl, hm⟩
    · simp only [stepWorker, hb, hic, if_true]
      exact key _ rfl rfl h.noPanic h.noUnsync rfl (observe_snoc_obs _ (by rfl))
    · simp only [stepWorker, hb, hic, if_true]
      exact key _ rfl rfl h.noPanic (by simp [h.noUnsync, hm hic]) rfl
        (by simp [observe, List.filter_append, List.filter_cons, Event.observable])

/-- `group.Done()` as the last statement -/
theorem core_work_done
    (h : Core isMap c L n st) (hw : st.workers[i]? = some w) (hl : w.live = true)
    (hb : s.body[w.pc]? = some .done) (hpc : w.pc + 1 = L) (hc : c < w.pc) :
    Core isMap c L n (stepWorker s n st i w) := by
  have hlt : w.pc < L := by rw [← hpc]; exact Nat.lt_succ_self _
  obtain ⟨hnr, hns, _, _⟩ := h.acting hw hl hlt
  have hpos : 0 < st.counter := by
    have hlt := countP_lt_length_of (fun w => decide (w.pc = L)) hw
      (decide_eq_false (Nat.ne_of_lt hlt))
    have := h.counter
    rw [if_neg hns] at this
    simp only [doneCount] at this
    rw [h.len] at hlt
    omega
  simp only [stepWorker, hb]
  refine core_update h hw hl hlt rfl rfl ?_ h.noUnsync
    hlt (fun h => Bool.noConfusion h) ?_ ?_
  · show (st.panicked || decide (st.counter - 1 < 0)) = false
    rw [h.noPanic]; simp; omega
  · show st.counter - 1 = st.counter - (if w.pc + 1 = L then 1 else 0)
    rw [if_pos hpc]
  · show runMon isMap n (observe st.log) = _
    rw [h.mon, List.map_set]
    have : absPhase c { w with pc := w.pc + 1, inCall := false } = absPhase c w := by
      simp only [absPhase]; rw [if_pos (Nat.lt_succ_of_lt hc), if_pos hc]
    rw [this, set_eq_self_of_getElem? (by rw [List.getElem?_map, hw]; rfl)]
    simp [hnr]

/-- the log of a state in terms of the workers' program counters -/
theorem Core.counts {isMap : Bool} {c L n : Nat} {st : State} (h : Core isMap c L n st)
    (i : Nat) :
    st.log.count (.callStart i)
        = (match st.workers[i]? with
           | some w => if c < w.pc ∨ w.inCall = true then 1 else 0
           | none => 0) ∧
    st.log.count (.callEnd i)
        = (match st.workers[i]? with
           | some w => if c < w.pc then 1 else 0
           | none => 0) := by
  have S := monSeen_of_runMon _ _ h.mon
  have h1 := S.starts i
  have h2 := S.ends i
  rw [count_observe _ (by rfl)] at h1 h2
  rw [h1, h2]
  simp only [List.getElem?_map]
  cases hw : st.workers[i]? with
  | none => simp
  | some w =>
    simp only [Option.map_some, Option.some.injEq, absPhase]
    by_cases h1 : c < w.pc
    · simp [h1]
    · cases h2 : w.inCall <;> simp [h1]

theorem Core.no_events_out_of_range
    (h : Core isMap c L n st) (i : Nat) (hi : n ≤ i) :
    Event.callStart i ∉ st.log ∧ Event.callEnd i ∉ st.log := by
  have hnone : st.workers[i]? = none := List.getElem?_eq_none (by rw [h.len]; exact hi)
  have := h.counts i
  rw [hnone] at this
  exact ⟨List.count_eq_zero.1 this.1, List.count_eq_zero.1 this.2⟩

theorem Core.returned_all (h : Core isMap c L n st)
    (hcL : c < L) (hr : st.main = .returned) (i : Nat) (hi : i < n) :
    ∃ w, st.workers[i]? = some w ∧ w.live = true ∧ w.pc = L ∧ w.inCall = false ∧ w.arg = i := by
  have hi' : i < st.workers.length := by rw [h.len]; exact hi
  refine ⟨st.workers[i], List.getElem?_eq_getElem hi', ?_⟩
  have W := h.wk i _ (List.getElem?_eq_getElem hi')
  have hl : st.workers[i].live = true := W.live_iff.2 (by simpa [hr, spawnedCount] using hi)
  have hpc := h.ret hr _ (List.getElem_mem hi')
  refine ⟨hl, hpc, ?_, W.arg hl⟩
  cases hic : st.workers[i].inCall with
  | false => rfl
  | true => have := W.inCall hic; omega

theorem Core.trace_valid (h : Core isMap c L n st)
    (hr : st.main = .returned) : validTrace isMap n (observe st.log) = true := by
  simp [validTrace, h.mon, hr]

theorem Core.exists_unfinished
    (h : Core isMap c L n st) (hn : st.main = .spawned n) (hc : st.counter ≠ 0) :
    ∃ (i : Nat) (w : Worker), st.workers[i]? = some w ∧ w.live = true ∧ w.pc < L := by
  have hcnt := h.counter
  simp only [hn, reduceCtorEq, if_false] at hcnt
  have hle : doneCount L st ≤ st.workers.length := List.countP_le_length
  have hlt : doneCount L st < st.workers.length := by
    rw [h.len] at hle ⊢; omega
  obtain ⟨i, w, hw, hp⟩ := exists_not_of_countP_lt _ hlt
  have W := h.wk i w hw
  have hi := lt_length_of_getElem? hw
  rw [h.len] at hi
  refine ⟨i, w, hw, W.live_iff.2 (by simpa [hn, spawnedCount] using hi), ?_⟩
  have := W.pc_le
  simp only [decide_eq_false_iff_not] at hp
  omega

theorem Core.counter_nonneg {isMap : Bool} {c L n : Nat}
    (h : Core isMap c L n st) (hL : 0 < L) : 0 ≤ st.counter := by
  have hcnt := h.counter
  have hle : doneCount L st ≤ st.workers.length := List.countP_le_length
  rw [h.len] at hle
  by_cases hs : st.main = .start
  · have : doneCount L st = 0 := by
      simp only [doneCount]
      rw [List.countP_eq_zero]
      intro w hw
      obtain ⟨j, hj⟩ := List.mem_iff_getElem?.1 hw
      have := h.basic.fresh j (by rw [hs]; exact Nat.zero_le j) (h.len ▸ lt_length_of_getElem? hj)
      rw [hj] at this
      cases this
      simp; omega
    rw [if_pos hs, this] at hcnt
    omega
  · rw [if_neg hs] at hcnt
    omega

theorem Core.progress (s : Skel)
    (h : Core isMap c L n st) (hr : st.main ≠ .returned) :
    (∃ a, isEnabled s n st a = true) ∨
    ∃ (i : Nat) (w : Worker), i < n ∧ st.workers[i]? = some w ∧ w.live = true ∧ w.pc < L := by
  have hp := h.noPanic
  cases hm : st.main with
  | returned => exact absurd hm hr
  | start => exact .inl ⟨.add, by simp [isEnabled, hp, hm]⟩
  | spawned k =>
    have hk := h.kle k hm
    by_cases hkn : k < n
    · exact .inl ⟨.spawn, by simp [isEnabled, hp, hm, hkn]⟩
    · have hkn' : k = n := Nat.le_antisymm hk (Nat.le_of_not_lt hkn)
      rw [hkn'] at hm
      by_cases hc : st.counter = 0
      · exact .inl ⟨.wait, by simp [isEnabled, hp, hm, hc]⟩
      · obtain ⟨i, w, hw, hl, hpc⟩ := h.exists_unfinished hm hc
        have hi := lt_length_of_getElem? hw
        rw [h.len] at hi
        exact .inr ⟨i, w, hi, hw, hl, hpc⟩

end Anytype.Async
