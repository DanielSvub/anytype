/-
Strict decoder vs. lenient parser, part 2: strings.

A successful `Strict.stringBody` (every surrogate escape properly paired) has read a "raw body"
(plain characters and backslash + one character) up to the closing quote; the parser's `.str` / `.key`
states copy such a body verbatim, and the library's `unquoteJSON` decodes it to the same string.
-/
import Anytype.Lemmas.StrictVsParserNum
import Anytype.Lemmas.RoundTrip
namespace Anytype
namespace SVP
open Strict

/-- raw string bodies as the `.str`/`.key` states read them: plain characters and
backslash + one character -/
inductive RawBody : Str → Prop
  | nil : RawBody []
  | plain (c : Char) (t : Str) : c ≠ '"' → c ≠ '\\' → c ≠ '\n' → RawBody t → RawBody (c :: t)
  | esc (e : Char) (t : Str) : e ≠ '\n' → RawBody t → RawBody ('\\' :: e :: t)

theorem RawBody.plains (q : Str) (hq : ∀ c ∈ q, c ≠ '"' ∧ c ≠ '\\' ∧ c ≠ '\n') {t : Str} (h : RawBody t) :
    RawBody (q ++ t) := by
  induction q with
  | nil => exact h
  | cons c q ih =>
    have := hq c (by simp)
    exact .plain c _ this.1 this.2.1 this.2.2 (ih (fun d hd => hq d (by simp [hd])))

theorem hexCharVal_plain {c : Char} {n : Nat} (h : hexCharVal c = some n) : c ≠ '"' ∧ c ≠ '\\' ∧ c ≠ '\n' := by
  have a : hexCharVal '"' = none := by decide
  have b : hexCharVal '\\' = none := by decide
  have c' : hexCharVal '\n' = none := by decide
  refine ⟨?_, ?_, ?_⟩ <;> (intro e; subst e; simp_all)

theorem hex4_shape (s : Str) (r : Nat) (rest : Str) (h : hex4 s = some (r, rest)) :
    ∃ q : Str, s = q ++ rest ∧ (∀ X, hex4 (q ++ X) = some (r, X)) ∧
      (∀ c ∈ q, c ≠ '"' ∧ c ≠ '\\' ∧ c ≠ '\n') := by
  unfold hex4 at h
  split at h
  · rename_i a b c d rest'
    split at h
    · rename_i x y z w ha hb hc hd
      cases h
      refine ⟨[a, b, c, d], rfl, fun X => by simp [hex4, ha, hb, hc, hd], ?_⟩
      intro e he
      simp only [List.mem_cons, List.not_mem_nil, or_false] at he
      rcases he with rfl | rfl | rfl | rfl
      · exact hexCharVal_plain ha
      · exact hexCharVal_plain hb
      · exact hexCharVal_plain hc
      · exact hexCharVal_plain hd
    · cases h
  · cases h

/-- `t` is a raw body, the closing quote and `rest`; `unquoteAux` from `acc` decodes the body to `str` -/
def Good (t acc str rest : Str) : Prop :=
  ∃ body, t = body ++ '"' :: rest ∧ RawBody body ∧ ∀ F, body.length < F → unquoteAux F body acc = some str

theorem Good.step {pre t' acc acc' str rest : Str} (hg : Good t' acc' str rest)
    (hraw : ∀ b, RawBody b → RawBody (pre ++ b))
    (hun : ∀ F b, unquoteAux (F + 1) (pre ++ b) acc = unquoteAux F b acc') (hpos : 0 < pre.length) :
    Good (pre ++ t') acc str rest := by
  obtain ⟨body, ht, hr, hu⟩ := hg
  refine ⟨pre ++ body, by rw [ht, List.append_assoc], hraw _ hr, ?_⟩
  intro F hF
  cases F with
  | zero => omega
  | succ F =>
    rw [hun]
    apply hu
    simp only [List.length_append] at hF
    omega

theorem sb_quote (f : Nat) (t acc : Str) (lone : Bool) :
    stringBody (f + 1) ('"' :: t) acc lone = some (if lone then none else some acc, t) := by
  simp [stringBody]

theorem sb_ctrl (f : Nat) (c : Char) (t acc : Str) (lone : Bool) (h1 : c ≠ '"') (h2 : c.toNat < 0x20) :
    stringBody (f + 1) (c :: t) acc lone = none := by
  simp [stringBody, h1, h2]

theorem sb_plain (f : Nat) (c : Char) (t acc : Str) (lone : Bool) (h1 : c ≠ '"') (h2 : ¬ c.toNat < 0x20) (h3 : c ≠ '\\') :
    stringBody (f + 1) (c :: t) acc lone = stringBody f t (acc ++ [c]) lone := by
  simp [stringBody, h1, h2, h3]

theorem sb_esc_nil (f : Nat) (acc : Str) (lone : Bool) : stringBody (f + 1) ['\\'] acc lone = none := by
  simp [stringBody]

/-- the character a two-character escape stands for (`\u` apart); both readers use this table -/
def escVal : Char → Option Char
  | '"' => some '"'
  | '\\' => some '\\'
  | '/' => some '/'
  | 'b' => some '\x08'
  | 'f' => some '\x0c'
  | 'n' => some '\n'
  | 'r' => some '\r'
  | 't' => some '\t'
  | _ => none

theorem escVal_ne_nl {e x : Char} (h : escVal e = some x) : e ≠ '\n' := by
  rintro rfl
  cases h

theorem sb_esc {e x : Char} (h : escVal e = some x) (f : Nat) (t acc : Str) (lone : Bool) :
    stringBody (f + 1) ('\\' :: e :: t) acc lone = stringBody f t (acc ++ [x]) lone := by
  unfold escVal at h
  split at h
  all_goals cases h
  all_goals simp [stringBody]

theorem sb_esc_u (fuel : Nat) (t' acc : Str) (lone : Bool) :
    stringBody (fuel + 1) ('\\' :: 'u' :: t') acc lone =
    match hex4 t' with
    | none => none
    | some (r, t'') =>
      if 0xD800 ≤ r ∧ r < 0xDC00 then
        match t'' with
        | '\\' :: 'u' :: u =>
          match hex4 u with
          | some (low, u') =>
            if 0xDC00 ≤ low ∧ low < 0xE000 then
              stringBody fuel u' (acc ++ [charOfNat ((r - 0xD800) * 1024 + (low - 0xDC00) + 0x10000)]) lone
            else stringBody fuel t'' (acc ++ [replacementChar]) true
          | none => none
        | _ => stringBody fuel t'' (acc ++ [replacementChar]) true
      else if 0xDC00 ≤ r ∧ r < 0xE000 then stringBody fuel t'' (acc ++ [replacementChar]) true
      else stringBody fuel t'' (acc ++ [charOfNat r]) lone := by
  simp [stringBody]
  rfl

theorem sb_esc_bad {e : Char} (h : escVal e = none) (hu : e ≠ 'u') (f : Nat) (t acc : Str) (lone : Bool) :
    stringBody (f + 1) ('\\' :: e :: t) acc lone = none := by
  unfold escVal at h
  split at h
  iterate 8 cases h
  simp_all [stringBody]

theorem uq_plain (F : Nat) (c : Char) (b acc : Str) (h : c ≠ '\\') :
    unquoteAux (F + 1) ([c] ++ b) acc = unquoteAux F b (acc ++ [c]) := by
  simp [unquoteAux, h]

theorem uq_esc {e x : Char} (h : escVal e = some x) (F : Nat) (b acc : Str) :
    unquoteAux (F + 1) (['\\', e] ++ b) acc = unquoteAux F b (acc ++ [x]) := by
  unfold escVal at h
  split at h
  all_goals cases h
  all_goals simp [unquoteAux]

theorem uq_esc_u (F : Nat) (q b acc : Str) (r : Nat) (hq : ∀ X, hex4 (q ++ X) = some (r, X))
    (hr : ¬ (0xD800 ≤ r ∧ r < 0xDC00)) (hr' : ¬ (0xDC00 ≤ r ∧ r < 0xE000)) :
    unquoteAux (F + 1) (('\\' :: 'u' :: q) ++ b) acc = unquoteAux F b (acc ++ [charOfNat r]) := by
  have : ¬ (0xD800 ≤ r ∧ r < 0xE000) := by omega
  simp only [List.cons_append, unquoteAux, bne_self_eq_false, Bool.false_eq_true, if_false]
  simp [hq, this]

theorem uq_esc_pair (F : Nat) (q q2 b acc : Str) (r low : Nat) (hq : ∀ X, hex4 (q ++ X) = some (r, X))
    (hq2 : ∀ X, hex4 (q2 ++ X) = some (low, X))
    (hr : 0xD800 ≤ r ∧ r < 0xDC00) (hl : 0xDC00 ≤ low ∧ low < 0xE000) :
    unquoteAux (F + 1) (('\\' :: 'u' :: q ++ '\\' :: 'u' :: q2) ++ b) acc =
      unquoteAux F b (acc ++ [charOfNat ((r - 0xD800) * 1024 + (low - 0xDC00) + 0x10000)]) := by
  have h1 : 0xD800 ≤ r ∧ r < 0xE000 := by omega
  have h2 : r < 0xDC00 := hr.2
  have e : ('\\' :: 'u' :: q ++ '\\' :: 'u' :: q2) ++ b = '\\' :: 'u' :: (q ++ ('\\' :: 'u' :: (q2 ++ b))) := by simp
  rw [e]
  simp only [unquoteAux, bne_self_eq_false, Bool.false_eq_true, if_false]
  simp [hq, hq2, h1, h2, hl]

/-- the lemma behind `C03_strings` -/
theorem stringBody_sound : ∀ (fuel : Nat) (t acc : Str) (lone : Bool) (str rest : Str),
    stringBody fuel t acc lone = some (some str, rest) → lone = false ∧ Good t acc str rest := by
  intro fuel
  induction fuel with
  | zero => intro t acc lone str rest h; simp [stringBody] at h
  | succ fuel ih =>
    intro t acc lone str rest h
    -- a recursive call with the flag set cannot succeed
    have hlone : ∀ {t acc}, stringBody fuel t acc true ≠ some (some str, rest) :=
      fun h => nomatch (ih _ _ _ _ _ h).1
    cases t with
    | nil => simp [stringBody] at h
    | cons c t =>
      by_cases h1 : c = '"'
      · subst h1; rw [sb_quote] at h
        cases lone with
        | true => simp at h
        | false =>
          simp at h
          obtain ⟨rfl, rfl⟩ := h
          refine ⟨rfl, [], rfl, .nil, ?_⟩
          intro F hF
          cases F with
          | zero => simp at hF
          | succ F => simp [unquoteAux]
      by_cases h2 : c.toNat < 0x20
      · rw [sb_ctrl _ _ _ _ _ h1 h2] at h; cases h
      by_cases h3 : c = '\\'
      · subst h3
        cases t with
        | nil => rw [sb_esc_nil] at h; cases h
        | cons e t' =>
          cases hv : escVal e with
          | some x =>
            rw [sb_esc hv] at h
            exact (ih _ _ _ _ _ h).imp_right fun hg => hg.step (pre := ['\\', e])
              (fun b hb => .esc e b (escVal_ne_nl hv) hb) (fun F b => uq_esc hv F b acc) (by simp)
          | none =>
          by_cases hu : e = 'u'
          · subst hu; rw [sb_esc_u] at h
            cases hx : hex4 t' with
            | none => rw [hx] at h; cases h
            | some p =>
              obtain ⟨r, t''⟩ := p
              rw [hx] at h
              simp only [] at h
              obtain ⟨q, rfl, hq, hqp⟩ := hex4_shape _ _ _ hx
              have hraw1 : ∀ b, RawBody b → RawBody (('\\' :: 'u' :: q) ++ b) := fun b hb =>
                .esc 'u' _ (by decide) (RawBody.plains q hqp hb)
              by_cases hr1 : 0xD800 ≤ r ∧ r < 0xDC00
              · rw [if_pos hr1] at h
                split at h
                · rename_i u
                  split at h
                  · rename_i low u' hx2
                    split at h
                    · rename_i hl
                      obtain ⟨q2, rfl, hq2, hq2p⟩ := hex4_shape _ _ _ hx2
                      refine (ih _ _ _ _ _ h).imp_right fun hg => ?_
                      have := Good.step (pre := '\\' :: 'u' :: q ++ '\\' :: 'u' :: q2) hg
                        (fun b hb => by
                          have := hraw1 _ (RawBody.esc 'u' _ (by decide) (RawBody.plains q2 hq2p hb))
                          simpa using this)
                        (fun F b => uq_esc_pair F q q2 b acc r low hq hq2 hr1 hl) (by simp)
                      simpa using this
                    · exact absurd h hlone
                  · cases h
                · exact absurd h hlone
              · rw [if_neg hr1] at h
                by_cases hr2 : 0xDC00 ≤ r ∧ r < 0xE000
                · rw [if_pos hr2] at h
                  exact absurd h hlone
                · rw [if_neg hr2] at h
                  refine (ih _ _ _ _ _ h).imp_right fun hg => ?_
                  have := Good.step (pre := '\\' :: 'u' :: q) hg hraw1
                    (fun F b => uq_esc_u F q b acc r hq hr1 hr2) (by simp)
                  simpa using this
          · rw [sb_esc_bad hv hu] at h
            cases h
      · rw [sb_plain _ _ _ _ _ h1 h2 h3] at h
        exact (ih _ _ _ _ _ h).imp_right fun hg => hg.step (pre := [c])
          (fun b hb => .plain c b h1 h3 (fun e => h2 (e ▸ by decide)) hb) (fun F b => uq_plain F c b acc h3) (by simp)

theorem Good.unquote {t str rest : Str} (h : Good t [] str rest) :
    ∃ body, t = body ++ '"' :: rest ∧ RawBody body ∧ unquoteJSON body = str := by
  obtain ⟨body, ht, hr, hu⟩ := h
  exact ⟨body, ht, hr, by simp [unquoteJSON, hu (body.length + 1) (by omega)]⟩

/-! ### the machines copy a raw body verbatim -/
open RT

theorem RawBody.iff_verbatim {body : Str} : RawBody body ↔ Verbatim body := by
  constructor <;> intro h
  · induction h with
    | nil => exact .nil
    | plain _ _ h1 h2 h3 _ ih => exact .plain h1 h2 h3 ih
    | esc _ _ h3 _ ih => exact .esc h3 ih
  · induction h with
    | nil => exact .nil
    | plain h1 h2 h3 _ ih => exact .plain _ _ h1 h2 h3 ih
    | esc h3 _ ih => exact .esc _ _ h3 ih

theorem LRun_raw {body : Str} (hb : RawBody body) {rest acc val inVal line R}
    (h : LRun rest .str acc (val ++ body) inVal line R) : LRun (I body ++ rest) .str acc val inVal line R :=
  (RawBody.iff_verbatim.mp hb).run (P := fun v r => LRun r .str acc v inVal line R)
    (fun h1 h2 h3 h => LRun_str_plain h1 h2 h3 h) (fun h3 h => LRun_str_esc h3 h) h

theorem ORun_raw_str {body : Str} (hb : RawBody body) {rest acc key val inVal line R}
    (h : ORun rest .str acc key (val ++ body) inVal line R) :
    ORun (I body ++ rest) .str acc key val inVal line R :=
  (RawBody.iff_verbatim.mp hb).run (P := fun v r => ORun r .str acc key v inVal line R)
    (fun h1 h2 h3 h => ORun_str_plain h1 h2 h3 h) (fun h3 h => ORun_str_esc h3 h) h

theorem ORun_raw_key {body : Str} (hb : RawBody body) {rest acc key val inVal line R}
    (h : ORun rest .key acc (key ++ body) val inVal line R) :
    ORun (I body ++ rest) .key acc key val inVal line R :=
  (RawBody.iff_verbatim.mp hb).run (P := fun k r => ORun r .key acc k val inVal line R)
    (fun h1 h2 h3 h => ORun_key_plain h1 h2 h3 h) (fun h3 h => ORun_key_esc h3 h) h

end SVP
end Anytype
