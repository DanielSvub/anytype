/-
`AllIntsOK` (`Lemmas/IntsInvariantL`) is kept by the object operations, by `Init` (`setEgo`), by
clone / merge (`build ∘ reify`), by the tree-form writes and by `build` of a parsed JSON tree.  Again
no operation needs a precondition on its `GoVal` arguments or on a callback.  The one further
hypothesis is, for `build`, that the tree's ints are in range (`JVal.intsOK`); it holds for what
`reify` reads off a heap satisfying the invariant and for what the parser returns (proved on `pList` /
`pObject` directly, because `Lemmas/ParserExec` clashes by name with `Lemmas/HeapWF`).
-/
import Anytype.Lemmas.IntsInvariantL
import Anytype.Lemmas.Ego
import Anytype.Lemmas.Assoc
namespace Anytype
open Heap L2Eq

theorem setEgo_allIntsOK (h : Heap) (a e : Nat) (ok : AllIntsOK h) : AllIntsOK (h.setEgo a e) := by
  intro b
  rw [items_setEgo, fields_setEgo]
  exact ok b

namespace O

theorem setLoop_allIntsOK : ∀ (pairs : Pairs) (h : Heap) (a : Nat), AllIntsOK h →
    AllIntsOK (setLoop h a pairs).1
  | [], h, a, ok => by simp only [setLoop]; exact ok
  | (none, _) :: _, h, a, ok => by simp only [setLoop]; exact ok
  | (some k, g) :: rest, h, a, ok => by
    simp only [setLoop]
    exact .bind (parseVal_allIntsOK h g ok) fun h1 v ok1 hv =>
      setLoop_allIntsOK rest _ a (ok1.setKV a k hv)

theorem set_allIntsOK (h : Heap) (a : Nat) (pairs : Pairs) (odd : Bool) (ok : AllIntsOK h) :
    AllIntsOK (set h a pairs odd).1 := by
  unfold set
  exact .ite ok ((setLoop_allIntsOK pairs h a ok).wrap _)

theorem new_allIntsOK (h : Heap) (pairs : Pairs) (odd : Bool) (ok : AllIntsOK h) :
    AllIntsOK (new h pairs odd).1 := by
  unfold new
  exact (set_allIntsOK _ h.length pairs odd ok.alloc_obj).wrapRef _

theorem newFrom_allIntsOK (h : Heap) (g : GoVal) (ok : AllIntsOK h) : AllIntsOK (newFrom h g).1 := by
  unfold newFrom
  split
  · next fl kvs =>
    have ih := (parseVal_allIntsOK h (.map fl kvs) ok).1
    split <;> simp_all
  · exact ok

theorem unset_allIntsOK (h : Heap) (a : Nat) (keys : List Str) (ok : AllIntsOK h) :
    AllIntsOK (unset h a keys).1 :=
  ok.setFields a _ (fun kv hkv => (ok a).2 kv (mem_foldl_delKV keys hkv))

theorem clear_allIntsOK (h : Heap) (a : Nat) (ok : AllIntsOK h) : AllIntsOK (clear h a).1 :=
  ok.setFields a [] (by simp)

theorem keys_allIntsOK (h : Heap) (a : Nat) (ok : AllIntsOK h) : AllIntsOK (keys h a).1 :=
  ok.append (fun w hw => by
    obtain ⟨kv, _, rfl⟩ := List.mem_map.1 hw; trivial)

theorem values_allIntsOK (h : Heap) (a : Nat) (ok : AllIntsOK h) : AllIntsOK (values h a).1 :=
  ok.append (fun w hw => by
    obtain ⟨kv, hkv, rfl⟩ := List.mem_map.1 hw
    exact ok.getVal_field hkv)

theorem get_intOK (h : Heap) (a : Nat) (key : Str) (ok : AllIntsOK h) {v : Val} (hv : get h a key = .ok v) :
    IntOK v := by
  unfold get at hv
  split at hv
  · cases hv
  · next w hw =>
    cases hv
    exact ok.getVal_field (mem_of_lookup hw)

theorem pluckLoop_allIntsOK (a res : Nat) : ∀ (keys : List Str) (h : Heap), AllIntsOK h →
    AllIntsOK (pluckLoop h a res keys).1 := by
  intro keys
  induction keys with
  | nil => intro h ok; exact ok
  | cons k ks ih =>
    intro h ok
    unfold pluckLoop
    split
    · exact ok
    · next v hv => exact ih _ (ok.setKV res k (get_intOK h a k ok hv))

theorem pluck_allIntsOK (h : Heap) (a : Nat) (keys : List Str) (ok : AllIntsOK h) :
    AllIntsOK (pluck h a keys).1 := by
  unfold pluck
  exact (pluckLoop_allIntsOK a h.length keys _ ok.alloc_obj).wrap _

/-- the loop of `Map`: every callback result goes through `parseVal` (no hypothesis on the callback) -/
theorem mapLoop_allIntsOK (res : Nat) (f : Str → Val → GoVal) : ∀ (kvs : List (Str × Val)) (h : Heap),
    AllIntsOK h → AllIntsOK (mapLoop res f h kvs).1 := by
  intro kvs
  induction kvs with
  | nil => intro h ok; exact ok
  | cons kv kvs ih =>
    obtain ⟨k, item⟩ := kv
    intro h ok
    unfold mapLoop
    exact .bind (parseVal_allIntsOK h _ ok) fun h1 v ok1 hv => ih _ (ok1.setKV res k hv)

theorem map_allIntsOK (h : Heap) (a : Nat) (f : Str → Val → GoVal) (ok : AllIntsOK h) :
    AllIntsOK (map h a f).1 := by
  unfold map
  exact (mapLoop_allIntsOK h.length f (h.fields a) _ ok.alloc_obj).wrap _

theorem mapValues_allIntsOK (h : Heap) (a : Nat) (f : Val → GoVal) (ok : AllIntsOK h) :
    AllIntsOK (mapValues h a f).1 := map_allIntsOK h a _ ok

theorem mapKLoop_allIntsOK (res : Nat) (kd : Kind) (f : Val → GoVal) : ∀ (kvs : List (Str × Val)) (h : Heap),
    AllIntsOK h → AllIntsOK (mapKLoop res kd f h kvs).1 := by
  intro kvs
  induction kvs with
  | nil => intro h ok; exact ok
  | cons kv kvs ih =>
    obtain ⟨k, item⟩ := kv
    intro h ok
    unfold mapKLoop
    split
    · next x _ => exact .bind (parseVal_allIntsOK h (f x) ok) fun h1 v ok1 hv => ih _ (ok1.setKV res k hv)
    · exact ih h ok

theorem mapK_allIntsOK (h : Heap) (a : Nat) (kd : Kind) (f : Val → GoVal) (ok : AllIntsOK h) :
    AllIntsOK (mapK h a kd f).1 := by
  unfold mapK
  exact (mapKLoop_allIntsOK h.length kd f (h.fields a) _ ok.alloc_obj).wrap _

end O

mutual
/-- on pure trees (what `reify` reads off a heap, what the parser returns, what `build` is given) -/
def JVal.intsOK : JVal → Prop
  | .int i => InRange i
  | .list xs => intsOKList xs
  | .obj kvs => intsOKFields kvs
  | _ => True
def intsOKList : List JVal → Prop
  | [] => True
  | x :: xs => x.intsOK ∧ intsOKList xs
def intsOKFields : List (Str × JVal) → Prop
  | [] => True
  | (_, x) :: kvs => x.intsOK ∧ intsOKFields kvs
end

theorem intsOKList_nil : intsOKList [] := by simp only [intsOKList]
theorem intsOKFields_nil : intsOKFields [] := by simp only [intsOKFields]
theorem JVal.intsOK_str (s : Str) : (JVal.str s).intsOK := by simp only [JVal.intsOK]
theorem JVal.intsOK_list {xs : List JVal} (hx : intsOKList xs) : (JVal.list xs).intsOK := by
  simp only [JVal.intsOK]; exact hx
theorem JVal.intsOK_obj {kvs : List (Str × JVal)} (hx : intsOKFields kvs) : (JVal.obj kvs).intsOK := by
  simp only [JVal.intsOK]; exact hx

theorem intsOKList_iff {xs : List JVal} : intsOKList xs ↔ ∀ x ∈ xs, x.intsOK := by
  induction xs with
  | nil => simp [intsOKList]
  | cons x xs ih => simp [intsOKList, ih]

theorem intsOKFields_iff {kvs : List (Str × JVal)} : intsOKFields kvs ↔ ∀ kv ∈ kvs, kv.2.intsOK := by
  induction kvs with
  | nil => simp [intsOKFields]
  | cons kv kvs ih => obtain ⟨k, x⟩ := kv; simp [intsOKFields, ih]

theorem intsOKList_snoc {acc : List JVal} {x : JVal} (ha : intsOKList acc) (hx : x.intsOK) :
    intsOKList (acc ++ [x]) := by
  rw [intsOKList_iff] at ha ⊢
  intro y hy
  rcases List.mem_append.1 hy with hy | hy
  · exact ha y hy
  · rw [List.mem_singleton.1 hy]; exact hx

theorem intsOKFields_setField {acc : List (Str × JVal)} {x : JVal} (k : Str) (ha : intsOKFields acc)
    (hx : x.intsOK) : intsOKFields (setField acc k x) := by
  induction acc with
  | nil => simp only [setField, intsOKFields]; exact ⟨hx, trivial⟩
  | cons kv acc ih =>
    obtain ⟨k', v'⟩ := kv
    simp only [intsOKFields] at ha
    unfold setField
    split
    · simp only [intsOKFields]; exact ⟨hx, ha.2⟩
    · simp only [intsOKFields]; exact ⟨ha.1, ih ha.2⟩

/-- the lists `reifyList n` / `reifyFields n` return, given that `reify n` returns trees in range -/
theorem reifyList_intsOK_of (n : Nat) (h : Heap)
    (hr : ∀ v j, IntOK v → reify n h v = some j → j.intsOK)
    (vs : List Val) (js : List JVal) (hv : ∀ v ∈ vs, IntOK v) (e : reifyList n h vs = some js) :
    intsOKList js :=
  intsOKList_iff.2 fun j hj => by
    obtain ⟨v, hm, ej⟩ := Rf.reifyList_mem e j hj
    exact hr v j (hv v hm) ej

theorem reifyFields_intsOK_of (n : Nat) (h : Heap)
    (hr : ∀ v j, IntOK v → reify n h v = some j → j.intsOK)
    (kvs : List (Str × Val)) (js : List (Str × JVal)) (hv : ∀ kv ∈ kvs, IntOK kv.2)
    (e : reifyFields n h kvs = some js) : intsOKFields js := by
  rw [Rf.reifyFields_eq] at e
  obtain ⟨us, hus, rfl⟩ := Option.map_eq_some_iff.1 e
  have := reifyList_intsOK_of n h hr _ us (fun v hm => by
    obtain ⟨kv, hkv, rfl⟩ := List.mem_map.1 hm; exact hv kv hkv) hus
  exact intsOKFields_iff.2 fun kv hm => intsOKList_iff.1 this _ (List.of_mem_zip hm).2

theorem reify_intsOK {h : Heap} (ok : AllIntsOK h) : ∀ (n : Nat) (v : Val) (j : JVal),
    IntOK v → reify n h v = some j → j.intsOK := by
  intro n
  induction n with
  | zero =>
    intro v j hv e
    cases v <;> simp only [reify, reduceCtorEq, Option.some.injEq] at e <;> subst e <;>
      first | trivial | exact hv
  | succ n ih =>
    intro v j hv e
    cases v with
    | list r =>
      rw [Rf.reify_list_succ] at e
      split at e
      · obtain ⟨js, hjs, rfl⟩ := Option.map_eq_some_iff.1 e
        exact JVal.intsOK_list (reifyList_intsOK_of n h ih _ js (ok r.addr).1 hjs)
      · cases e
    | obj r =>
      rw [Rf.reify_obj_succ] at e
      split at e
      · obtain ⟨js, hjs, rfl⟩ := Option.map_eq_some_iff.1 e
        exact JVal.intsOK_obj (reifyFields_intsOK_of n h ih _ js (ok r.addr).2 hjs)
      · cases e
    | _ =>
      simp only [reify, Option.some.injEq] at e
      subst e
      first | trivial | exact hv

mutual
theorem build_allIntsOK : ∀ (h : Heap) (j : JVal), AllIntsOK h → j.intsOK →
    AllIntsOK (build h j).1 ∧ IntOK (build h j).2
  | h, .null, ok, _ => ⟨ok, trivial⟩
  | h, .bool _, ok, _ => ⟨ok, trivial⟩
  | h, .int i, ok, hj => ⟨ok, hj⟩
  | h, .float _, ok, _ => ⟨ok, trivial⟩
  | h, .str _, ok, _ => ⟨ok, trivial⟩
  | h, .list xs, ok, hj => by
    simp only [JVal.intsOK] at hj
    have ih := buildList_allIntsOK h xs ok hj
    simp only [build]
    exact ⟨ih.1.append ih.2, trivial⟩
  | h, .obj kvs, ok, hj => by
    simp only [JVal.intsOK] at hj
    have ih := buildFields_allIntsOK h kvs ok hj
    simp only [build]
    exact ⟨ih.1.append ih.2, trivial⟩
theorem buildList_allIntsOK : ∀ (h : Heap) (xs : List JVal), AllIntsOK h → intsOKList xs →
    AllIntsOK (buildList h xs).1 ∧ ∀ v ∈ (buildList h xs).2, IntOK v
  | h, [], ok, _ => by simp only [buildList]; exact ⟨ok, by simp⟩
  | h, x :: xs, ok, hj => by
    simp only [intsOKList] at hj
    have ih1 := build_allIntsOK h x ok hj.1
    have ih2 := buildList_allIntsOK (build h x).1 xs ih1.1 hj.2
    simp only [buildList]
    refine ⟨ih2.1, fun v hv => ?_⟩
    rcases List.mem_cons.1 hv with e | hm
    · rw [e]; exact ih1.2
    · exact ih2.2 v hm
theorem buildFields_allIntsOK : ∀ (h : Heap) (kvs : List (Str × JVal)), AllIntsOK h → intsOKFields kvs →
    AllIntsOK (buildFields h kvs).1 ∧ ∀ kv ∈ (buildFields h kvs).2, IntOK kv.2
  | h, [], ok, _ => by simp only [buildFields]; exact ⟨ok, by simp⟩
  | h, (k, x) :: kvs, ok, hj => by
    simp only [intsOKFields] at hj
    have ih1 := build_allIntsOK h x ok hj.1
    have ih2 := buildFields_allIntsOK (build h x).1 kvs ih1.1 hj.2
    simp only [buildFields]
    refine ⟨ih2.1, fun kv hv => ?_⟩
    rcases List.mem_cons.1 hv with e | hm
    · rw [e]; exact ih1.2
    · exact ih2.2 kv hm
end

namespace O

theorem clone_allIntsOK (h : Heap) (v : Val) (ok : AllIntsOK h) (hv : IntOK v) {h1 : Heap} {v1 : Val}
    (hc : clone h v = some (h1, v1)) : AllIntsOK h1 ∧ IntOK v1 := by
  unfold clone at hc
  obtain ⟨j, hj, e⟩ := Option.map_eq_some_iff.1 hc
  have := build_allIntsOK h j ok (reify_intsOK ok _ v j hv hj)
  rw [e] at this
  exact this

/-- `Clone()` is only ever called on a container: no side condition -/
theorem clone_list_allIntsOK (h : Heap) (r : Ref) (ok : AllIntsOK h) {h1 : Heap} {v1 : Val}
    (hc : clone h (.list r) = some (h1, v1)) : AllIntsOK h1 :=
  (clone_allIntsOK h (.list r) ok (by simp only [IntOK]) hc).1

theorem foldl_setKV_intOK (h : Heap) : ∀ (src acc : List (Str × Val)),
    (∀ kv ∈ src, IntOK kv.2) → (∀ kv ∈ acc, IntOK kv.2) →
    ∀ kv ∈ src.foldl (fun acc kv => setKV acc kv.1 (h.getVal kv.2)) acc, IntOK kv.2 := by
  intro src
  induction src with
  | nil => intro acc _ ha; exact ha
  | cons s src ih =>
    intro acc hs ha
    simp only [List.foldl_cons]
    exact ih _ (fun kv hkv => hs kv (List.mem_cons_of_mem _ hkv))
      (intOK_setKV ha (intOK_getVal h (hs s List.mem_cons_self)))

theorem merge_allIntsOK (h : Heap) (a another : Nat) (ok : AllIntsOK h) {h1 : Heap} {r : Ref}
    (hm : merge h a another = some (h1, r)) : AllIntsOK h1 := by
  unfold merge at hm
  split at hm
  · next h2 r2 hc =>
    cases hm
    have ok2 := (clone_allIntsOK h _ ok (by simp only [IntOK]) hc).1
    exact ok2.setFields _ _ (foldl_setKV_intOK h2 _ _ (ok2 another).2 (ok2 _).2)
  · cases hm

end O

namespace TF

theorem padNil_allIntsOK (h : Heap) (a n : Nat) (ok : AllIntsOK h) : AllIntsOK (padNil h a n) := by
  refine ok.setItems a _ (fun w hw => ?_)
  rcases List.mem_append.1 hw with hw | hw
  · exact (ok a).1 w hw
  · rw [(List.mem_replicate.1 hw).2]; trivial

/-- the fresh container of a step, and the reference to it -/
theorem allIntsOK_mk {h : Heap} (ok : AllIntsOK h) (w : Bool) :
    AllIntsOK (h ++ [if w then Cell.obj [] 0 else Cell.list [] 0]) ∧
    ∀ n, IntOK (if w then Val.obj ⟨n, 0⟩ else Val.list ⟨n, 0⟩) := by
  cases w
  · exact ⟨ok.alloc_list, fun _ => trivial⟩
  · exact ⟨ok.alloc_obj, fun _ => trivial⟩

theorem descendL_allIntsOK (h : Heap) (a : Nat) (i : Int) (w : Bool) (ok : AllIntsOK h) :
    AllIntsOK (stepL h a i w).1 := by
  obtain ⟨okm, hv⟩ := allIntsOK_mk ok w
  have okp := padNil_allIntsOK _ a (i - L.count h a).toNat okm
  unfold stepL
  refine .ite (okp.setItems a _ fun v hm => ?_) (.ite ?_ (.ite okm (okm.setItems a _ fun v hm => ?_)))
  · rcases List.mem_append.1 hm with hm | hm
    · exact (okp a).1 v hm
    · rw [List.mem_singleton.1 hm]; exact hv _
  · split <;> exact ok
  · rcases List.mem_or_eq_of_mem_set hm with hm | hm
    · exact (ok a).1 v hm
    · rw [hm]; exact hv _

theorem descendO_allIntsOK (h : Heap) (a : Nat) (key : Str) (w : Bool) (ok : AllIntsOK h) :
    AllIntsOK (stepO h a key w).1 := by
  obtain ⟨okm, hv⟩ := allIntsOK_mk ok w
  unfold stepO
  refine .ite ?_ (okm.setFields a _ (intOK_setKV (ok a).2 (hv _)))
  split <;> exact ok

mutual
/-- `SetTF` on a list / on an object (whatever the path, the value, the fuel) -/
theorem setL_allIntsOK (n : Nat) (h : Heap) (a : Nat) (tf : Str) (g : GoVal) (ok : AllIntsOK h) :
    AllIntsOK (setL n h a tf g).1 :=
  match n with
  | 0 => by simp only [setL]; exact ok
  | n + 1 => by
    rw [setL]
    split
    · exact ok
    · split
      · split
        · exact ok
        · exact .step (descendL_allIntsOK h a _ true ok) fun h1 c ok1 => setO_allIntsOK n h1 c _ g ok1
      · split
        · exact ok
        · exact .step (descendL_allIntsOK h a _ false ok) fun h1 c ok1 => setL_allIntsOK n h1 c _ g ok1
      · split
        · exact ok
        · exact .ite ((stepL_allIntsOK _ (.add a [g]) (padNil_allIntsOK h a _ ok)).wrapRef _)
            ((stepL_allIntsOK h (.replace a _ g) ok).wrapRef _)
theorem setO_allIntsOK (n : Nat) (h : Heap) (a : Nat) (tf : Str) (g : GoVal) (ok : AllIntsOK h) :
    AllIntsOK (setO n h a tf g).1 :=
  match n with
  | 0 => by simp only [setO]; exact ok
  | n + 1 => by
    rw [setO]
    split
    · exact ok
    · split
      · exact setO_allIntsOK n _ _ _ g (descendO_allIntsOK h a _ true ok)
      · exact setL_allIntsOK n _ _ _ g (descendO_allIntsOK h a _ false ok)
      · exact (O.set_allIntsOK h a _ false ok).wrapRef _
end

mutual
theorem unsetL_allIntsOK (n : Nat) (h : Heap) (a : Nat) (tf : Str) (ok : AllIntsOK h) :
    AllIntsOK (unsetL n h a tf).1 :=
  match n with
  | 0 => by simp only [unsetL]; exact ok
  | n + 1 => by
    rw [unsetL]
    split
    · exact ok
    · split
      · split
        · exact ok
        · split
          · exact unsetO_allIntsOK n _ _ _ ok
          · exact ok
          · exact ok
      · split
        · exact ok
        · split
          · exact unsetL_allIntsOK n _ _ _ ok
          · exact ok
          · exact ok
      · split
        · exact ok
        · exact (stepL_allIntsOK h (.delete a _) ok).wrapRef _
theorem unsetO_allIntsOK (n : Nat) (h : Heap) (a : Nat) (tf : Str) (ok : AllIntsOK h) :
    AllIntsOK (unsetO n h a tf).1 :=
  match n with
  | 0 => by simp only [unsetO]; exact ok
  | n + 1 => by
    rw [unsetO]
    split
    · exact ok
    · split
      · split
        · exact unsetO_allIntsOK n _ _ _ ok
        · exact ok
        · exact ok
      · split
        · exact unsetL_allIntsOK n _ _ _ ok
        · exact ok
        · exact ok
      · next key _ => exact O.unset_allIntsOK h a [key] ok
end

end TF

/-! ### the parser only produces in-range ints -/

/-- the hypothesis is `parseIntBase0` after its sign has been split off, written out: the sign pair is a
`match` inside the model's definition that can be generalised only by unification with this text -/
theorem parseIntTail_inRange (neg : Bool) (body : Str) (i : Int)
    (h : (match parseUintBase0 body with
      | none => none
      | some n =>
        if body.contains '_' && !F64.underscoreOK body then none
        else if !neg && n ≥ 2^63 then none
        else if neg && n > 2^63 then none
        else some (if neg then -(n : Int) else (n : Int))) = some i) : InRange i := by
  split at h
  · cases h
  · next n _ =>
    simp only [Option.ite_none_left_eq_some, Option.some.injEq] at h
    obtain ⟨_, hpos, hneg, rfl⟩ := h
    unfold InRange
    cases neg
    · simp only [Bool.not_false, Bool.true_and, decide_eq_true_eq] at hpos
      simp only [Bool.false_eq_true, if_false]; omega
    · simp only [Bool.true_and, decide_eq_true_eq] at hneg
      simp only [if_true]; omega

theorem parseIntBase0_inRange {s : Str} {i : Int} (h : parseIntBase0 s = some i) : InRange i := by
  unfold parseIntBase0 at h
  split at h
  · cases h
  · simp only [] at h
    exact parseIntTail_inRange _ _ i h

theorem parseField_intsOK {field : Str} {line : Nat} {j : JVal} (h : parseField field line = .ok j) :
    j.intsOK := by
  unfold parseField at h
  split at h
  · cases h; trivial
  · split at h
    · next i hi => cases h; exact parseIntBase0_inRange hi
    · split at h
      · cases h; trivial
      · split at h
        · cases h; trivial
        · cases h

/-- on the result of a parser machine: the tree it returns, if it returns one -/
def PRes.intsOK : PRes → Prop
  | .ok v _ _ => v.intsOK
  | .err _ => True

theorem PRes.intsOK_err (e : PErr) : (PRes.err e).intsOK := trivial
theorem PRes.intsOK_ok {v : JVal} {rest : List Item} {l : Nat} : (PRes.ok v rest l).intsOK ↔ v.intsOK :=
  Iff.rfl
theorem PRes.intsOK_of_eq {r : PRes} {v : JVal} {rest : List Item} {l : Nat} (hr : r.intsOK)
    (e : r = .ok v rest l) : v.intsOK := by subst e; exact hr

/-! One step of a machine is a tree of `if`s whose leaves fail, return the accumulator, run on with an
accumulator extended by a string, or bind a parsed field or the result of a nested machine and go on
with another such tree.  The next three lemmas take the property through the inner nodes. -/

theorem PRes.intsOK_ite {c : Prop} [Decidable c] {a b : PRes} (ha : a.intsOK) (hb : b.intsOK) :
    (if c then a else b).intsOK := by split <;> assumption

theorem PRes.intsOK_nested {r : PRes} {k : JVal → List Item → Nat → PRes} (hr : r.intsOK)
    (hk : ∀ v rest l, v.intsOK → (k v rest l).intsOK) :
    PRes.intsOK (match r with | .err e => .err e | .ok v rest l => k v rest l) := by
  cases r with
  | err e => trivial
  | ok v rest l => exact hk v rest l hr

theorem PRes.intsOK_field {val : Str} {line : Nat} {k : JVal → PRes} (hk : ∀ v, v.intsOK → (k v).intsOK) :
    PRes.intsOK (match parseField val line with | .error e => .err e | .ok f => k f) := by
  cases h : parseField val line with
  | error e => trivial
  | ok v => exact hk v (parseField_intsOK h)

theorem pMachines_intsOK (f : Nat) :
    (∀ items st acc val iv line, intsOKList acc → (pList f items st acc val iv line).intsOK) ∧
    (∀ items st acc key val iv line, intsOKFields acc → (pObject f items st acc key val iv line).intsOK) := by
  induction f with
  | zero => constructor <;> intros <;> simp only [pList, pObject] <;> trivial
  | succ f ih =>
    obtain ⟨ihL, ihO⟩ := ih
    constructor
    · intro items st acc val iv line hacc
      match items with
      | [] => simp only [pList]; trivial
      | none :: _ => simp only [pList]; trivial
      | some c :: rest =>
        cases st <;> simp only [pList] <;> repeat' apply PRes.intsOK_ite
        -- the leaves that fail, return or run on: by the induction hypotheses (found by `*`)
        all_goals try simp only [*, PRes.intsOK_ok, JVal.intsOK_list, JVal.intsOK_str, intsOKList_snoc]
        -- what is left binds the result of a nested machine or a field, and goes on likewise
        all_goals first | apply PRes.intsOK_nested | apply PRes.intsOK_field
        all_goals (try intros) <;> repeat' apply PRes.intsOK_ite
        all_goals simp only [*, PRes.intsOK_ok, JVal.intsOK_list, intsOKList_nil, intsOKFields_nil,
          intsOKList_snoc]
    · intro items st acc key val iv line hacc
      match items with
      | [] => simp only [pObject]; trivial
      | none :: _ => simp only [pObject]; trivial
      | some c :: rest =>
        cases st <;> simp only [pObject] <;> repeat' apply PRes.intsOK_ite
        all_goals try simp only [*, PRes.intsOK_ok, PRes.intsOK_err, JVal.intsOK_obj, JVal.intsOK_str,
          intsOKFields_setField]
        all_goals first | apply PRes.intsOK_nested | apply PRes.intsOK_field
        all_goals (try intros) <;> repeat' apply PRes.intsOK_ite
        all_goals simp only [*, PRes.intsOK_ok, JVal.intsOK_obj, intsOKList_nil, intsOKFields_nil,
          intsOKFields_setField]

theorem parseListBytes_intsOK {bs : List UInt8} {v : JVal} (h : parseListBytes bs = .ok v) : v.intsOK := by
  unfold parseListBytes at h
  split at h
  · cases h
  · split at h
    · next w _ _ hr =>
      cases h; exact PRes.intsOK_of_eq ((pMachines_intsOK _).1 _ _ _ _ _ _ intsOKList_nil) hr
    · cases h

theorem parseObjectBytes_intsOK {bs : List UInt8} {v : JVal} (h : parseObjectBytes bs = .ok v) : v.intsOK := by
  unfold parseObjectBytes at h
  split at h
  · cases h
  · split at h
    · next w _ _ hr =>
      cases h; exact PRes.intsOK_of_eq ((pMachines_intsOK _).2 _ _ _ _ _ _ _ intsOKFields_nil) hr
    · cases h

theorem parseFile_intsOK {fs : String → Option (List UInt8)} {path : String} {v : JVal}
    (h : parseFile fs path = .ok v) : v.intsOK := by
  unfold parseFile at h
  split at h
  · cases h
  · exact parseObjectBytes_intsOK h

theorem build_parseList_allIntsOK (h : Heap) (ok : AllIntsOK h) {bs : List UInt8} {v : JVal}
    (hp : parseListBytes bs = .ok v) : AllIntsOK (build h v).1 :=
  (build_allIntsOK h v ok (parseListBytes_intsOK hp)).1

theorem build_parseObject_allIntsOK (h : Heap) (ok : AllIntsOK h) {bs : List UInt8} {v : JVal}
    (hp : parseObjectBytes bs = .ok v) : AllIntsOK (build h v).1 :=
  (build_allIntsOK h v ok (parseObjectBytes_intsOK hp)).1

theorem build_parseFile_allIntsOK (h : Heap) (ok : AllIntsOK h) {fs : String → Option (List UInt8)}
    {path : String} {v : JVal} (hp : parseFile fs path = .ok v) : AllIntsOK (build h v).1 :=
  (build_allIntsOK h v ok (parseFile_intsOK hp)).1

/-! ### the hypotheses are satisfiable, the predicates not trivial -/

/-- a tree with ints at both ends of the range -/
example : (JVal.obj [(['a'], .list [.int (2^63 - 1), .int (-2^63), .str []]), (['b'], .null)]).intsOK := by
  simp [JVal.intsOK, intsOKList, intsOKFields, InRange]

example : ¬ (JVal.list [.int (2^63)]).intsOK := by
  simp [JVal.intsOK, intsOKList, InRange]

/-- `build` does need the hypothesis: a tree with an out-of-range int breaks the invariant -/
example : ¬ AllIntsOK (build [] (.list [.int (2^63)])).1 := by
  intro ok
  have := (ok 0).1 (.int (2^63)) (by simp [build, buildList, items])
  simp [IntOK, InRange] at this

/-- an object built and then changed through the API: the invariant holds at the end, by the theorems -/
example (pairs : O.Pairs) (odd : Bool) (keys : List Str) :
    AllIntsOK (O.unset (O.new [] pairs odd).1 0 keys).1 :=
  O.unset_allIntsOK _ _ _ (O.new_allIntsOK [] pairs odd allIntsOK_nil)

end Anytype

#print axioms Anytype.setEgo_allIntsOK
#print axioms Anytype.O.set_allIntsOK
#print axioms Anytype.O.new_allIntsOK
#print axioms Anytype.O.newFrom_allIntsOK
#print axioms Anytype.O.unset_allIntsOK
#print axioms Anytype.O.clear_allIntsOK
#print axioms Anytype.O.keys_allIntsOK
#print axioms Anytype.O.values_allIntsOK
#print axioms Anytype.O.pluck_allIntsOK
#print axioms Anytype.O.map_allIntsOK
#print axioms Anytype.O.mapValues_allIntsOK
#print axioms Anytype.O.mapK_allIntsOK
#print axioms Anytype.reify_intsOK
#print axioms Anytype.build_allIntsOK
#print axioms Anytype.O.clone_allIntsOK
#print axioms Anytype.O.merge_allIntsOK
#print axioms Anytype.TF.setL_allIntsOK
#print axioms Anytype.TF.setO_allIntsOK
#print axioms Anytype.TF.unsetL_allIntsOK
#print axioms Anytype.TF.unsetO_allIntsOK
#print axioms Anytype.parseIntBase0_inRange
#print axioms Anytype.parseField_intsOK
#print axioms Anytype.parseListBytes_intsOK
#print axioms Anytype.parseObjectBytes_intsOK
#print axioms Anytype.parseFile_intsOK
#print axioms Anytype.build_parseList_allIntsOK
#print axioms Anytype.build_parseObject_allIntsOK
#print axioms Anytype.build_parseFile_allIntsOK
