/-
The invariant of `mapSkel` (body `[lock, callWrite, unlock, done]`): `Core` with `c = 1`, `L = 4`,
plus: the mutex is held exactly by the worker whose pc is 1 or 2 (so at most one worker is
between `lock` and `unlock`), slot `j` of `result` is written once worker `j` has passed the
`callWrite`, and `write j` occurs exactly then.  It is established in the form `MapLogInv`.
-/
import Anytype.Lemmas.AsyncCore
namespace Anytype.Async
variable {n : Nat} {st st' : State} {i : Nat} {w w' : Worker}

/-- between `lock` and `unlock` -/
def Worker.inCS (w : Worker) : Prop := w.pc = 1 ∨ w.pc = 2

structure InvMap (n : Nat) (st : State) : Prop where
  core : Core true 1 4 n st
  cs : ∀ (j : Nat) (w : Worker), st.workers[j]? = some w → (w.inCS ↔ st.mutex = some j)
  holder : ∀ j, st.mutex = some j → j < n
  resLen : st.result.length = n
  res : ∀ (j : Nat) (w : Worker), st.workers[j]? = some w →
    st.result[j]? = some (if 2 ≤ w.pc then some j else none)
  writes : ∀ (j : Nat) (w : Worker), st.workers[j]? = some w →
    st.log.count (.write j) = if 2 ≤ w.pc then 1 else 0
  writesOut : ∀ j, n ≤ j → Event.write j ∉ st.log

theorem map_body_cases {pc : Nat} {b : BodyStep} (h : mapSkel.body[pc]? = some b) :
    (pc = 0 ∧ b = .lock) ∨ (pc = 1 ∧ b = .callWrite) ∨ (pc = 2 ∧ b = .unlock) ∨
      (pc = 3 ∧ b = .done) := by
  obtain ⟨hlt, rfl⟩ := List.getElem?_eq_some_iff.1 h
  clear h
  revert pc
  decide

/-- `InvMap` in the form that is checked step by step: what it says of `result` and of the `write`
events is read off the log, where every `write j` comes with a `callEnd j` and `result` holds the
slots written so far. -/
structure MapLogInv (n : Nat) (st : State) : Prop where
  core : Core true 1 4 n st
  cs : ∀ (j : Nat) (w : Worker), st.workers[j]? = some w → (w.inCS ↔ st.mutex = some j)
  holder : ∀ j, st.mutex = some j → j < n
  wc : ∀ j, st.log.count (.write j) = st.log.count (.callEnd j)
  res : st.result = (List.range n).map fun j => if Event.write j ∈ st.log then some j else none

theorem MapLogInv.inv (h : MapLogInv n st) : InvMap n st := by
  have hwr : ∀ (j : Nat) (w : Worker), st.workers[j]? = some w →
      st.log.count (.write j) = if 2 ≤ w.pc then 1 else 0 := by
    intro j w hw
    rw [h.wc, (h.core.counts j).2, hw]
    rfl
  refine ⟨h.core, h.cs, h.holder, by rw [h.res]; simp, fun j w hw => ?_, hwr, fun j hj => ?_⟩
  · have hj : j < n := h.core.len ▸ lt_length_of_getElem? hw
    have hmem : Event.write j ∈ st.log ↔ 2 ≤ w.pc := by
      rw [← List.count_pos_iff, hwr j w hw]
      by_cases h2 : 2 ≤ w.pc <;> simp [h2]
    rw [h.res, List.getElem?_map, List.getElem?_range hj]
    simp only [Option.map_some, hmem]
  · rw [← List.count_eq_zero, h.wc, List.count_eq_zero]
    exact (h.core.no_events_out_of_range j hj).2

theorem mapLogInv_init (n : Nat) : MapLogInv n (init mapSkel n) := by
  refine ⟨core_init mapSkel true n (by decide), fun j w h => ?_, fun j h => (by cases h),
    fun j => rfl, ?_⟩
  · cases (init_worker h).1
    simp [Worker.inCS, init]
  · apply List.ext_getElem?
    intro j
    simp [init, mapSkel, List.getElem?_replicate]
    split <;> simp [*]

/-- a step of worker `i` to `w'` that takes or gives up the mutex, or leaves it alone -/
theorem MapLogInv.cs_move (h : MapLogInv n st) (hworkers : st'.workers = st.workers.set i w')
    (hother : ∀ j, j ≠ i → (st'.mutex = some j ↔ st.mutex = some j))
    (hself : w'.inCS ↔ st'.mutex = some i) :
    ∀ (j : Nat) (v : Worker), st'.workers[j]? = some v → (v.inCS ↔ st'.mutex = some j) := by
  rw [hworkers]
  exact forall_set_ne (P := fun j (v : Worker) => v.inCS ↔ st'.mutex = some j)
    (fun j v hj hv => (h.cs j v hv).trans (hother j hj).symm) hself

theorem MapLogInv.cs_same (h : MapLogInv n st) (hw : st.workers[i]? = some w)
    (hworkers : st'.workers = st.workers.set i w') (hmutex : st'.mutex = st.mutex)
    (hcs : w'.inCS ↔ w.inCS) :
    ∀ (j : Nat) (v : Worker), st'.workers[j]? = some v → (v.inCS ↔ st'.mutex = some j) :=
  h.cs_move hworkers (fun _ _ => by rw [hmutex]) (by rw [hcs, hmutex]; exact h.cs i w hw)

theorem mapLogInv_step {a : Action} (h : MapLogInv n st) (he : isEnabled mapSkel n st a = true) :
    MapLogInv n (step mapSkel n st a) := by
  cases a with
  | add => exact ⟨core_add rfl rfl h.core he, h.cs, h.holder, h.wc, h.res⟩
  | spawn =>
    have hc := core_spawn rfl (by decide) h.core he
    obtain ⟨k, hm, hk⟩ := isEnabled_spawn he
    have hw := h.core.basic.unspawned hm hk
    simp only [step, hm] at hc ⊢
    exact ⟨hc, h.cs_same hw rfl rfl (by simp [Worker.inCS]), h.holder, h.wc, h.res⟩
  | wait =>
    refine ⟨core_wait rfl (by decide) h.core he, h.cs, h.holder, fun j => ?_, ?_⟩
    · simp only [step, count_snoc, reduceCtorEq, if_false, Nat.add_zero]
      exact h.wc j
    · simp only [step, List.mem_append, List.mem_singleton, reduceCtorEq, or_false]
      exact h.res
  | work i =>
    obtain ⟨hin, w, b, hw, hl, hb, hlock⟩ := isEnabled_work he
    rw [step_work hw]
    rcases map_body_cases hb with ⟨hpc, rfl⟩ | ⟨hpc, rfl⟩ | ⟨hpc, rfl⟩ | ⟨hpc, rfl⟩
    · -- Lock
      have hc := core_work_silent (n := n) (i := i) h.core hw hl hb (.inl rfl) (by rw [hpc]; decide) (by rw [hpc]; decide)
      simp only [stepWorker, hb] at hc ⊢
      exact ⟨hc, h.cs_move rfl (fun j hj => by simp [hlock rfl, Ne.symm hj]) (by simp [Worker.inCS, hpc]),
        fun j hj => (by cases hj; exact hin), h.wc, h.res⟩
    · -- result.Replace(i, function(i, x))
      have hhold : st.mutex = some i := (h.cs i w hw).1 (Or.inl hpc)
      have hc := core_work_call (n := n) (i := i) rfl h.core hw hl hb (.inr ⟨rfl, fun _ => hhold⟩)
        hpc (by decide) (by
          -- a running callback belongs to the holder of the mutex, which is `i`, not in a call
          intro _ hic j v hv hrun
          have hvc := absPhase_running hrun
          have := (h.cs j v hv).1 (Or.inl ((h.core.wk j v hv).inCall hvc))
          rw [hhold] at this
          cases this
          rw [hw] at hv; cases hv
          rw [hic] at hvc; cases hvc)
      cases hic : w.inCall with
      | false =>
        rw [stepWorker_enter rfl hb (.inr rfl) hic] at hc ⊢
        refine ⟨hc, h.cs_same hw rfl rfl Iff.rfl, h.holder, fun j => ?_, ?_⟩
        · simp only [count_snoc, reduceCtorEq, if_false, Nat.add_zero]
          exact h.wc j
        · simp only [List.mem_append, List.mem_singleton, reduceCtorEq, or_false]
          exact h.res
      | true =>
        simp only [stepWorker, hb, hic, if_true, (h.core.wk i w hw).arg hl] at hc ⊢
        refine ⟨hc, h.cs_same hw rfl rfl (by simp [Worker.inCS, hpc]), h.holder, fun j => ?_, ?_⟩
        · simp only [List.count_append, List.count_cons, List.count_nil, h.wc j, beq_iff_eq,
            reduceCtorEq, Event.write.injEq, Event.callEnd.injEq, if_false]
          omega
        · rw [h.res]
          apply List.ext_getElem?
          intro j
          rw [List.getElem?_set, List.getElem?_map, List.getElem?_map]
          by_cases hj : j < n
          · rw [List.getElem?_range hj]
            by_cases hij : i = j
            · subst hij; simp [hin]
            · simp [hij, Ne.symm hij]
          · rw [List.getElem?_eq_none (by simpa using hj), if_neg (by omega)]
            rfl
    · -- Unlock
      have hhold : st.mutex = some i := (h.cs i w hw).1 (Or.inr hpc)
      have hc := core_work_silent (n := n) (i := i) h.core hw hl hb (.inr ⟨rfl, hhold⟩)
        (by rw [hpc]; decide) (by rw [hpc]; decide)
      simp only [stepWorker, hb, if_pos hhold] at hc ⊢
      exact ⟨hc, h.cs_move rfl (fun j hj => by simp [hhold, Ne.symm hj]) (by simp [Worker.inCS, hpc]),
        fun j hj => (by cases hj), h.wc, h.res⟩
    · -- Done
      have hc := core_work_done (n := n) (i := i) h.core hw hl hb (by rw [hpc]) (by rw [hpc]; decide)
      simp only [stepWorker, hb] at hc ⊢
      exact ⟨hc, h.cs_same hw rfl rfl (by simp [Worker.inCS, hpc]), h.holder, h.wc, h.res⟩

theorem invMap_of_reachable (h : Reachable mapSkel n st) : InvMap n st := by
  refine MapLogInv.inv ?_
  induction h with
  | init => exact mapLogInv_init n
  | step _ he ih => exact mapLogInv_step ih he

/-- at most one worker is between `lock` and `unlock` -/
theorem InvMap.exclusive {n : Nat} {st : State} (h : InvMap n st) {i j : Nat} {w v : Worker}
    (hw : st.workers[i]? = some w) (hv : st.workers[j]? = some v)
    (hi : w.inCS) (hj : v.inCS) : i = j := by
  have h1 := (h.cs i w hw).1 hi
  have h2 := (h.cs j v hv).1 hj
  rw [h1] at h2
  exact Option.some.inj h2

/-- deadlock freedom -/
theorem map_progress (h : InvMap n st)
    (hr : st.main ≠ .returned) : ∃ a, isEnabled mapSkel n st a = true := by
  have hp := h.core.noPanic
  rcases h.core.progress mapSkel hr with hm | ⟨i, w, hi, hw, hl, hpc⟩
  · exact hm
  -- a worker whose next statement is not `lock` can move
  have move : ∀ (j : Nat) (v : Worker), st.workers[j]? = some v → v.live = true →
      (v.pc = 1 ∨ v.pc = 2 ∨ v.pc = 3) → isEnabled mapSkel n st (.work j) = true := by
    intro j v hv hvl hvpc
    have hj := lt_length_of_getElem? hv
    rw [h.core.len] at hj
    simp only [isEnabled, hp, hj, hv, hvl]
    rcases hvpc with e | e | e <;> rw [e] <;> simp [mapSkel]
  have hcases : w.pc = 0 ∨ (w.pc = 1 ∨ w.pc = 2 ∨ w.pc = 3) := by omega
  rcases hcases with h0 | h123
  · -- at `lock`: either the mutex is free, or its holder can move
    cases hmx : st.mutex with
    | none =>
      exact ⟨.work i, by simp [isEnabled, hp, hi, hw, hl, h0, mapSkel, hmx]⟩
    | some j =>
      have hj := h.holder j hmx
      have hj' : j < st.workers.length := by rw [h.core.len]; exact hj
      have hv := List.getElem?_eq_getElem hj'
      have hcs := (h.cs j _ hv).2 hmx
      have hvl : (st.workers[j]).live = true := by
        cases hl' : (st.workers[j]).live with
        | true => rfl
        | false =>
          have := (h.core.wk j _ hv).fresh hl'
          rw [this] at hcs
          simp [Worker.inCS] at hcs
      exact ⟨.work j, move j _ hv hvl (by rcases hcs with e | e <;> simp [e])⟩
  · exact ⟨.work i, move i w hw hl h123⟩

end Anytype.Async
