/-
The mutators of List and Object as one program alphabet (`MOp`), their frame (`Ext`: only the
receiver's cell may change, cells are only appended), and what a program of mutators whose
receivers avoid an address interval leaves unchanged.
-/
import Anytype.Lemmas.Reify
namespace Anytype
open Heap
namespace Rf

/-- `p` holds of `if c then x else y` if it holds of `x` under `c` and of `y` under `¬ c` -/
theorem of_ite {α : Type} {p : α → Prop} {c : Prop} [Decidable c] {x y : α} (hx : c → p x)
    (hy : ¬ c → p y) : p (if c then x else y) := by
  by_cases hc : c
  · rw [if_pos hc]; exact hx hc
  · rw [if_neg hc]; exact hy hc

/-! ### frames of the Object mutators (List mutators: `L.add_ext` … in `Lemmas/ListOps.lean`) -/

theorem ext0_of_parseVal {h h1 : Heap} {g : GoVal} {o : Out Val} (hp : parseVal h g = (h1, o)) :
    Ext0 h h1 := by
  have e := parseVal_ext0 h g
  rw [hp] at e
  exact e

theorem setLoop_ext (h : Heap) (a : Nat) (pairs : O.Pairs) : Ext h (O.setLoop h a pairs).1 a := by
  induction pairs generalizing h with
  | nil => exact Ext.refl h a
  | cons p pairs ih =>
    obtain ⟨_ | k, g⟩ := p
    · exact Ext.refl h a
    · rw [O.setLoop]
      rcases hp : parseVal h g with ⟨h1, v | p⟩
      · exact ((ext0_of_parseVal hp).toExt a).trans ((Ext.setFields h1 a _).trans (ih _))
      · exact (ext0_of_parseVal hp).toExt a

theorem oset_fst (h : Heap) (a : Nat) (pairs : O.Pairs) (odd : Bool) :
    (O.set h a pairs odd).1 = if odd then h else (O.setLoop h a pairs).1 := by
  unfold O.set
  cases odd
  · rcases O.setLoop h a pairs with ⟨h1, _ | k⟩ <;> rfl
  · rfl

theorem oset_ext (h : Heap) (a : Nat) (pairs : O.Pairs) (odd : Bool) : Ext h (O.set h a pairs odd).1 a := by
  rw [oset_fst]
  cases odd
  · exact setLoop_ext h a pairs
  · exact Ext.refl h a

theorem ounset_ext (h : Heap) (a : Nat) (keys : List Str) : Ext h (O.unset h a keys).1 a :=
  Ext.setFields h a _

theorem oclear_ext (h : Heap) (a : Nat) : Ext h (O.clear h a).1 a := Ext.setFields h a _

/-! ### the heap `Add` / `Delete` leave, without the value returned -/

theorem add_fst (h : Heap) (a : Nat) (gs : List GoVal) : (L.add h a gs).1 = (addEach h a gs).1 := by
  unfold L.add
  rcases addEach h a gs with ⟨h1, _ | k⟩ <;> rfl

theorem delete_fst (h : Heap) (a : Nat) (idx : List Int) : (L.delete h a idx).1 =
    (L.deleteLoop h a (idx.mergeSort (fun x y => decide (x ≤ y))).reverse).1 := by
  simp only [L.delete]
  rcases L.deleteLoop h a (idx.mergeSort (fun x y => decide (x ≤ y))).reverse with ⟨h1, _ | k⟩ <;> rfl

/-- one mutating method call: receiver address and arguments (any Go values, also nested
native slices / maps and references to existing containers) -/
inductive MOp
  | add (a : Nat) (gs : List GoVal)
  | insert (a : Nat) (i : Int) (g : GoVal)
  | replace (a : Nat) (i : Int) (g : GoVal)
  | delete (a : Nat) (idx : List Int)
  | pop (a : Nat)
  | clear (a : Nat)
  | reverse (a : Nat)
  | sort (a : Nat)
  | oset (a : Nat) (pairs : O.Pairs) (odd : Bool)
  | ounset (a : Nat) (keys : List Str)
  | oclear (a : Nat)

/-- the receiver -/
def MOp.target : MOp → Nat
  | .add a _ | .insert a _ _ | .replace a _ _ | .delete a _ | .pop a | .clear a | .reverse a
  | .sort a | .oset a _ _ | .ounset a _ | .oclear a => a

/-- the heap after the call (at the panic point if it panics) -/
def stepM (h : Heap) : MOp → Heap
  | .add a gs => (L.add h a gs).1
  | .insert a i g => (L.insert h a i g).1
  | .replace a i g => (L.replace h a i g).1
  | .delete a idx => (L.delete h a idx).1
  | .pop a => (L.pop h a).1
  | .clear a => (L.clear h a).1
  | .reverse a => (L.reverse h a).1
  | .sort a => (L.sort h a).1
  | .oset a pairs odd => (O.set h a pairs odd).1
  | .ounset a keys => (O.unset h a keys).1
  | .oclear a => (O.clear h a).1

theorem stepM_ext (h : Heap) (op : MOp) : Ext h (stepM h op) op.target := by
  cases op with
  | add a gs => exact L.add_ext h a gs
  | insert a i g => exact L.insert_ext h a i g
  | replace a i g => exact L.replace_ext h a i g
  | delete a idx => exact L.delete_ext h a idx
  | pop a => exact L.pop_ext h a
  | clear a => exact L.clear_ext h a
  | reverse a => exact L.reverse_ext h a
  | sort a => exact L.sort_ext h a
  | oset a pairs odd => exact oset_ext h a pairs odd
  | ounset a keys => exact ounset_ext h a keys
  | oclear a => exact oclear_ext h a

def runM (h : Heap) : List MOp → Heap
  | [] => h
  | op :: ops => runM (stepM h op) ops

theorem runM_len (h : Heap) (ops : List MOp) : h.length ≤ (runM h ops).length := by
  induction ops generalizing h with
  | nil => exact Nat.le_refl _
  | cons op ops ih => exact Nat.le_trans (stepM_ext h op).len (ih _)

theorem runM_agreeOn (lo hi : Nat) (h : Heap) (ops : List MOp) (hhi : hi ≤ h.length)
    (ht : ∀ op ∈ ops, op.target < lo ∨ hi ≤ op.target) : AgreeOn lo hi h (runM h ops) := by
  induction ops generalizing h with
  | nil => exact AgreeOn.refl _ _ _
  | cons op ops ih =>
    have e := stepM_ext h op
    have a1 : AgreeOn lo hi h (stepM h op) := AgreeOn.of_ext e hhi (ht op List.mem_cons_self)
    exact a1.trans (ih (stepM h op) (Nat.le_trans hhi e.len) (fun o ho => ht o (List.mem_cons_of_mem _ ho)))
      (Nat.le_refl _) (Nat.le_refl _)

end Rf
end Anytype
