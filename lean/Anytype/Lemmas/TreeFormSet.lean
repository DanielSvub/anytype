/-
SetTF: `stepL` / `stepO` in the vocabulary of the specification, the one-step equations, one
descent step summed up (`Stepped`, `setTF_step`) and the frame (only visited and new cells change);
set-then-get and the slot theorems built on them are in Props/C11.
This frame is per cell along a rendered path (`trail`) and serves C11; Lemmas/TreeFormFrame has the coarser
frame per closed region, for every text, which is what the clone and region theorems (C08) need.
-/
import Anytype.Lemmas.TreeFormUnset
import Anytype.Lemmas.Assoc
namespace Anytype
namespace TFP
open Heap

/-! ## vocabulary -/

/-- the new container a step creates / the reference to it, by wanted kind -/
def mkCell (wantObj : Bool) : Cell := if wantObj then .obj [] 0 else .list [] 0
def mkRef (wantObj : Bool) (n : Nat) : Val := if wantObj then .obj ⟨n, 0⟩ else .list ⟨n, 0⟩

def addrOf : Val → Nat
  | .list r => r.addr
  | .obj r => r.addr
  | _ => 0

/-- a value with its embedding level forgotten: the tree-form methods only use the address -/
def canon : Val → Val
  | .list r => .list ⟨r.addr, 0⟩
  | .obj r => .obj ⟨r.addr, 0⟩
  | x => x

/-- write `x` at position `i`: in place when `i` is inside, else pad with nil and append -/
def putAt (xs : List Val) (i : Nat) (x : Val) : List Val :=
  if i < xs.length then xs.set i x else xs ++ List.replicate (i - xs.length) .nil ++ [x]

theorem putAt_getElem?_self (xs : List Val) (i : Nat) (x : Val) : (putAt xs i x)[i]? = some x := by
  unfold putAt
  by_cases hi : i < xs.length
  · rw [if_pos hi, List.getElem?_set_self hi]
  · have hl : (xs ++ List.replicate (i - xs.length) Val.nil).length = i := by
      rw [List.length_append, List.length_replicate]; omega
    rw [if_neg hi, List.getElem?_append_right (by omega), hl, Nat.sub_self]
    rfl

theorem putAt_getElem?_ne (xs : List Val) (i j : Nat) (x : Val) (hj : j ≠ i) (hjl : j < xs.length) :
    (putAt xs i x)[j]? = xs[j]? := by
  unfold putAt
  split
  · rw [List.getElem?_set_ne (by omega)]
  · rw [List.append_assoc, List.getElem?_append_left hjl]

theorem putAt_length (xs : List Val) (i : Nat) (x : Val) :
    (putAt xs i x).length = max xs.length (i + 1) := by
  unfold putAt
  by_cases hi : i < xs.length
  · rw [if_pos hi, List.length_set]; omega
  · rw [if_neg hi]; simp only [List.length_append, List.length_replicate, List.length_singleton]; omega

theorem mem_putAt {xs : List Val} {i : Nat} {x y : Val} (hy : y ∈ putAt xs i x) :
    y = x ∨ y = .nil ∨ y ∈ xs := by
  unfold putAt at hy
  split at hy
  · rcases List.mem_or_eq_of_mem_set hy with h | h
    · exact Or.inr (Or.inr h)
    · exact Or.inl h
  · simp only [List.mem_append, List.mem_replicate, List.mem_singleton] at hy
    rcases hy with (h | h) | h
    · exact Or.inr (Or.inr h)
    · exact Or.inr (Or.inl h.2)
    · exact Or.inl h

/-- the heap after storing `x` where segment `s` points in container `v` -/
def leafHeap (h : Heap) (v : Val) (s : Seg) (x : Val) : Heap :=
  match s with
  | .idx i => (match v with
    | .list r => h.setItems r.addr (putAt (h.items r.addr) i x)
    | _ => h)
  | .key k => (match v with
    | .obj r => h.setFields r.addr (setKV (h.fields r.addr) k x)
    | _ => h)

theorem canon_getVal (h : Heap) (x : Val) : canon (h.getVal x) = canon x := by cases x <;> rfl
theorem canon_kind (x : Val) : (canon x).kind = x.kind := by cases x <;> rfl
theorem addrOf_getVal (h : Heap) (x : Val) : addrOf (h.getVal x) = addrOf x := by cases x <;> rfl
theorem okIn_getVal {h : Heap} {x : Val} (hx : x.okIn h) : (h.getVal x).okIn h := by
  cases x <;> simp [Heap.getVal, Val.okIn] <;> exact hx
theorem okIn_canon {h : Heap} {x : Val} (hx : x.okIn h) : (canon x).okIn h := by
  cases x <;> simp [canon, Val.okIn] <;> exact hx

theorem mkRef_of_kind {x : Val} {b : Bool} (hk : x.kind = wantKind b) : mkRef b (addrOf x) = canon x := by
  cases b
  · obtain ⟨r, rfl⟩ := kind_list hk; rfl
  · obtain ⟨r, rfl⟩ := kind_object hk; rfl

theorem mkRef_kind (b : Bool) (n : Nat) : (mkRef b n).kind = wantKind b := by cases b <;> rfl
theorem addrOf_mkRef (b : Bool) (n : Nat) : addrOf (mkRef b n) = n := by cases b <;> rfl

theorem getTF_canon (h : Heap) (v : Val) (s : Str) : getTF h (canon v) s = getTF h v s := by
  cases v <;> rfl
theorem typeV_canon (n : Nat) (h : Heap) (v : Val) (s : Str) : typeV n h (canon v) s = typeV n h v s := by
  cases v <;> rfl
theorem setTF_canon (h : Heap) (v : Val) (s : Str) (g : GoVal) :
    setTF h (canon v) s g = setTF h v s g := by
  cases v <;> rfl

/-- the value stored in the slot `s` addresses in `v`, as it lies in the cell -/
def slotVal (h : Heap) (v : Val) : Seg → Option Val
  | .idx i => (h.items (addrOf v))[i]?
  | .key k => lookup (h.fields (addrOf v)) k

theorem navStep_eq_slotVal {h : Heap} {v : Val} {s : Seg} (hk : v.kind = s.kind) :
    navStep h v s = (slotVal h v s).map h.getVal := by
  cases s <;> cases v <;> simp [Val.kind, Seg.kind] at hk
  · exact navStep_key_obj h _ _
  · exact navStep_idx_list h _ _

/-- a step reads only the receiver's cell (and the ego levels): same cell content, same step
up to the embedding level of the result -/
theorem navStep_congr {h h' : Heap} {v w : Val} {s : Seg} (e : h'[addrOf v]? = h[addrOf v]?)
    (hn : navStep h v s = some w) : ∃ w', navStep h' v s = some w' ∧ canon w' = canon w := by
  have hk := navStep_kind hn
  have es : slotVal h' v s = slotVal h v s := by cases s <;> simp only [slotVal, items_congr e, fields_congr e]
  rw [navStep_eq_slotVal hk] at hn ⊢
  obtain ⟨x, hx, rfl⟩ := Option.map_eq_some_iff.1 hn
  exact ⟨_, by rw [es, hx]; rfl, by rw [canon_getVal, canon_getVal]⟩

/-- the receiver is a cell of the kind the segment applies to -/
def Recv (h : Heap) (v : Val) (s : Seg) : Prop := v.okIn h ∧ v.kind = s.kind

theorem Recv.cases {h : Heap} {v : Val} {s : Seg} (hr : Recv h v s) :
    (∃ r i, v = .list r ∧ s = .idx i ∧ h.isList r.addr = true) ∨
    (∃ r k, v = .obj r ∧ s = .key k ∧ h.isObj r.addr = true) := by
  obtain ⟨ho, hk⟩ := hr
  cases s <;> cases v <;> simp [Val.kind, Seg.kind] at hk
  · exact Or.inr ⟨_, _, rfl, rfl, ho⟩
  · exact Or.inl ⟨_, _, rfl, rfl, ho⟩

theorem Recv.lt {h : Heap} {v : Val} {s : Seg} (hr : Recv h v s) : addrOf v < h.length := by
  rcases hr.cases with ⟨r, i, rfl, rfl, hl⟩ | ⟨r, k, rfl, rfl, hl⟩
  · exact isList_lt hl
  · exact isObj_lt hl

theorem leafHeap_length (h : Heap) (v : Val) (s : Seg) (x : Val) : (leafHeap h v s x).length = h.length := by
  cases s <;> cases v <;> simp [leafHeap]

theorem leafHeap_ext (h : Heap) (v : Val) (s : Seg) (x : Val) : Ext h (leafHeap h v s x) (addrOf v) := by
  cases s <;> cases v <;> simp only [leafHeap, addrOf] <;>
    first | exact Ext.refl _ _ | exact Ext.setItems _ _ _ | exact Ext.setFields _ _ _

theorem leafHeap_navStep {h : Heap} {v : Val} {s : Seg} (x : Val) (hr : Recv h v s) :
    navStep (leafHeap h v s x) v s = some ((leafHeap h v s x).getVal x) := by
  rcases hr.cases with ⟨r, i, rfl, rfl, hl⟩ | ⟨r, k, rfl, rfl, hl⟩
  · rw [navStep_idx_list]
    simp only [leafHeap]
    rw [items_setItems_same _ hl, putAt_getElem?_self]
    rfl
  · rw [navStep_key_obj]
    simp only [leafHeap]
    rw [fields_setFields_same _ hl, lookup_setKV]
    simp

theorem leafHeap_wf {h : Heap} {v : Val} {s : Seg} {x : Val} (wf : HeapWF h) (hx : x.okIn h) :
    HeapWF (leafHeap h v s x) := by
  cases s with
  | key k =>
    cases v with
    | obj r =>
      refine wf.setFields _ _ (fun kv hkv => ?_)
      rcases mem_setKV hkv with e | hm
      · rw [e]; exact hx
      · exact (wf r.addr).2 kv hm
    | _ => exact wf
  | idx i =>
    cases v with
    | list r =>
      refine wf.setItems _ _ (fun y hy => ?_)
      rcases mem_putAt hy with e | e | hm
      · rw [e]; exact hx
      · rw [e]; trivial
      · exact (wf r.addr).1 y hm
    | _ => exact wf

/-! ## `TF.stepL` / `TF.stepO` in the vocabulary of the specification -/

/-- an element of the wanted kind is reused (the heap is untouched); in every other case a new cell of
the wanted kind is appended at `h.length` and its reference written at `i` (`putAt`: in place, or
after padding with nil) -/
theorem stepL_eq (h : Heap) (a : Nat) (i : Int) (b : Bool) (hl : h.isList a = true) (h0 : 0 ≤ i) :
    TF.stepL h a i b =
      match (h.items a)[i.toNat]? with
      | some x =>
        if x.kind = wantKind b then (h, .ok (addrOf x))
        else ((h ++ [mkCell b]).setItems a (putAt (h.items a) i.toNat (mkRef b h.length)), .ok h.length)
      | none => ((h ++ [mkCell b]).setItems a (putAt (h.items a) i.toNat (mkRef b h.length)), .ok h.length) := by
  have e1 : (if b = true then Cell.obj [] 0 else Cell.list [] 0) = mkCell b := rfl
  have e2 : (if b = true then Val.obj ⟨h.length, 0⟩ else Val.list ⟨h.length, 0⟩) = mkRef b h.length := rfl
  have e3 : (if b = true then Kind.object else Kind.list) = wantKind b := rfl
  unfold TF.stepL
  simp only [L.count, e1, e2, e3]
  cases hx : (h.items a)[i.toNat]? with
  | none =>
    have hlen := List.getElem?_eq_none_iff.1 hx
    have ha := isList_lt hl
    have hc := Int.toNat_sub' i (h.items a).length
    rw [if_pos (by omega)]
    simp only [TF.padNil, hc, items_append_old h _ ha,
      items_setItems_same _ (show (h ++ [mkCell b]).isList a = true by rw [isList_append_old h _ ha]; exact hl),
      setItems_setItems, putAt, if_neg (Nat.not_lt.2 hlen)]
  | some x =>
    obtain ⟨hlt, hxe⟩ := List.getElem?_eq_some_iff.1 hx
    rw [if_neg (by omega), L.typeOf_in h a i h0 hlt, hxe]
    by_cases hk : x.kind = wantKind b
    · simp only [hk, beq_self_eq_true, if_true]
      cases b
      · obtain ⟨r, rfl⟩ := kind_list hk; rfl
      · obtain ⟨r, rfl⟩ := kind_object hk; rfl
    · rw [if_neg (by simpa using hk), if_neg (by omega)]
      simp only [hk, if_false, putAt, if_pos hlt]

theorem stepO_eq (h : Heap) (a : Nat) (k : Str) (b : Bool) :
    TF.stepO h a k b =
      match lookup (h.fields a) k with
      | some x =>
        if x.kind = wantKind b then (h, addrOf x)
        else ((h ++ [mkCell b]).setFields a (setKV (h.fields a) k (mkRef b h.length)), h.length)
      | none => ((h ++ [mkCell b]).setFields a (setKV (h.fields a) k (mkRef b h.length)), h.length) := by
  have e3 : (if b = true then Kind.object else Kind.list) = wantKind b := rfl
  unfold TF.stepO
  simp only [O.typeOf, e3]
  cases hx : lookup (h.fields a) k with
  | none => rw [if_neg (by cases b <;> decide)]; rfl
  | some x =>
    by_cases hk : x.kind = wantKind b
    · simp only [hk, beq_self_eq_true, if_true]
      cases b
      · obtain ⟨r, rfl⟩ := kind_list hk; rfl
      · obtain ⟨r, rfl⟩ := kind_object hk; rfl
    · rw [if_neg (by simpa using hk)]
      simp only [hk, if_false]; rfl

/-! ## one step of SetTF -/

/-- the descent step of SetTF from receiver `v` along `s`, wanting an object (`b`) or a list -/
def stepV (h : Heap) (v : Val) (s : Seg) (b : Bool) : Heap × Out Nat :=
  match s with
  | .idx i => (match v with
    | .list r => TF.stepL h r.addr (i : Int) b
    | _ => (h, .panic .badTF))
  | .key k => (match v with
    | .obj r => ((TF.stepO h r.addr k b).1, .ok (TF.stepO h r.addr k b).2)
    | _ => (h, .panic .badTF))

/-- what SetTF does at the last segment -/
def setLeaf (h : Heap) (v : Val) (s : Seg) (g : GoVal) : Heap × Out Unit :=
  match s with
  | .idx i => (match v with
    | .list r =>
      if (i : Int) ≥ L.count h r.addr then
        outUnit (L.add (TF.padNil h r.addr ((i : Int) - L.count h r.addr).toNat) r.addr [g])
      else outUnit (L.replace h r.addr (i : Int) g)
    | _ => (h, .panic .badTF))
  | .key k => (match v with
    | .obj r => outUnit (O.set h r.addr [(some k, g)] false)
    | _ => (h, .panic .badTF))

/-- `stepV` and `setLeaf` on the slot a parsed segment names (any index the text may hold) -/
def Slot.step (h : Heap) (b : Bool) : Slot → Heap × Out Nat
  | .item a i => TF.stepL h a i b
  | .field a k => ((TF.stepO h a k b).1, .ok (TF.stepO h a k b).2)

def Slot.set (h : Heap) (g : GoVal) : Slot → Heap × Out Unit
  | .item a i =>
    if i ≥ L.count h a then outUnit (L.add (TF.padNil h a (i - L.count h a).toNat) a [g])
    else outUnit (L.replace h a i g)
  | .field a k => outUnit (O.set h a [(some k, g)] false)

theorem stepV_eq (h : Heap) (v : Val) (s : Seg) (b : Bool) :
    stepV h v s b = match slotOf v s with | none => (h, .panic .badTF) | some sl => sl.step h b := by
  cases s <;> cases v <;> rfl

theorem setLeaf_eq (h : Heap) (v : Val) (s : Seg) (g : GoVal) :
    setLeaf h v s g = match slotOf v s with | none => (h, .panic .badTF) | some sl => sl.set h g := by
  cases s <;> cases v <;> rfl

theorem setV_succ (n : Nat) (h : Heap) (v : Val) (tf : Str) (g : GoVal) :
    setV (n + 1) h v tf g =
      walkV v (fun p => (h, .panic p)) (Slot.set h g)
        (fun sl b rest =>
          match sl.step h b with
          | (h1, .panic p) => (h1, .panic p)
          | (h1, .ok c) => setV n h1 (mkRef b c) rest g) tf := by
  cases v with
  | list r =>
    show TF.setL (n + 1) h r.addr tf g = _
    unfold TF.setL walkV
    dsimp only [recvSigil, readSlot]
    cases TF.strip '#' tf with
    | none => rfl
    | some t =>
      dsimp only
      cases TF.split t with
      | leaf seg =>
        dsimp only
        cases TF.parseIdx seg with
        | none => rfl
        | some i =>
          dsimp only [Option.map_some, Slot.set]
          generalize L.add _ r.addr [g] = p1
          generalize L.replace h r.addr i g = p2
          obtain ⟨h1, o1⟩ := p1
          obtain ⟨h2, o2⟩ := p2
          cases o1 <;> cases o2 <;> rfl
      | dot seg rest | hash seg rest =>
        dsimp only
        cases TF.parseIdx seg with
        | none => rfl
        | some i =>
          dsimp only [Option.map_some, Slot.step]
          cases TF.stepL h r.addr i _ with
          | mk h1 o => cases o <;> rfl
  | obj r =>
    show TF.setO (n + 1) h r.addr tf g = _
    unfold TF.setO walkV
    dsimp only [recvSigil, readSlot]
    cases TF.strip '.' tf with
    | none => rfl
    | some t =>
      dsimp only
      cases TF.split t with
      | leaf seg =>
        dsimp only [Slot.set]
        cases O.set h r.addr [(some seg, g)] false with
        | mk h1 o => cases o <;> rfl
      | dot seg rest | hash seg rest => rfl
  | _ => rfl

theorem setV_fuel (g : GoVal) : ∀ (n m : Nat) (hv : Heap × Val) (tf : Str), tf.length < n → tf.length < m →
    setV n hv.1 hv.2 tf g = setV m hv.1 hv.2 tf g :=
  fuel_indep (fun n (hv : Heap × Val) tf => setV n hv.1 hv.2 tf g) fun n m hv tf ih => by
    rw [setV_succ, setV_succ]
    exact walkV_congr fun sl b rest hl => by
      have e : ∀ h1 w, setV n h1 w rest g = setV m h1 w rest g := fun h1 w => ih (h1, w) rest hl
      simp only [e]

theorem setTF_walk (h : Heap) (v : Val) (tf : Str) (g : GoVal) :
    setTF h v tf g =
      walkV v (fun p => (h, .panic p)) (Slot.set h g)
        (fun sl b rest =>
          match sl.step h b with
          | (h1, .panic p) => (h1, .panic p)
          | (h1, .ok c) => setTF h1 (mkRef b c) rest g) tf := by
  unfold setTF
  rw [setV_succ]
  exact walkV_congr fun sl b rest hl => by
    have e : ∀ h1 w, setV tf.length h1 w rest g = setV (rest.length + 1) h1 w rest g :=
      fun h1 w => setV_fuel g _ _ (h1, w) rest (by omega) (by omega)
    simp only [e]

theorem setTF_cons (h : Heap) (v : Val) (s : Seg) (q : List Seg) (g : GoVal) (hs : s.Valid) :
    setTF h v (render (s :: q)) g =
      match q with
      | [] => setLeaf h v s g
      | s' :: _ =>
        match stepV h v s s'.isKey with
        | (h1, .panic p) => (h1, .panic p)
        | (h1, .ok c) => setTF h1 (mkRef s'.isKey c) (render q) g := by
  rw [setTF_walk, walkV_render _ _ _ _ s q hs]
  simp only [setLeaf_eq, stepV_eq]
  cases slotOf v s <;> cases q <;> rfl

/-! ## `setLeaf` / `stepV` on a receiver of the segment's kind -/

theorem setLeaf_scalar {h : Heap} {v : Val} {s : Seg} {g : GoVal} (hr : Recv h v s)
    (hg : g.isScalar = true) : setLeaf h v s g = (leafHeap h v s (scalarVal g), .ok ()) := by
  rcases hr.cases with ⟨r, i, rfl, rfl, hl⟩ | ⟨r, k, rfl, rfl, hl⟩
  · have hcnt := L.count_eq h r.addr
    simp only [setLeaf, leafHeap, putAt]
    by_cases hi : i < (h.items r.addr).length
    · rw [if_neg (by omega), if_pos hi, L.replace_scalar h r.addr (i : Int) g hg (by omega) (by omega)]
      simp [outUnit]
    · rw [if_pos (by omega), if_neg hi]
      have hc : ((i : Int) - L.count h r.addr).toNat = i - (h.items r.addr).length := by
        rw [hcnt, Int.toNat_sub', Int.toNat_natCast]
      rw [L.add_scalars _ _ [g] (by simpa using hg)]
      simp only [TF.padNil, hc, items_setItems_same _ hl, setItems_setItems]
      simp [outUnit]
  · simp only [setLeaf, leafHeap, O.set, O.setLoop, parseVal_scalar h hg]
    simp [outUnit]

theorem setLeaf_ext (h : Heap) (v : Val) (s : Seg) (g : GoVal) : Ext h (setLeaf h v s g).1 (addrOf v) := by
  cases s with
  | idx i =>
    cases v with
    | list r =>
      simp only [setLeaf, addrOf]
      split
      · rw [outUnit_fst]
        exact (Ext.setItems h r.addr _).trans (L.add_ext _ _ _)
      · rw [outUnit_fst]
        exact L.replace_ext _ _ _ _
    | _ => exact Ext.refl _ _
  | key k =>
    cases v with
    | obj r =>
      have e0 := parseVal_ext0 h g
      simp only [setLeaf, addrOf, outUnit_fst, O.set, O.setLoop]
      cases hp : parseVal h g with
      | mk h1 o =>
        rw [hp] at e0
        cases o with
        | panic p => exact e0.toExt _
        | ok x => exact (e0.toExt _).trans (Ext.setFields h1 _ _)
    | _ => exact Ext.refl _ _

theorem slotVal_okIn {h : Heap} {v x : Val} {s : Seg} (wf : HeapWF h) (hx : slotVal h v s = some x) : x.okIn h := by
  cases s with
  | idx i => exact (wf _).1 x (List.mem_of_getElem? hx)
  | key k => exact (wf _).2 (k, x) (mem_of_lookup hx)

theorem stepV_eq_slotVal {h : Heap} {v : Val} {s : Seg} (hr : Recv h v s) (b : Bool) :
    stepV h v s b =
      match slotVal h v s with
      | some x =>
        if x.kind = wantKind b then (h, .ok (addrOf x))
        else (leafHeap (h ++ [mkCell b]) v s (mkRef b h.length), .ok h.length)
      | none => (leafHeap (h ++ [mkCell b]) v s (mkRef b h.length), .ok h.length) := by
  rcases hr.cases with ⟨r, i, rfl, rfl, hl⟩ | ⟨r, k, rfl, rfl, hl⟩
  · simp only [stepV, leafHeap, slotVal, addrOf, items_append_old h _ (isList_lt hl),
      stepL_eq h r.addr i b hl (Int.natCast_nonneg i), Int.toNat_natCast]
  · simp only [stepV, leafHeap, slotVal, addrOf, fields_append_old h _ (isObj_lt hl), stepO_eq]
    cases lookup (h.fields r.addr) k with
    | none => rfl
    | some x => by_cases hk : x.kind = wantKind b <;> simp only [hk, if_true, if_false]

/-- the two ways a descent step goes: the existing container of the wanted kind is reused and
the heap is untouched, or a new container is allocated at `h.length` and stored in the slot -/
theorem stepV_cases {h : Heap} {v : Val} {s : Seg} (wf : HeapWF h) (hr : Recv h v s) (b : Bool) :
    (∃ w, navStep h v s = some w ∧ w.kind = wantKind b ∧ w.okIn h ∧
        stepV h v s b = (h, .ok (addrOf w))) ∨
    ((∀ w, navStep h v s = some w → w.kind ≠ wantKind b) ∧
        stepV h v s b = (leafHeap (h ++ [mkCell b]) v s (mkRef b h.length), .ok h.length)) := by
  rw [stepV_eq_slotVal hr b, navStep_eq_slotVal hr.2]
  cases hx : slotVal h v s with
  | none => exact Or.inr ⟨(fun _ hw => by cases hw), rfl⟩
  | some x =>
    by_cases hk : x.kind = wantKind b
    · exact Or.inl ⟨h.getVal x, rfl, by rw [getVal_kind]; exact hk, okIn_getVal (slotVal_okIn wf hx),
        by simp only [if_pos hk, addrOf_getVal]⟩
    · refine Or.inr ⟨fun w hw => ?_, by simp only [if_neg hk]⟩
      rw [← Option.some.inj hw, getVal_kind]; exact hk

/-! ## the trail: the existing cells SetTF visits -/

/-- addresses of the receivers SetTF is called on while it follows existing containers of the
right kind; after the first newly created container only new cells are visited -/
def trail (h : Heap) (v : Val) : List Seg → List Nat
  | [] => []
  | s :: q => addrOf v :: (match q with
    | [] => []
    | s' :: _ => (match navStep h v s with
      | some w => if w.kind = s'.kind then trail h w q else []
      | none => []))

theorem trail_canon (h : Heap) (v : Val) (p : List Seg) : trail h (canon v) p = trail h v p := by
  cases p with
  | nil => rfl
  | cons s q => cases v <;> cases s <;> rfl

theorem head_mem_trail (h : Heap) (v : Val) (s : Seg) (q : List Seg) : addrOf v ∈ trail h v (s :: q) := by
  simp [trail]

theorem trail_reuse {h : Heap} {v w : Val} {s s' : Seg} (q : List Seg) (hn : navStep h v s = some w)
    (hk : w.kind = s'.kind) : trail h v (s :: s' :: q) = addrOf v :: trail h w (s' :: q) := by
  simp only [trail, hn, hk, if_true]

theorem trail_of_none {h : Heap} {v : Val} {s : Seg} (q : List Seg) (hn : navStep h v s = none) :
    trail h v (s :: q) = [addrOf v] := by
  cases q <;> simp [trail, hn]

/-! ## after a creating step -/

theorem Recv.append {h : Heap} {v : Val} {s : Seg} (hr : Recv h v s) (c : Cell) : Recv (h ++ [c]) v s :=
  ⟨Val.okIn_mono (Ext0.append h c).mono hr.1, hr.2⟩

/-- what a creating step establishes (`created`): one new cell of the wanted kind at `h.length`, referenced
from the slot `s` of `v`, and nothing else touched -/
structure Created (h h1 : Heap) (v : Val) (s : Seg) (b : Bool) : Prop where
  len : h1.length = h.length + 1
  newCell : h1[h.length]? = some (mkCell b)
  ext : Ext h h1 (addrOf v)
  wf : HeapWF h1
  nav : navStep h1 v s = some (h1.getVal (mkRef b h.length))

theorem created {h : Heap} {v : Val} {s : Seg} (wf : HeapWF h) (hr : Recv h v s) (b : Bool) :
    Created h (leafHeap (h ++ [mkCell b]) v s (mkRef b h.length)) v s b := by
  have hlt := hr.lt
  have e1 := leafHeap_ext (h ++ [mkCell b]) v s (mkRef b h.length)
  refine ⟨by rw [leafHeap_length]; simp, ?_, ((Ext0.append h _).toExt _).trans e1, ?_, ?_⟩
  · rw [e1.other h.length (by simp) (by omega)]; simp
  · refine leafHeap_wf ?_ (by cases b <;> simp [mkRef, mkCell, Val.okIn])
    cases b
    · exact wf.append_list [] 0 (by simp)
    · exact wf.append_obj [] 0 (by simp)
  · exact leafHeap_navStep _ (hr.append _)

theorem Created.recv {h h1 : Heap} {v : Val} {s : Seg} {b : Bool} (c : Created h h1 v s b) (s' : Seg)
    (hk : wantKind b = s'.kind) : Recv h1 (mkRef b h.length) s' := by
  refine ⟨?_, by rw [mkRef_kind, hk]⟩
  have := c.newCell
  cases b <;> simp [mkRef, mkCell, Val.okIn, isList, isObj, this]

theorem Created.fresh {h h1 : Heap} {v : Val} {s : Seg} {b : Bool} (c : Created h h1 v s b) (s' : Seg) :
    navStep h1 (mkRef b h.length) s' = none := by
  -- the new cell is empty: no field, no element; and a segment of the other kind does not apply
  have := c.newCell
  cases b <;> cases s'
  · rfl
  · rw [mkRef, if_neg Bool.false_ne_true, navStep_idx_list]; simp [mkCell, Heap.items, this]
  · rw [mkRef, if_pos rfl, navStep_key_obj]; simp [mkCell, Heap.fields, this]
  · rfl

/-- every slot of the container `v` other than the one `s` addresses is the same in `h'` as in `h`
(for a list: every position that existed) -/
def SlotsKept (h h' : Heap) (v : Val) (s : Seg) : Prop :=
  match s with
  | .idx i => ∀ j, j ≠ i → j < (h.items (addrOf v)).length →
      (h'.items (addrOf v))[j]? = (h.items (addrOf v))[j]?
  | .key k => ∀ k', k' ≠ k → lookup (h'.fields (addrOf v)) k' = lookup (h.fields (addrOf v)) k'

theorem SlotsKept.congr {h h' g g' : Heap} {v : Val} {s : Seg} (e : g[addrOf v]? = h[addrOf v]?)
    (e' : g'[addrOf v]? = h'[addrOf v]?) (hs : SlotsKept h h' v s) : SlotsKept g g' v s := by
  cases s with
  | idx i =>
    intro j hj hjl
    rw [items_congr e] at hjl ⊢
    rw [items_congr e']
    exact hs j hj hjl
  | key k =>
    intro k' hk'
    rw [fields_congr e, fields_congr e']
    exact hs k' hk'

theorem SlotsKept.refl (h : Heap) (v : Val) (s : Seg) : SlotsKept h h v s := by
  cases s with
  | idx i => intro j _ _; rfl
  | key k => intro k' _; rfl

theorem leafHeap_slots {h : Heap} {v : Val} {s : Seg} (x : Val) (hr : Recv h v s) :
    SlotsKept h (leafHeap h v s x) v s := by
  rcases hr.cases with ⟨r, i, rfl, rfl, hl⟩ | ⟨r, k, rfl, rfl, hl⟩
  · intro j hj hjl
    simp only [leafHeap, addrOf] at hjl ⊢
    rw [items_setItems_same _ hl, putAt_getElem?_ne _ _ _ _ hj hjl]
  · intro k' hk'
    simp only [leafHeap, addrOf]
    rw [fields_setFields_same _ hl, lookup_setKV, if_neg hk']

/-! ## one descent step, summed up -/

/-- what the descent step along `s` towards `s'` leaves behind: the heap `h1` and the receiver `w`
SetTF goes on with. Either the existing container is reused (`h1 = h`) or a new cell at `h.length`
is stored in the slot; both cases are settled here, so the inductions over the path (the frame
below, set-then-get and the slots in Props/C11) never look at them. -/
structure Stepped (h : Heap) (v : Val) (s s' : Seg) (q : List Seg) (h1 : Heap) (w : Val) : Prop where
  wf : HeapWF h1
  recv : Recv h1 w s'
  ext : Ext h h1 (addrOf v)
  nav : ∃ w', navStep h1 v s = some w' ∧ canon w' = canon w
  slots : SlotsKept h h1 v s
  off : ∀ b, b < h.length → b ∉ trail h v (s :: s' :: q) → b ∉ trail h1 w (s' :: q)
  nodup : (trail h v (s :: s' :: q)).Nodup → addrOf v ∉ trail h1 w (s' :: q) ∧ (trail h1 w (s' :: q)).Nodup
  reuse : ∀ w0, navStep h v s = some w0 → w0.kind = s'.kind → h1 = h ∧ w = w0

theorem setTF_step {h : Heap} {v : Val} {s : Seg} (wf : HeapWF h) (hr : Recv h v s) (hs : s.Valid)
    (s' : Seg) (q : List Seg) (g : GoVal) :
    ∃ h1 w, setTF h v (render (s :: s' :: q)) g = setTF h1 w (render (s' :: q)) g ∧
      Stepped h v s s' q h1 w := by
  rw [setTF_cons h v s (s' :: q) g hs]
  rcases stepV_cases wf hr s'.isKey with ⟨w, hw, hwk, hwo, hst⟩ | ⟨hno, hst⟩
  · refine ⟨h, w, by simp only [hst]; rw [mkRef_of_kind hwk, setTF_canon], ?_⟩
    rw [wantKind_isKey] at hwk
    have htr := trail_reuse q hw hwk
    exact {
      wf := wf, recv := ⟨hwo, hwk⟩, ext := Ext.refl h _, nav := ⟨w, hw, rfl⟩, slots := SlotsKept.refl h v s
      off := fun b _ hb hc => hb (htr ▸ List.mem_cons_of_mem _ hc)
      nodup := fun hnd => List.nodup_cons.1 (htr ▸ hnd)
      reuse := fun w0 hw0 _ => ⟨rfl, Option.some.inj (hw ▸ hw0)⟩ }
  · have c := created wf hr s'.isKey
    have hlt := hr.lt
    have htr : trail (leafHeap (h ++ [mkCell s'.isKey]) v s (mkRef s'.isKey h.length))
        (mkRef s'.isKey h.length) (s' :: q) = [h.length] := by
      rw [trail_of_none q (c.fresh s'), addrOf_mkRef]
    refine ⟨leafHeap (h ++ [mkCell s'.isKey]) v s (mkRef s'.isKey h.length), mkRef s'.isKey h.length,
      by simp only [hst], ?_⟩
    exact {
      wf := c.wf, recv := c.recv s' (wantKind_isKey s'), ext := c.ext
      nav := ⟨_, c.nav, by rw [canon_getVal]⟩
      slots := (leafHeap_slots _ (hr.append _)).congr (getElem?_append_old h _ hlt).symm rfl
      off := fun b hb _ => by rw [htr, List.mem_singleton]; omega
      nodup := fun _ => by rw [htr]; exact ⟨by rw [List.mem_singleton]; omega, by simp⟩
      reuse := fun w0 hw0 hk => absurd (by rw [wantKind_isKey]; exact hk) (hno w0 hw0) }

/-! ## frame: only trail cells and new cells change -/

theorem set_frame (g : GoVal) (p : List Seg) (hne : p ≠ []) (hv : ValidPath p) (h : Heap) (v : Val)
    (wf : HeapWF h) (hok : v.okIn h) :
    Mono h (setTF h v (render p) g).1 ∧
    ∀ b, b < h.length → b ∉ trail h v p → (setTF h v (render p) g).1[b]? = h[b]? := by
  induction p generalizing h v with
  | nil => exact absurd rfl hne
  | cons s q ih =>
    cases q with
    | nil =>
      rw [setTF_cons h v s [] g hv.head]
      have e := setLeaf_ext h v s g
      refine ⟨e.mono, fun b hb hnb => e.other b hb ?_⟩
      intro hc; exact hnb (by rw [hc]; exact head_mem_trail h v s [])
    | cons s' q' =>
      by_cases hk : v.kind = s.kind
      · obtain ⟨h1, w, e, st⟩ := setTF_step wf ⟨hok, hk⟩ hv.head s' q' g
        obtain ⟨m, fr⟩ := ih (by simp) hv.tail h1 w st.wf st.recv.1
        rw [e]
        refine ⟨st.ext.mono.trans m, fun b hb hnb => ?_⟩
        rw [fr b (Nat.lt_of_lt_of_le hb st.ext.mono.len) (st.off b hb hnb), st.ext.other b hb]
        exact fun hc => hnb (by rw [hc]; exact head_mem_trail h v s _)
      · rw [setTF_cons h v s _ g hv.head]
        have : stepV h v s s'.isKey = (h, .panic .badTF) := by
          cases s <;> cases v <;> simp [Val.kind, Seg.kind] at hk <;> rfl
        simp only [this]
        exact ⟨Mono.refl h, fun _ _ _ => trivial⟩

/-- after the step the rest of the path leaves the receiver cell alone, as long as no cell is
visited twice -/
theorem setTF_step_root (g : GoVal) {h h1 : Heap} {v w : Val} {s s' : Seg} {q : List Seg}
    (st : Stepped h v s s' q h1 w) (hv : ValidPath (s' :: q)) (hlt : addrOf v < h.length)
    (hnd : (trail h v (s :: s' :: q)).Nodup) :
    (setTF h1 w (render (s' :: q)) g).1[addrOf v]? = h1[addrOf v]? :=
  (set_frame g (s' :: q) (by simp) hv h1 w st.wf st.recv.1).2 (addrOf v)
    (Nat.lt_of_lt_of_le hlt st.ext.mono.len) (st.nodup hnd).1

end TFP
end Anytype
