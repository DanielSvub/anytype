/-
The tree-form mutators (`SetTF` / `UnsetTF` on lists and objects) act inside the region of their
receiver: with a receiver in a closed address set `P` (and arguments referencing only `P`) they
change only cells of `P`, allocate only new cells, and keep `P` closed.
`GOp` = the method mutators `MOp` plus the four tree-form mutators.
-/
import Anytype.Lemmas.Closed
import Anytype.Model.TreeForm
namespace Anytype
open Heap
namespace Rf

variable {P : Nat → Prop} {h : Heap}

/-- `h'` has every cell of `h`, and the cells outside `P` are unchanged -/
structure Confined (P : Nat → Prop) (h h' : Heap) : Prop where
  len : h.length ≤ h'.length
  same : ∀ b, b < h.length → ¬ P b → h'[b]? = h[b]?

/-- confined to `P`, and `P` is still closed afterwards -/
def Good (P : Nat → Prop) (h h' : Heap) : Prop := Confined P h h' ∧ Closed P h'

theorem Confined.refl (P : Nat → Prop) (h : Heap) : Confined P h h := ⟨Nat.le_refl _, fun _ _ _ => rfl⟩

theorem Confined.trans {h1 h2 h3 : Heap} (c1 : Confined P h1 h2)
    (c2 : Confined P h2 h3) : Confined P h1 h3 :=
  ⟨Nat.le_trans c1.len c2.len, fun b hb hP => by
    rw [c2.same b (Nat.lt_of_lt_of_le hb c1.len) hP, c1.same b hb hP]⟩

theorem Confined.of_ext {h h' : Heap} {a : Nat} (e : Ext h h' a) (ha : P a) :
    Confined P h h' :=
  ⟨e.len, fun b hb hP => e.other b hb (fun hc => hP (hc ▸ ha))⟩

theorem Confined.of_ext0 {h h' : Heap} (e : Ext0 h h') : Confined P h h' :=
  ⟨e.len, fun b hb _ => e.same b hb⟩

theorem Confined.agreeOn {P : Nat → Prop} {h h' : Heap} (c : Confined P h h') (lo hi : Nat)
    (hhi : hi ≤ h.length) (hdis : ∀ a, P a → a < lo ∨ hi ≤ a) : AgreeOn lo hi h h' :=
  fun b h1 h2 => c.same b (Nat.lt_of_lt_of_le h2 hhi) fun hP =>
    (hdis b hP).elim (fun hb => absurd h1 (Nat.not_le.2 hb)) (fun hb => absurd h2 (Nat.not_lt.2 hb))

theorem Good.refl (cl : Closed P h) : Good P h h := ⟨Confined.refl P h, cl⟩

theorem Good.trans {h1 h2 h3 : Heap} (g1 : Good P h1 h2) (g2 : Good P h2 h3) :
    Good P h1 h3 := ⟨g1.1.trans g2.1, g2.2⟩

theorem Good.of_stepM (op : MOp) (cl : Closed P h)
    (up : UpFrom P h.length) (ht : P op.target) (hop : op.refP P) : Good P h (stepM h op) :=
  ⟨Confined.of_ext (stepM_ext h op) ht, stepM_closed P h op cl up hop⟩

/-! ### what `Get` returns is stored in the receiver -/

theorem refP_getVal (P : Nat → Prop) (h : Heap) (v : Val) : (h.getVal v).refP P ↔ v.refP P := by
  cases v <;> simp [getVal, Val.refP]

theorem lgetK_refP {a : Nat} (cl : Closed P h) (ha : P a) {k : Kind}
    {i : Int} {w : Val} (hg : L.getK h a k i = .ok w) : w.refP P := by
  unfold L.getK at hg
  split at hg
  · cases hg
  · next v hv =>
    split at hg <;> cases hg
    unfold L.get at hv
    split at hv
    · cases hv
    · split at hv <;> cases hv
      next x hx _ => exact (refP_getVal P h x).2 ((cl a ha).1 x (List.mem_of_getElem? hx))

theorem ogetK_refP {a : Nat} (cl : Closed P h) (ha : P a) {k : Kind}
    {key : Str} {w : Val} (hg : O.getK h a k key = .ok w) : w.refP P := by
  unfold O.getK at hg
  split at hg
  · cases hg
  · next v hv =>
    split at hg <;> cases hg
    unfold O.get at hv
    split at hv <;> cases hv
    next x hx _ =>
      exact (refP_getVal P h x).2 ((cl a ha).2 _ (mem_of_lookup hx))

/-! ### the intermediate step of `SetTF` -/

theorem padNil_good (cl : Closed P h) (a k : Nat) (ha : P a) :
    Good P h (TF.padNil h a k) := by
  unfold TF.padNil
  refine ⟨Confined.of_ext (Ext.setItems h a _) ha, cl.setItems a _ (fun _ w hw => ?_)⟩
  rcases List.mem_append.1 hw with hw | hw
  · exact (cl a ha).1 w hw
  · rw [(List.mem_replicate.1 hw).2]; trivial

/-- allocating the empty container `SetTF` descends into -/
theorem Good.alloc (cl : Closed P h) (w : Bool) :
    Good P h (h ++ [if w then .obj [] 0 else .list [] 0]) := by
  refine ⟨Confined.of_ext0 (Ext0.append h _), cl.append _ fun _ => ?_⟩
  cases w <;> exact List.forall_mem_nil _

/-- what an intermediate step of `SetTF` does: the heap change is good, and the container to
descend into (if there is one) is in `P` -/
def Descends (P : Nat → Prop) (h : Heap) (q : Heap × Out Nat) : Prop :=
  Good P h q.1 ∧ ∀ c, q.2 = .ok c → P c

theorem Descends.ok {h h' : Heap} {c : Nat} (g : Good P h h') (hc : P c) :
    Descends P h (h', .ok c) := ⟨g, fun _ e => by cases e; exact hc⟩

theorem Descends.panic {h h' : Heap} (g : Good P h h') (k : PanicKind) :
    Descends P h (h', .panic k) := ⟨g, fun _ e => by cases e⟩

theorem stepL_good (cl : Closed P h) (up : UpFrom P h.length)
    (a : Nat) (ha : P a) (i : Int) (w : Bool) : Descends P h (TF.stepL h a i w) := by
  have hn : P h.length := up _ (Nat.le_refl _)
  have hval : (if w then Val.obj ⟨h.length, 0⟩ else .list ⟨h.length, 0⟩).refP P := by
    cases w <;> exact hn
  have g0 := Good.alloc cl w
  refine of_ite (fun _ => ?_) fun _ => of_ite (fun _ => ?_) fun _ => of_ite (fun _ => ?_) fun _ => ?_
  · have g1 := padNil_good g0.2 a (i - L.count h a).toNat ha
    exact .ok (g0.trans (g1.trans ⟨Confined.of_ext (Ext.setItems _ a _) ha, g1.2.addItem a hval⟩)) hn
  · -- an existing container is reused: it is stored in the receiver
    have hin : ∀ v, (h.items a)[i.toNat]? = some v → ∀ c, v.addr? = some c → P c :=
      fun v hv c hc => refP_addr ((cl a ha).1 v (List.mem_of_getElem? hv)) hc
    rcases hr : (h.items a)[i.toNat]? with _ | v
    · exact .panic (Good.refl cl) _
    · cases v with
      | list r => exact .ok (Good.refl cl) (hin _ hr _ rfl)
      | obj r => exact .ok (Good.refl cl) (hin _ hr _ rfl)
      | _ => exact .panic (Good.refl cl) _
  · exact .panic g0 _
  · refine .ok (g0.trans ⟨Confined.of_ext (Ext.setItems _ a _) ha,
      g0.2.setItems a _ (fun _ v hv => ?_)⟩) hn
    rcases List.mem_or_eq_of_mem_set hv with hv | hv
    · exact (cl a ha).1 v hv
    · rw [hv]; exact hval

theorem stepO_good (cl : Closed P h) (up : UpFrom P h.length)
    (a : Nat) (ha : P a) (key : Str) (w : Bool) :
    Good P h (TF.stepO h a key w).1 ∧ P (TF.stepO h a key w).2 := by
  refine of_ite (p := fun q : Heap × Nat => Good P h q.1 ∧ P q.2) (fun h1 => ?_) fun _ => ?_
  · -- the test on the kind succeeded, so the key holds a container, stored in the receiver
    unfold O.typeOf at h1
    rcases hl : lookup (h.fields a) key with _ | v <;> rw [hl] at h1
    · cases w <;> cases h1
    · have hv := (cl a ha).2 _ (mem_of_lookup hl)
      revert h1 hv
      cases v with
      | list r => exact fun _ hv => ⟨Good.refl cl, hv⟩
      | obj r => exact fun _ hv => ⟨Good.refl cl, hv⟩
      | _ => intro h1; cases w <;> cases h1
  · exact ⟨(Good.alloc cl w).trans ⟨Confined.of_ext (Ext.setFields _ a _) ha,
      (Good.alloc cl w).2.setKV a key (fun _ => (cl a ha).2)
        (by cases w <;> exact up _ (Nat.le_refl _))⟩, up _ (Nat.le_refl _)⟩

theorem Good.up {h h' : Heap} (g : Good P h h') (up : UpFrom P h.length) :
    UpFrom P h'.length := up.mono g.1.len

theorem setTF_good (P : Nat → Prop) (g : GoVal) (hg : g.refP P) : ∀ n : Nat,
    (∀ (h : Heap) (a : Nat) (tf : Str), Closed P h → UpFrom P h.length → P a →
      Good P h (TF.setL n h a tf g).1) ∧
    (∀ (h : Heap) (a : Nat) (tf : Str), Closed P h → UpFrom P h.length → P a →
      Good P h (TF.setO n h a tf g).1) := by
  intro n
  induction n with
  | zero => exact ⟨fun h a tf cl _ _ => by rw [TF.setL]; exact Good.refl cl,
      fun h a tf cl _ _ => by rw [TF.setO]; exact Good.refl cl⟩
  | succ n ih =>
    constructor
    · intro h a tf cl up ha
      -- after the intermediate step, descend into the container it returns
      have down : ∀ (w : Bool) (i : Int) (k : Nat → Heap → Nat → Str → GoVal → Heap × Out Unit)
          (rest : Str), (∀ h1 c, Closed P h1 → UpFrom P h1.length → P c → Good P h1 (k n h1 c rest g).1) →
          Good P h (match TF.stepL h a i w with
            | (h1, .panic p) => (h1, Out.panic p)
            | (h1, .ok c) => k n h1 c rest g).1 := fun w i k rest hk => by
        have s := stepL_good cl up a ha i w
        generalize TF.stepL h a i w = q at s ⊢
        obtain ⟨h1, c | p⟩ := q
        · exact s.1.trans (hk h1 c s.1.2 (s.1.up up) (s.2 c rfl))
        · exact s.1
      rw [TF.setL]
      rcases TF.strip '#' tf with _ | t <;> dsimp only
      · exact Good.refl cl
      rcases TF.split t with ⟨seg, rest⟩ | ⟨seg, rest⟩ | seg <;> dsimp only <;>
        rcases TF.parseIdx seg with _ | i <;> dsimp only
      · exact Good.refl cl
      · exact down true i TF.setO rest (fun h1 c => ih.2 h1 c rest)
      · exact Good.refl cl
      · exact down false i TF.setL rest (fun h1 c => ih.1 h1 c rest)
      · exact Good.refl cl
      · refine of_ite (p := fun q : Heap × Out Unit => Good P h q.1) (fun _ => ?_) fun _ => ?_
        · have g1 := padNil_good cl a (i - L.count h a).toNat ha
          have g2 := g1.trans (Good.of_stepM (.add a [g]) g1.2 (g1.up up) ha ⟨hg, trivial⟩)
          rw [stepM] at g2
          generalize L.add (TF.padNil h a (i - L.count h a).toNat) a [g] = q at g2 ⊢
          obtain ⟨h1, _ | p⟩ := q <;> exact g2
        · have g2 := Good.of_stepM (.replace a i g) cl up ha hg
          rw [stepM] at g2
          generalize L.replace h a i g = q at g2 ⊢
          obtain ⟨h1, _ | p⟩ := q <;> exact g2
    · intro h a tf cl up ha
      rw [TF.setO]
      rcases TF.strip '.' tf with _ | t <;> dsimp only
      · exact Good.refl cl
      rcases TF.split t with ⟨key, rest⟩ | ⟨key, rest⟩ | key <;> dsimp only
      · have s := stepO_good cl up a ha key true
        exact s.1.trans (ih.2 _ _ _ s.1.2 (s.1.up up) s.2)
      · have s := stepO_good cl up a ha key false
        exact s.1.trans (ih.1 _ _ _ s.1.2 (s.1.up up) s.2)
      · have g2 := Good.of_stepM (.oset a [(some key, g)] false) cl up ha
          (List.forall_mem_singleton.2 hg)
        rw [stepM] at g2
        generalize O.set h a [(some key, g)] false = q at g2 ⊢
        obtain ⟨h1, _ | p⟩ := q <;> exact g2

theorem unsetTF_good (P : Nat → Prop) : ∀ n : Nat,
    (∀ (h : Heap) (a : Nat) (tf : Str), Closed P h → UpFrom P h.length → P a →
      Good P h (TF.unsetL n h a tf).1) ∧
    (∀ (h : Heap) (a : Nat) (tf : Str), Closed P h → UpFrom P h.length → P a →
      Good P h (TF.unsetO n h a tf).1) := by
  intro n
  induction n with
  | zero => exact ⟨fun h a tf cl _ _ => by rw [TF.unsetL]; exact Good.refl cl,
      fun h a tf cl _ _ => by rw [TF.unsetO]; exact Good.refl cl⟩
  | succ n ih =>
    -- descend into the container a typed getter returned
    have down : ∀ {h : Heap} (cl : Closed P h) (up : UpFrom P h.length) (o : Out Val),
        (∀ w, o = .ok w → w.refP P) → ∀ (rest : Str),
        Good P h (match o with
          | .ok (.obj r) => TF.unsetO n h r.addr rest
          | .ok _ => (h, Out.panic .runtime)
          | .panic p => (h, .panic p)).1 ∧
        Good P h (match o with
          | .ok (.list r) => TF.unsetL n h r.addr rest
          | .ok _ => (h, Out.panic .runtime)
          | .panic p => (h, .panic p)).1 := fun {h} cl up o ho rest => by
      rcases o with w | p
      · have hw := ho w rfl
        cases w with
        | list r => exact ⟨Good.refl cl, ih.1 h r.addr rest cl up hw⟩
        | obj r => exact ⟨ih.2 h r.addr rest cl up hw, Good.refl cl⟩
        | _ => exact ⟨Good.refl cl, Good.refl cl⟩
      · exact ⟨Good.refl cl, Good.refl cl⟩
    constructor
    · intro h a tf cl up ha
      rw [TF.unsetL]
      rcases TF.strip '#' tf with _ | t <;> dsimp only
      · exact Good.refl cl
      rcases TF.split t with ⟨seg, rest⟩ | ⟨seg, rest⟩ | seg <;> dsimp only <;>
        rcases TF.parseIdx seg with _ | i <;> dsimp only
      · exact Good.refl cl
      · exact (down cl up _ (fun _ hq => lgetK_refP cl ha hq) rest).1
      · exact Good.refl cl
      · exact (down cl up _ (fun _ hq => lgetK_refP cl ha hq) rest).2
      · exact Good.refl cl
      · have g2 := Good.of_stepM (.delete a [i]) cl up ha trivial
        rw [stepM] at g2
        generalize L.delete h a [i] = q at g2 ⊢
        obtain ⟨h1, _ | p⟩ := q <;> exact g2
    · intro h a tf cl up ha
      rw [TF.unsetO]
      rcases TF.strip '.' tf with _ | t <;> dsimp only
      · exact Good.refl cl
      rcases TF.split t with ⟨key, rest⟩ | ⟨key, rest⟩ | key <;> dsimp only
      · exact (down cl up _ (fun _ hq => ogetK_refP cl ha hq) rest).1
      · exact (down cl up _ (fun _ hq => ogetK_refP cl ha hq) rest).2
      · exact Good.of_stepM (.ounset a [key]) cl up ha trivial

/-! ### the full mutator alphabet and programs acting inside a region -/

/-- a mutating call: a method mutator or one of the four tree-form mutators
(`n` is the recursion fuel of the model; `tf.length` always suffices) -/
inductive GOp
  | m (op : MOp)
  | setL (n a : Nat) (tf : Str) (g : GoVal)
  | setO (n a : Nat) (tf : Str) (g : GoVal)
  | unsetL (n a : Nat) (tf : Str)
  | unsetO (n a : Nat) (tf : Str)

/-- the receiver -/
def GOp.target : GOp → Nat
  | .m op => op.target
  | .setL _ a _ _ | .setO _ a _ _ | .unsetL _ a _ | .unsetO _ a _ => a

/-- the container references among the arguments (at any depth) are all in `P` -/
def GOp.refP (P : Nat → Prop) : GOp → Prop
  | .m op => op.refP P
  | .setL _ _ _ g | .setO _ _ _ g => g.refP P
  | _ => True

/-- the heap after the call (at the panic point if it panics) -/
def stepG (h : Heap) : GOp → Heap
  | .m op => stepM h op
  | .setL n a tf g => (TF.setL n h a tf g).1
  | .setO n a tf g => (TF.setO n h a tf g).1
  | .unsetL n a tf => (TF.unsetL n h a tf).1
  | .unsetO n a tf => (TF.unsetO n h a tf).1

def runG (h : Heap) : List GOp → Heap
  | [] => h
  | op :: ops => runG (stepG h op) ops

/-- any mutating call whose receiver is in the closed region `P` and whose arguments reference only
`P` changes only cells of `P` and keeps `P` closed -/
theorem stepG_good (op : GOp) (cl : Closed P h) (up : UpFrom P h.length)
    (ht : P op.target) (hop : op.refP P) : Good P h (stepG h op) := by
  cases op with
  | m op => exact Good.of_stepM op cl up ht hop
  | setL n a tf g => exact (setTF_good P g hop n).1 h a tf cl up ht
  | setO n a tf g => exact (setTF_good P g hop n).2 h a tf cl up ht
  | unsetL n a tf => exact (unsetTF_good P n).1 h a tf cl up ht
  | unsetO n a tf => exact (unsetTF_good P n).2 h a tf cl up ht

/-- every call's receiver is reachable from `root` in the heap the call is executed in, and its
arguments reference only containers in `P` -/
def ProgInside (P : Nat → Prop) (root : Val) : Heap → List GOp → Prop
  | _, [] => True
  | h, op :: ops =>
    (∃ n, op.target ∈ reach n h root) ∧ op.refP P ∧ ProgInside P root (stepG h op) ops

/-- such a program changes only cells of `P` (and appends cells), and `P` stays closed -/
theorem runG_inside (P : Nat → Prop) (root : Val) (hroot : root.refP P) :
    ∀ (ops : List GOp) (h : Heap), Closed P h → UpFrom P h.length → ProgInside P root h ops →
      Good P h (runG h ops) := by
  intro ops
  induction ops with
  | nil => intro h cl _ _; exact Good.refl cl
  | cons op ops ih =>
    intro h cl up hp
    obtain ⟨⟨n, hn⟩, harg, hrest⟩ := hp
    have g1 := stepG_good op cl up (reach_closed cl n root hroot _ hn) harg
    exact g1.trans (ih (stepG h op) g1.2 (g1.up up) hrest)

end Rf
end Anytype
