/-
Association-list lemmas: `lookup`, `setKV`, `delKV`, `keysOf` (the Go map).
-/
import Anytype.Spec.Equiv
namespace Anytype

variable {α β : Type}

@[simp] theorem keysOf_nil : keysOf ([] : List (Str × α)) = [] := rfl
@[simp] theorem keysOf_cons (kv : Str × α) (fs : List (Str × α)) :
    keysOf (kv :: fs) = kv.1 :: keysOf fs := rfl
theorem length_keysOf (fs : List (Str × α)) : (keysOf fs).length = fs.length := by
  simp [keysOf]
theorem mem_keysOf_of_mem {fs : List (Str × α)} {kv : Str × α} (h : kv ∈ fs) : kv.1 ∈ keysOf fs :=
  List.mem_map_of_mem h
theorem mem_keysOf {fs : List (Str × α)} {k : Str} : k ∈ keysOf fs ↔ ∃ v, (k, v) ∈ fs :=
  ⟨fun h => let ⟨kv, hm, e⟩ := List.mem_map.1 h; ⟨kv.2, e ▸ hm⟩, fun ⟨_, h⟩ => mem_keysOf_of_mem h⟩

@[simp] theorem lookup_nil (k : Str) : lookup ([] : List (Str × α)) k = none := rfl

theorem lookup_cons (k' : Str) (v : α) (fs : List (Str × α)) (k : Str) :
    lookup ((k', v) :: fs) k = if k' = k then some v else lookup fs k := by
  simp [lookup]

theorem lookup_eq_none_iff {fs : List (Str × α)} {k : Str} :
    lookup fs k = none ↔ k ∉ keysOf fs := by
  induction fs with
  | nil => simp
  | cons kv fs ih =>
    obtain ⟨k', v⟩ := kv
    rw [lookup_cons]
    by_cases h : k' = k
    · simp [h]
    · simp [h, ih, Ne.symm h]

theorem lookup_isSome_iff {fs : List (Str × α)} {k : Str} :
    (lookup fs k).isSome = true ↔ k ∈ keysOf fs := by
  rw [← Decidable.not_iff_not, ← lookup_eq_none_iff]
  cases lookup fs k <;> simp

theorem exists_lookup_of_mem_keys {fs : List (Str × α)} {k : Str} (h : k ∈ keysOf fs) :
    ∃ v, lookup fs k = some v := Option.isSome_iff_exists.1 (lookup_isSome_iff.2 h)

theorem mem_of_lookup {fs : List (Str × α)} {k : Str} {v : α} (h : lookup fs k = some v) :
    (k, v) ∈ fs := by
  induction fs with
  | nil => simp at h
  | cons kv fs ih =>
    obtain ⟨k', v'⟩ := kv
    rw [lookup_cons] at h
    by_cases hk : k' = k
    · simp only [hk, if_true, Option.some.injEq] at h
      simp [hk, h]
    · simp only [hk, if_false] at h
      exact List.mem_cons_of_mem _ (ih h)

theorem mem_keys_of_lookup {fs : List (Str × α)} {k : Str} {v : α} (h : lookup fs k = some v) :
    k ∈ keysOf fs := mem_keysOf_of_mem (mem_of_lookup h)

theorem lookup_of_mem {fs : List (Str × α)} {k : Str} {v : α} (hn : (keysOf fs).Nodup)
    (h : (k, v) ∈ fs) : lookup fs k = some v := by
  induction fs with
  | nil => simp at h
  | cons kv fs ih =>
    obtain ⟨k', v'⟩ := kv
    simp only [keysOf_cons, List.nodup_cons] at hn
    rw [lookup_cons]
    rcases List.mem_cons.1 h with h | h
    · simp only [Prod.mk.injEq] at h
      simp [h.1, h.2]
    · have : k' ≠ k := fun e => hn.1 (e ▸ mem_keysOf.2 ⟨v, h⟩)
      simp only [this, if_false]
      exact ih hn.2 h

theorem lookup_perm {fs fs' : List (Str × α)} (hp : fs.Perm fs') (hn : (keysOf fs).Nodup)
    (k : Str) : lookup fs k = lookup fs' k := by
  have hpk : (keysOf fs).Perm (keysOf fs') := hp.map _
  have hn' : (keysOf fs').Nodup := hpk.nodup_iff.1 hn
  cases h : lookup fs k with
  | none =>
    have : k ∉ keysOf fs' := fun hm => lookup_eq_none_iff.1 h (hpk.mem_iff.2 hm)
    exact (lookup_eq_none_iff.2 this).symm
  | some v => exact (lookup_of_mem hn' (hp.mem_iff.1 (mem_of_lookup h))).symm

/-- lookup in a key-preserving `map` -/
theorem lookup_map_val (g : Str → α → β) (fs : List (Str × α)) (k : Str) :
    lookup (fs.map (fun kv => (kv.1, g kv.1 kv.2))) k = (lookup fs k).map (g k) := by
  induction fs with
  | nil => rfl
  | cons kv fs ih =>
    obtain ⟨k', v⟩ := kv
    simp only [List.map_cons, lookup_cons, ih]
    split
    · next hk => subst hk; rfl
    · rfl

theorem lookup_map (f : α → β) (fs : List (Str × α)) (k : Str) :
    lookup (fs.map (fun kv => (kv.1, f kv.2))) k = (lookup fs k).map f :=
  lookup_map_val (fun _ => f) fs k

/-- lookup in a `filterMap` that keeps keys, for distinct keys: a field dropped by `g` must not
be shadowed by a later field under the same key -/
theorem lookup_filterMap_nodup (g : α → Option β) (fs : List (Str × α))
    (hnd : (keysOf fs).Nodup) (k : Str) :
    lookup (fs.filterMap (fun kv => (g kv.2).map (fun x => (kv.1, x)))) k
      = (lookup fs k).bind g := by
  induction fs with
  | nil => rfl
  | cons p fs ih =>
    obtain ⟨k', v⟩ := p
    simp only [keysOf_cons, List.nodup_cons] at hnd
    rw [List.filterMap_cons, lookup_cons]
    by_cases hk : k' = k
    · subst hk
      rw [if_pos rfl, Option.bind_some]
      cases hg : g v with
      | none => exact (ih hnd.2).trans (by rw [lookup_eq_none_iff.2 hnd.1]; rfl)
      | some y => exact (lookup_cons ..).trans (if_pos rfl)
    · rw [if_neg hk, ← ih hnd.2]
      cases g v with
      | none => rfl
      | some y => exact (lookup_cons ..).trans (if_neg hk)

theorem keysOf_map (f : α → β) (fs : List (Str × α)) :
    keysOf (fs.map (fun kv => (kv.1, f kv.2))) = keysOf fs := by
  simp [keysOf, Function.comp_def]

theorem setKV_cons (k' : Str) (v' : α) (fs : List (Str × α)) (k : Str) (v : α) :
    setKV ((k', v') :: fs) k v = if k' = k then (k, v) :: fs else (k', v') :: setKV fs k v := by
  simp [setKV]

theorem mem_setKV {kvs : List (Str × α)} {k : Str} {v : α} {p : Str × α}
    (hp : p ∈ setKV kvs k v) : p = (k, v) ∨ p ∈ kvs := by
  induction kvs with
  | nil => exact .inl (List.mem_singleton.1 hp)
  | cons kv kvs ih =>
    obtain ⟨k', v'⟩ := kv
    unfold setKV at hp
    split at hp
    · exact (List.mem_cons.1 hp).imp_right (List.mem_cons_of_mem _)
    · obtain rfl | hm := List.mem_cons.1 hp
      · exact .inr List.mem_cons_self
      · exact (ih hm).imp_right (List.mem_cons_of_mem _)

/-- `m[k] = v` for a key not yet present appends (in the association-list order) -/
theorem setKV_of_not_mem (fs : List (Str × α)) (k : Str) (v : α) (hk : k ∉ keysOf fs) :
    setKV fs k v = fs ++ [(k, v)] := by
  induction fs with
  | nil => rfl
  | cons p fs ih =>
    obtain ⟨k', v'⟩ := p
    simp only [keysOf_cons, List.mem_cons, not_or] at hk
    rw [setKV_cons, if_neg (Ne.symm hk.1), ih hk.2]
    rfl

/-- `m[k] = v; m[k']` -/
theorem lookup_setKV (fs : List (Str × α)) (k : Str) (v : α) (k' : Str) :
    lookup (setKV fs k v) k' = if k' = k then some v else lookup fs k' := by
  induction fs with
  | nil =>
    simp only [setKV, lookup_cons, lookup_nil]
    by_cases h : k = k' <;> simp [h, eq_comm]
  | cons kv fs ih =>
    obtain ⟨k₀, v₀⟩ := kv
    rw [setKV_cons]
    by_cases h0 : k₀ = k
    · subst h0
      simp only [if_true, lookup_cons]
      by_cases h : k' = k₀
      · subst h; simp
      · have : ¬ k₀ = k' := fun e => h e.symm
        simp [h, this]
    · simp only [h0, if_false, lookup_cons, ih]
      by_cases h : k₀ = k'
      · subst h; simp [h0]
      · simp [h]

theorem keysOf_setKV (fs : List (Str × α)) (k : Str) (v : α) :
    keysOf (setKV fs k v) = if k ∈ keysOf fs then keysOf fs else keysOf fs ++ [k] := by
  induction fs with
  | nil => simp [setKV]
  | cons kv fs ih =>
    obtain ⟨k₀, v₀⟩ := kv
    rw [setKV_cons]
    by_cases h0 : k₀ = k
    · subst h0; simp
    · have h0' : ¬ k = k₀ := fun e => h0 e.symm
      simp only [h0, if_false, keysOf_cons, ih, List.mem_cons, h0', false_or]
      split <;> simp

theorem mem_keysOf_setKV {fs : List (Str × α)} {k : Str} {v : α} {k' : Str} :
    k' ∈ keysOf (setKV fs k v) ↔ k' = k ∨ k' ∈ keysOf fs := by
  rw [keysOf_setKV]
  split
  · next hk => exact ⟨Or.inr, fun h => h.elim (· ▸ hk) id⟩
  · simp [or_comm]

theorem nodup_setKV {fs : List (Str × α)} (hn : (keysOf fs).Nodup) (k : Str) (v : α) :
    (keysOf (setKV fs k v)).Nodup := by
  rw [keysOf_setKV]
  split
  · exact hn
  · next h =>
    refine List.nodup_append.2 ⟨hn, List.nodup_cons.2 ⟨List.not_mem_nil, List.nodup_nil⟩,
      fun a ha b hb e => ?_⟩
    cases List.mem_singleton.1 hb
    exact h (e ▸ ha)

theorem delKV_cons (k' : Str) (v' : α) (fs : List (Str × α)) (k : Str) :
    delKV ((k', v') :: fs) k = if k' = k then fs else (k', v') :: delKV fs k := by
  simp [delKV]

theorem mem_delKV {kvs : List (Str × α)} {k : Str} {p : Str × α}
    (hp : p ∈ delKV kvs k) : p ∈ kvs := by
  induction kvs with
  | nil => simp [delKV] at hp
  | cons kv kvs ih =>
    obtain ⟨k', v'⟩ := kv
    unfold delKV at hp
    split at hp
    · exact List.mem_cons_of_mem _ hp
    · rcases List.mem_cons.1 hp with e | hm
      · rw [e]; exact List.mem_cons_self
      · exact List.mem_cons_of_mem _ (ih hm)

theorem mem_foldl_delKV (ks : List Str) {kvs : List (Str × α)} {p : Str × α}
    (hp : p ∈ ks.foldl delKV kvs) : p ∈ kvs := by
  induction ks generalizing kvs with
  | nil => exact hp
  | cons k ks ih => exact mem_delKV (ih hp)

theorem delKV_of_not_mem {fs : List (Str × α)} {k : Str} (h : k ∉ keysOf fs) : delKV fs k = fs := by
  induction fs with
  | nil => rfl
  | cons kv fs ih =>
    obtain ⟨k₀, v₀⟩ := kv
    simp only [keysOf_cons, List.mem_cons, not_or] at h
    rw [delKV_cons]
    have : ¬ k₀ = k := fun e => h.1 e.symm
    simp [this, ih h.2]

theorem keysOf_delKV (fs : List (Str × α)) (k : Str) : keysOf (delKV fs k) = (keysOf fs).erase k := by
  induction fs with
  | nil => rfl
  | cons kv fs ih =>
    obtain ⟨k₀, v₀⟩ := kv
    rw [delKV_cons]
    by_cases h0 : k₀ = k
    · subst h0; simp
    · simp only [h0, if_false, keysOf_cons, ih]
      rw [List.erase_cons_tail (by simpa using h0)]

theorem nodup_delKV {fs : List (Str × α)} (hn : (keysOf fs).Nodup) (k : Str) :
    (keysOf (delKV fs k)).Nodup := by
  rw [keysOf_delKV]; exact hn.erase k

theorem mem_keysOf_delKV {fs : List (Str × α)} (hn : (keysOf fs).Nodup) {k k' : Str} :
    k' ∈ keysOf (delKV fs k) ↔ k' ≠ k ∧ k' ∈ keysOf fs := by
  rw [keysOf_delKV, hn.mem_erase_iff]

/-- for keys other than the deleted one no distinctness is needed -/
theorem lookup_delKV_of_ne (fs : List (Str × α)) {k k' : Str} (hne : k' ≠ k) :
    lookup (delKV fs k) k' = lookup fs k' := by
  induction fs with
  | nil => rfl
  | cons kv fs ih =>
    obtain ⟨k₀, v₀⟩ := kv
    rw [delKV_cons]
    by_cases h0 : k₀ = k
    · subst h0; rw [if_pos rfl, lookup_cons, if_neg (Ne.symm hne)]
    · simp only [h0, if_false, lookup_cons, ih]

/-- `delete(m, k); m[k']`: the deleted key is gone because it occurred only once -/
theorem lookup_delKV {fs : List (Str × α)} (hn : (keysOf fs).Nodup) (k k' : Str) :
    lookup (delKV fs k) k' = if k' = k then none else lookup fs k' := by
  split
  · next h => exact lookup_eq_none_iff.2 fun hm => ((mem_keysOf_delKV hn).1 hm).1 h
  · next h => exact lookup_delKV_of_ne fs h

theorem foldl_keeps {γ : Type} {P : γ → Prop} {f : γ → β → γ} (hf : ∀ c b, P c → P (f c b))
    (l : List β) {c : γ} (hc : P c) : P (l.foldl f c) := by
  induction l generalizing c with
  | nil => exact hc
  | cons b l ih => exact ih (hf c b hc)

theorem nodup_foldl_setKV (f : β → Str) (g : β → α) (ps : List β) {fs : List (Str × α)}
    (hn : (keysOf fs).Nodup) :
    (keysOf (ps.foldl (fun acc p => setKV acc (f p) (g p)) fs)).Nodup :=
  foldl_keeps (P := fun fs => (keysOf fs).Nodup) (fun _ _ h => nodup_setKV h _ _) ps hn

theorem nodup_foldl_delKV (ks : List Str) {fs : List (Str × α)} (hn : (keysOf fs).Nodup) :
    (keysOf (ks.foldl delKV fs)).Nodup :=
  foldl_keeps (P := fun fs => (keysOf fs).Nodup) (fun _ k h => nodup_delKV h k) ks hn

/-- several `m[k] = v` in a row: the last assignment to a key wins -/
theorem lookup_foldl_setKV (f : β → Str) (g : β → α) (ps : List β) (fs : List (Str × α))
    (k : Str) :
    lookup (ps.foldl (fun acc p => setKV acc (f p) (g p)) fs) k
      = match ps.reverse.find? (fun p => f p == k) with
        | some p => some (g p)
        | none => lookup fs k := by
  induction ps generalizing fs with
  | nil => rfl
  | cons p ps ih =>
    rw [List.foldl_cons, ih, List.reverse_cons, List.find?_append]
    cases hf : ps.reverse.find? (fun p => f p == k) with
    | some q => rfl
    | none =>
      simp only [Option.none_or, List.find?_cons, List.find?_nil, lookup_setKV]
      by_cases h : f p = k
      · simp [h]
      · have : ¬ k = f p := fun e => h e.symm
        have hb : (f p == k) = false := by simpa using h
        simp [hb, this]

theorem lookup_foldl_setKV_key (val : Str → α) (ks : List Str) (fs : List (Str × α)) (k : Str) :
    lookup (ks.foldl (fun acc k => setKV acc k (val k)) fs) k
      = if k ∈ ks then some (val k) else lookup fs k := by
  induction ks generalizing fs with
  | nil => simp
  | cons k₀ ks ih =>
    rw [List.foldl_cons, ih, lookup_setKV]
    by_cases h1 : k ∈ ks
    · simp [h1]
    · by_cases h2 : k = k₀ <;> simp [h1, h2]

theorem lookup_foldl_setKV_nodup (g : β → α) (ps : List (Str × β)) (hn : (keysOf ps).Nodup)
    (fs : List (Str × α)) (k : Str) :
    lookup (ps.foldl (fun acc kv => setKV acc kv.1 (g kv.2)) fs) k
      = match lookup ps k with
        | some w => some (g w)
        | none => lookup fs k := by
  induction ps generalizing fs with
  | nil => rfl
  | cons kv rest ih =>
    obtain ⟨k₀, w₀⟩ := kv
    simp only [keysOf_cons, List.nodup_cons] at hn
    rw [List.foldl_cons, ih hn.2, lookup_cons, lookup_setKV]
    by_cases hk : k₀ = k
    · subst hk
      simp [lookup_eq_none_iff.2 hn.1]
    · have : ¬ k = k₀ := fun e => hk e.symm
      simp [hk, this]

theorem mem_keysOf_foldl_setKV (f : β → Str) (g : β → α) (ps : List β) (fs : List (Str × α))
    (k : Str) :
    k ∈ keysOf (ps.foldl (fun acc p => setKV acc (f p) (g p)) fs) ↔ k ∈ ps.map f ∨ k ∈ keysOf fs := by
  induction ps generalizing fs with
  | nil => simp
  | cons p rest ih =>
    rw [List.foldl_cons, ih, mem_keysOf_setKV, List.map_cons, List.mem_cons, or_left_comm, or_assoc]

theorem lookup_foldl_delKV (ks : List Str) {fs : List (Str × α)} (hn : (keysOf fs).Nodup) (k : Str) :
    lookup (ks.foldl delKV fs) k = if k ∈ ks then none else lookup fs k := by
  induction ks generalizing fs with
  | nil => simp
  | cons k₀ ks ih =>
    rw [List.foldl_cons, ih (nodup_delKV hn k₀), lookup_delKV hn]
    by_cases h1 : k ∈ ks
    · simp [h1]
    · by_cases h2 : k = k₀ <;> simp [h1, h2]

theorem foldl_delKV_of_not_mem (ks : List Str) {fs : List (Str × α)}
    (h : ∀ k ∈ ks, k ∉ keysOf fs) : ks.foldl delKV fs = fs := by
  induction ks with
  | nil => rfl
  | cons k ks ih =>
    rw [List.foldl_cons, delKV_of_not_mem (h k (List.mem_cons_self ..))]
    exact ih (fun k' hk' => h k' (List.mem_cons_of_mem _ hk'))

/-- an injection between finite sets of the same size is onto: a `k ∈ l₂` outside `l₁` would make
`k :: l₁` a duplicate-free sublist of `l₂` that is longer than `l₂` -/
theorem subset_of_nodup_length_eq {l₁ l₂ : List Str} (h₁ : l₁.Nodup)
    (hlen : l₁.length = l₂.length) (hsub : ∀ k ∈ l₁, k ∈ l₂) : ∀ k ∈ l₂, k ∈ l₁ := by
  intro k hk
  apply Decidable.byContradiction
  intro hn
  have := (List.nodup_cons.2 ⟨hn, h₁⟩).length_le_of_subset (List.forall_mem_cons.2 ⟨hk, hsub⟩)
  rw [List.length_cons, hlen] at this
  exact Nat.not_succ_le_self _ this

end Anytype
