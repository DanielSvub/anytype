/-
Seventeen significant decimal digits always suffice (binary64), for the exact model of
`Anytype/Model/Float64.lean`: for every finite non-zero `x` the loop of `F64.shortest` stops at a
precision `p ≤ 17` (`shortestLoop_succeeds`), so its `none` branch is never reached.

Precision 17 succeeds (`Sev.tryPrec_17`) because the spacing of the 17-digit decimals around `|x|`
is below the spacing of the binary64 values there (`spacing`, the one place where `10^16 > 2^53` is
used): the nearer of the two neighbours is within half a gap of `|x|` and rounds back to it
(`back_of_close`), by the sufficient condition for correct rounding `FmtR.roundPos_close` of
`Lemmas/FmtRound.lean`, which holds the theory of `roundPos`; `Sev.roundPos_of_close` states that
condition for the significand and exponent of a float. What one precision attempt returns and what
`decExp` is are proved in the core-only `Lemmas/FmtStrict.lean` (`FmtS.`) and restated here for
`Sev.DecBetween`.

All comparisons are cross-multiplied in ℕ; `10^z` for an integer `z` is the pair
`10^z.toNat / 10^(-z).toNat`, one of which is `1`.
-/
import Anytype.Lemmas.FmtStrict
import Mathlib.Tactic.Ring
import Mathlib.Tactic.Linarith
import Mathlib.Tactic.Positivity

namespace Anytype
namespace F64
namespace Sev

/-- `FmtR.roundPos_close` at the significand `m` and the exponent `e` of a finite non-zero `x`
(`A/B = (a/b) / 2^e`): such an `a/b` rounds to `|x|` -/
theorem roundPos_of_close (x : F64) (hf : x.isFinite = true) (hz : x.isZero = false)
    (a b : Nat) (hb : 0 < b)
    (h1 : 2 * x.mant * (scaled a b x.exp2).2 < 2 * (scaled a b x.exp2).1 + (scaled a b x.exp2).2)
    (h2 : 2 * (scaled a b x.exp2).1 < 2 * x.mant * (scaled a b x.exp2).2 + (scaled a b x.exp2).2)
    (h3 : x.mant = 2 ^ 52 → -1074 < x.exp2 →
      4 * x.mant * (scaled a b x.exp2).2 < 4 * (scaled a b x.exp2).1 + (scaled a b x.exp2).2) :
    roundPos a b = some x.abs.bits := by
  obtain ⟨m1, m2, e1, _, hcase⟩ := mant_exp_cases x hf hz
  rw [Nat.mul_assoc] at h1 h2
  rw [← FmtR.enc_self x hf]
  exact FmtR.roundPos_close a b _ _ hb m1 m2 e1 hcase h1 h2 (fun hm he => Nat.mul_assoc 4 _ _ ▸ h3 hm he)

/-- `10^E ≤ n/d < 10^(E+1)`, cross-multiplied; `10^z` is written `10^z.toNat / 10^(-z).toNat` -/
def DecBetween (n d : Nat) (E : Int) : Prop :=
  d * 10 ^ E.toNat ≤ n * 10 ^ (-E).toNat ∧ n * 10 ^ (-(E + 1)).toNat < d * 10 ^ (E + 1).toNat

theorem decExp_spec (n d : Nat) (hn : 0 < n) (hd : 0 < d) : DecBetween n d (decExp n d) :=
  FmtS.decBetween_decExp n d hn hd

theorem tryPrec_some_roundPos (t : UInt64) (n d : Nat) (E : Int) (p c : Nat)
    (h : tryPrec t n d E p = some c) :
    roundPos (c * 10 ^ (E - ((p : Int) - 1)).toNat) (10 ^ (-(E - ((p : Int) - 1))).toNat) = some t :=
  (FmtS.tryPrec_some t n d E p c h).1

/-- the `back` test of the returned candidate in the two-case form used inside `tryPrec` -/
theorem tryPrec_some_roundPos' (t : UInt64) (n d : Nat) (E : Int) (p c : Nat)
    (h : tryPrec t n d E p = some c) :
    (if E - ((p : Int) - 1) ≥ 0 then roundPos (c * 10 ^ (E - ((p : Int) - 1)).toNat) 1
      else roundPos c (10 ^ (-(E - ((p : Int) - 1))).toNat)) = some t := by
  have := tryPrec_some_roundPos t n d E p c h
  generalize E - ((p : Int) - 1) = k at *
  by_cases hk : k ≥ 0
  · rw [if_pos hk]; rwa [show (-k).toNat = 0 by omega, Nat.pow_zero] at this
  · rw [if_neg hk]; rwa [show k.toNat = 0 by omega, Nat.pow_zero, Nat.mul_one] at this

theorem tryPrec_some_digits (t : UInt64) (n d : Nat) (E : Int) (p c : Nat) (hd : 0 < d) (hp : 1 ≤ p)
    (hE : DecBetween n d E) (h : tryPrec t n d E p = some c) :
    10 ^ (p - 1) ≤ c ∧ c ≤ 10 ^ p :=
  FmtS.tryPrec_digits t n d E p c hd hp hE h

/-- a candidate within half a gap of `|x|` (a quarter below a power of two) passes the `back` test.
Here `|x| / 10^k = m·B / b` with `B = 10^k⁻ · 2^e⁺`, `b = 2^e⁻ · 10^k⁺`. -/
theorem back_of_close (x : F64) (hf : x.isFinite = true) (hz : x.isZero = false) (k : Int) (c : Nat)
    (h1 : 2 * (x.mant * (10 ^ (-k).toNat * 2 ^ x.exp2.toNat)) <
      2 * (c * (2 ^ (-x.exp2).toNat * 10 ^ k.toNat)) + 10 ^ (-k).toNat * 2 ^ x.exp2.toNat)
    (h2 : 2 * (c * (2 ^ (-x.exp2).toNat * 10 ^ k.toNat)) <
      2 * (x.mant * (10 ^ (-k).toNat * 2 ^ x.exp2.toNat)) + 10 ^ (-k).toNat * 2 ^ x.exp2.toNat)
    (h3 : x.mant = 2 ^ 52 → -1074 < x.exp2 →
      4 * (x.mant * (10 ^ (-k).toNat * 2 ^ x.exp2.toNat)) <
        4 * (c * (2 ^ (-x.exp2).toNat * 10 ^ k.toNat)) + 10 ^ (-k).toNat * 2 ^ x.exp2.toNat) :
    FmtS.back x.abs.bits k c = true := by
  obtain ⟨m1, m2, e1, _, hcase⟩ := mant_exp_cases x hf hz
  have e1' : c * 10 ^ k.toNat * 2 ^ (-x.exp2).toNat = c * (2 ^ (-x.exp2).toNat * 10 ^ k.toNat) := by
    ring
  rw [FmtS.back, beq_iff_eq, ← FmtR.enc_self x hf]
  apply FmtR.roundPos_close _ _ _ _ (by positivity) m1 m2 e1 hcase <;>
    simp only [FmtR.scaled_eq, e1'] <;> assumption

/-- the spacing `b` of the 17-digit decimals around `P = m·B` is below the spacing `B` of the
binary64 values, because `10^16·b ≤ P < 2^53·B` and `10^16 > 2^53`; below half of it if `m = 2^52` -/
theorem spacing {P B b : Nat} (hB : 0 < B) (hsc : 10 ^ 16 * b ≤ P) (hP : P + B ≤ 2 ^ 53 * B) :
    b < B ∧ (P = 2 ^ 52 * B → 2 * b < B) :=
  ⟨by omega, fun h => by omega⟩

/-- `P = L + r` with `2r ≤ b < B`: the multiple `L` of `b` below `P` is within `B/2` of `P`, and
within `B/4` if `2b < B` -/
theorem near_lo {P B b L r : Nat} (hdm : L + r = P) (hr : 2 * r ≤ b) (hbB : b < B) :
    2 * P < 2 * L + B ∧ 2 * L < 2 * P + B ∧ (2 * b < B → 4 * P < 4 * L + B) := by
  omega

/-- `P = L + r` with `b < 2r`, `r < b < B`: the multiple `L + b` above `P` is within `B/2` of `P` -/
theorem near_hi {P B b L r : Nat} (hdm : L + r = P) (hr : b < 2 * r) (hrb : r < b) (hbB : b < B) :
    2 * P < 2 * (L + b) + B ∧ 2 * (L + b) < 2 * P + B ∧ 4 * P < 4 * (L + b) + B := by
  omega

/-- the nearer of the two 17-digit neighbours of `|x|` rounds back to `|x|` -/
theorem tryPrecU_17 (x : F64) (hf : x.isFinite = true) (hz : x.isZero = false) (E : Int)
    (hE : DecBetween (x.mant * 2 ^ x.exp2.toNat) (2 ^ (-x.exp2).toNat) E) :
    ∃ c, FmtS.tryPrecU x.abs.bits (x.mant * 2 ^ x.exp2.toNat) (2 ^ (-x.exp2).toNat) (E - 16) = some c := by
  obtain ⟨_, m2, _⟩ := mant_exp_cases x hf hz
  refine Option.isSome_iff_exists.1 (FmtS.pick_isSome ?_)
  have hsc := (FmtS.scaled10_bounds _ _ E 17 (by omega) (E - 16) (by omega) hE).1
  have hback := back_of_close x hf hz (E - 16)
  clear hE
  generalize E - 16 = k at hsc hback ⊢
  generalize x.mant = m at m2 hsc hback ⊢
  generalize x.exp2 = e at hsc hback ⊢
  have ea : m * 2 ^ e.toNat * 10 ^ (-k).toNat = m * (10 ^ (-k).toNat * 2 ^ e.toNat) := by ring
  rw [ea] at hsc ⊢
  have hbpos : 0 < 2 ^ (-e).toNat * 10 ^ k.toNat := by positivity
  have hB : 0 < 10 ^ (-k).toNat * 2 ^ e.toNat := by positivity
  generalize 10 ^ (-k).toNat * 2 ^ e.toNat = B at hsc hback hB ⊢
  generalize 2 ^ (-e).toNat * 10 ^ k.toNat = b at hsc hback hbpos ⊢
  have hP : m * B + B ≤ 2 ^ 53 * B := by
    rw [← Nat.succ_mul]; exact Nat.mul_le_mul_right _ m2
  have hdm := Nat.div_add_mod (m * B) b
  rw [Nat.mul_comm b] at hdm
  have hr := Nat.mod_lt (m * B) hbpos
  obtain ⟨hbB, h2b⟩ := spacing hB hsc hP
  by_cases hnear : 2 * (m * B % b) ≤ b
  · left
    obtain ⟨c1, c2, c3⟩ := near_lo hdm hnear hbB
    exact hback _ c1 c2 (fun hm _ => c3 (h2b (by rw [hm])))
  · right
    obtain ⟨c1, c2, c3⟩ := near_hi hdm (Nat.lt_of_not_le hnear) hr hbB
    have hhi := hback (m * B / b + 1)
    rw [show (m * B / b + 1) * b = m * B / b * b + b from Nat.succ_mul _ _] at hhi
    exact ⟨by omega, hhi c1 c2 (fun _ _ => c3)⟩

/-- precision 17 always succeeds -/
theorem tryPrec_17 (x : F64) (hf : x.isFinite = true) (hz : x.isZero = false) :
    ∃ c, tryPrec x.abs.bits (absRat x).1 (absRat x).2 (decExp (absRat x).1 (absRat x).2) 17 = some c := by
  have hE := FmtS.decExp_absRat x hf hz
  unfold FmtS.dexp at hE
  rw [FmtS.tryPrec_eq]
  rw [absRat_eq] at hE ⊢
  exact tryPrecU_17 x hf hz _ hE

end Sev
end F64

open F64 F64.Sev in
/-- **Seventeen significant decimal digits always suffice**: for every finite non-zero `x` the
shortest-digits loop of `F64.shortest` (fuel 17, starting at precision 1) succeeds. -/
theorem shortestLoop_succeeds (x : F64) (hf : x.isFinite = true) (hz : x.isZero = false) :
    ∃ c p, 1 ≤ p ∧ p ≤ 17 ∧
      F64.shortestLoop x.abs.bits (F64.absRat x).1 (F64.absRat x).2
        (F64.decExp (F64.absRat x).1 (F64.absRat x).2) 17 1 = some (c, p) ∧
      F64.tryPrec x.abs.bits (F64.absRat x).1 (F64.absRat x).2
        (F64.decExp (F64.absRat x).1 (F64.absRat x).2) p = some c := by
  obtain ⟨c0, h17⟩ := tryPrec_17 x hf hz
  obtain ⟨c, p, hl, h1, hle, ht⟩ := FmtS.shortestLoop_min _ _ _ _ 17 1 17 c0 (by omega) (by omega) h17
  exact ⟨c, p, h1, hle, hl, ht⟩

open F64 F64.Sev in
/-- everything a consumer of `F64.shortest` needs about the pair the loop returns: it exists, the
precision is in `1..17`, the candidate has `p` digits (or is `10^p`), and `c · 10^(E-(p-1))` rounds
back to `|x|`. -/
theorem shortestLoop_spec (x : F64) (hf : x.isFinite = true) (hz : x.isZero = false) :
    ∃ c p, 1 ≤ p ∧ p ≤ 17 ∧
      F64.shortestLoop x.abs.bits (F64.absRat x).1 (F64.absRat x).2
        (F64.decExp (F64.absRat x).1 (F64.absRat x).2) 17 1 = some (c, p) ∧
      10 ^ (p - 1) ≤ c ∧ c ≤ 10 ^ p ∧
      F64.roundPos
        (c * 10 ^ (F64.decExp (F64.absRat x).1 (F64.absRat x).2 - ((p : Int) - 1)).toNat)
        (10 ^ (-(F64.decExp (F64.absRat x).1 (F64.absRat x).2 - ((p : Int) - 1))).toNat)
        = some x.abs.bits := by
  obtain ⟨c, p, h1, h2, h3, h4⟩ := shortestLoop_succeeds x hf hz
  obtain ⟨d1, d2⟩ := tryPrec_some_digits _ _ _ _ p c (FmtS.absRat_pos x hf hz).2 h1
    (FmtS.decExp_absRat x hf hz) h4
  exact ⟨c, p, h1, h2, h3, d1, d2, tryPrec_some_roundPos _ _ _ _ p c h4⟩

open F64 F64.Sev in
/-- the `none` branch of `F64.shortest` is unreachable: `shortest x` is computed from the pair the
loop returns -/
theorem shortest_eq (x : F64) (hf : x.isFinite = true) (hz : x.isZero = false) :
    ∃ c p, 1 ≤ p ∧ p ≤ 17 ∧
      F64.shortestLoop x.abs.bits (F64.absRat x).1 (F64.absRat x).2
        (F64.decExp (F64.absRat x).1 (F64.absRat x).2) 17 1 = some (c, p) ∧
      F64.shortest x =
        (((F64.natDigits c).reverse.dropWhile (· == 0)).reverse,
          if (F64.natDigits c).length > p then F64.decExp (F64.absRat x).1 (F64.absRat x).2 + 1
          else F64.decExp (F64.absRat x).1 (F64.absRat x).2) := by
  obtain ⟨c, p, h1, h2, h3, _⟩ := shortestLoop_succeeds x hf hz
  refine ⟨c, p, h1, h2, h3, ?_⟩
  unfold F64.shortest
  simp only []
  rw [h3]

/-- non-vacuity: `1.0` is finite and non-zero -/
example : F64.one.isFinite = true ∧ F64.one.isZero = false := by decide

end Anytype

#print axioms Anytype.shortestLoop_succeeds
#print axioms Anytype.shortestLoop_spec
#print axioms Anytype.shortest_eq
#print axioms Anytype.F64.Sev.roundPos_of_close
#print axioms Anytype.F64.Sev.decExp_spec
#print axioms Anytype.F64.Sev.tryPrec_some_digits
#print axioms Anytype.F64.Sev.tryPrec_some_roundPos
