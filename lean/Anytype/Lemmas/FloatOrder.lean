/-
The order `F64.ltGo` (Go `<` on float64) on NaN-free values is the order of a sign-magnitude
integer key, and `F64.eqGo` is equality of the keys; hence `L.floatLess` (the `less` of
`sort.Float64s`, NaN first) is a strict weak order, and finite values lie between `±MaxFloat64`.
-/
import Anytype.Model.ListOps
import Anytype.Lemmas.FmtRound
namespace Anytype
namespace F64

/-- order key of a non-NaN value: sign-magnitude reading of the bit pattern (`±0 ↦ 0`) -/
def key (x : F64) : Int := if x.signBit then -(x.abs.bits.toNat : Int) else x.abs.bits.toNat

theorem key_bound (x : F64) : -(2 : Int) ^ 64 < key x ∧ key x < (2 : Int) ^ 64 := by
  unfold key
  have := x.abs.bits.toNat_lt
  split <;> omega

theorem ltGo_eq_key (x y : F64) (hx : x.isNaN = false) (hy : y.isNaN = false) :
    ltGo x y = decide (key x < key y) := by
  unfold ltGo key
  simp only [hx, hy, Bool.or_self, Bool.false_eq_true, if_false]
  have zx := isZero_iff x
  have zy := isZero_iff y
  by_cases hz : (x.isZero && y.isZero) = true
  · simp only [hz, if_true]
    simp only [Bool.and_eq_true] at hz
    have a := zx.1 hz.1; have b := zy.1 hz.2
    simp [a, b]
  · simp only [hz]
    simp only [Bool.and_eq_true] at hz
    have hz' : x.abs.bits.toNat ≠ 0 ∨ y.abs.bits.toNat ≠ 0 := by
      by_cases c1 : x.abs.bits.toNat = 0
      · by_cases c2 : y.abs.bits.toNat = 0
        · exact absurd ⟨zx.2 c1, zy.2 c2⟩ hz
        · exact Or.inr c2
      · exact Or.inl c1
    cases x.signBit <;> cases y.signBit <;> simp [UInt64.lt_iff_toNat_lt] <;> omega

theorem ltGo_nan_left (x y : F64) (hx : x.isNaN = true) : ltGo x y = false := by
  simp [ltGo, hx]
theorem ltGo_nan_right (x y : F64) (hy : y.isNaN = true) : ltGo x y = false := by
  simp [ltGo, hy]

/-- key extended to NaN: below everything (the place `sort.Float64s` gives NaN) -/
def fkey (x : F64) : Int := if x.isNaN then -(2 : Int) ^ 64 else key x

theorem fkey_of_not_nan {x : F64} (hx : x.isNaN = false) : fkey x = key x := by
  simp [fkey, hx]

theorem ltGo_eq_key' (x y : F64) :
    ltGo x y = (!x.isNaN && !y.isNaN && decide (key x < key y)) := by
  cases hx : x.isNaN
  · cases hy : y.isNaN
    · simp [ltGo_eq_key x y hx hy]
    · simp [ltGo_nan_right x y hy]
  · simp [ltGo_nan_left x y hx]

theorem key_eq_zero_iff (x : F64) : key x = 0 ↔ x.isZero = true := by
  rw [isZero_iff]; unfold key; split <;> omega

/-- away from `±0` the key determines the value -/
theorem key_inj {x y : F64} (hx : x.isZero = false) (h : key x = key y) : x = y := by
  have hx' : x.abs.bits.toNat ≠ 0 := fun h0 => by rw [(isZero_iff x).2 h0] at hx; cases hx
  have hs : x.signBit = y.signBit ∧ x.abs.bits.toNat = y.abs.bits.toNat := by
    unfold key at h
    cases hsx : x.signBit <;> cases hsy : y.signBit <;>
      simp only [hsx, hsy, if_true, Bool.false_eq_true, if_false] at h <;>
      first | exact ⟨rfl, by omega⟩ | omega
  rw [← withSign_abs x, ← withSign_abs y, hs.1]
  exact congrArg (withSign y.signBit) (congrArg F64.mk (UInt64.toNat_inj.1 hs.2))

theorem key_eq_iff {x y : F64} (h : x.isZero = false ∨ y.isZero = false) : key x = key y ↔ x = y :=
  ⟨fun hk => h.elim (key_inj · hk) (fun hy => (key_inj hy hk.symm).symm), fun h => h ▸ rfl⟩

theorem eqGo_eq_key (x y : F64) :
    eqGo x y = (!x.isNaN && !y.isNaN && decide (key x = key y)) := by
  unfold eqGo
  cases hx : x.isNaN <;> cases hy : y.isNaN <;> simp only [Bool.or_self, Bool.or_true, Bool.true_or,
    Bool.false_eq_true, if_false, if_true, Bool.not_true, Bool.not_false, Bool.false_and,
    Bool.and_false, Bool.true_and]
  by_cases hz : (x.isZero && y.isZero) = true
  · rw [if_pos hz]
    simp only [Bool.and_eq_true] at hz
    rw [(key_eq_zero_iff x).2 hz.1, (key_eq_zero_iff y).2 hz.2]; rfl
  · have hz' : x.isZero = false ∨ y.isZero = false := by
      cases hzx : x.isZero
      · exact Or.inl rfl
      · exact Or.inr (by simpa [hzx] using hz)
    rw [if_neg hz, Bool.eq_iff_iff, beq_iff_eq, decide_eq_true_eq, key_eq_iff hz']
    exact ⟨fun h => by cases x; cases y; cases h; rfl, fun h => h ▸ rfl⟩

theorem key_maxFinite : key maxFinite = 0x7fefffffffffffff := by decide
theorem key_negMaxFinite : key negMaxFinite = -0x7fefffffffffffff := by decide

theorem key_le_of_isFinite {x : F64} (h : x.isFinite = true) :
    -0x7fefffffffffffff ≤ key x ∧ key x ≤ 0x7fefffffffffffff := by
  have h : x.expBits ≠ 2047 := by simpa [isFinite] using h
  have := abs_bits_fields x
  have := expBits_lt x
  have := frac_lt x
  unfold key
  split <;> omega

end F64

namespace L
open F64

theorem floatLess_eq_fkey (x y : F64) : floatLess x y = decide (fkey x < fkey y) := by
  unfold floatLess fkey
  have bx := key_bound x
  have by' := key_bound y
  cases hx : x.isNaN <;> cases hy : y.isNaN
  · simp [ltGo_eq_key x y hx hy]
  · rw [ltGo_nan_right x y hy]; simp; omega
  · rw [ltGo_nan_left x y hx]; simp; omega
  · rw [ltGo_nan_left x y hx]; simp

theorem floatLe_eq_fkey (x y : F64) : floatLe x y = decide (fkey x ≤ fkey y) := by
  unfold floatLe
  rw [floatLess_eq_fkey]
  by_cases h : fkey y < fkey x
  · simp only [h, decide_true, Bool.not_true]
    exact (decide_eq_false (by omega)).symm
  · simp only [h, decide_false, Bool.not_false]
    exact (decide_eq_true (by omega)).symm

theorem floatLe_trans (a b c : F64) : floatLe a b = true → floatLe b c = true → floatLe a c = true := by
  simp only [floatLe_eq_fkey, decide_eq_true_eq]; omega

theorem floatLe_total (a b : F64) : (floatLe a b || floatLe b a) = true := by
  simp only [floatLe_eq_fkey, Bool.or_eq_true, decide_eq_true_eq]; omega

/-- on NaN-free values `floatLe x y` is Go's `!(y < x)`, i.e. the order of the keys -/
theorem floatLe_eq_not_ltGo (x y : F64) (hx : x.isNaN = false) (hy : y.isNaN = false) :
    floatLe x y = !ltGo y x := by
  simp [floatLe, floatLess, hx, hy]

theorem floatLe_eq_key (x y : F64) (hx : x.isNaN = false) (hy : y.isNaN = false) :
    floatLe x y = decide (key x ≤ key y) := by
  rw [floatLe_eq_fkey, fkey_of_not_nan hx, fkey_of_not_nan hy]

end L
end Anytype
