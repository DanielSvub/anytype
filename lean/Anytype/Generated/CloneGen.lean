/-
GENERATED by vextract from the Go source (anytype.go, list_impl.go, object_impl.go) — do not edit.

A translation of `copy()` / `isEqual()` of the seven field types and of `Clone` / `Equals` of
*list / *object into Lean, statement by statement, under the restructuring rules listed at the top
of vextract/clonegen.go (heap passing, fuel for the mutual recursion over the heap, `Out` for
run-time panics, loops as recursive helpers, dynamic dispatch as a `match` over `Val`).
Lemmas/CloneGenEq.lean proves the container methods equal to hand-written reference methods over an
arbitrary dispatcher (`Anytype.CloneRef`), characterises the two generated dispatchers arm by arm, and
proves by induction on the fuel that they refine the hand-written model (`O.clone`, `equalsJ` of the
reified trees), so a change of the Go source that alters the behaviour breaks the build.
-/
import Anytype.Model.ObjectOps
set_option linter.unusedVariables false
namespace Anytype.Generated.CG
open Anytype

/-- `(*atNil).copy` (anytype.go:504) -/
def atNilCopyGen : GoVal :=
  .nil

/-- `(*atNil).isEqual` (anytype.go:514) -/
def atNilIsEqualGen (another : Option Val) : Bool :=
  match another with
  | some .nil => true
  | _ => false

/-- `(*atBool).copy` (anytype.go:301) -/
def atBoolCopyGen (val : Bool) : GoVal :=
  .bool val

/-- `(*atBool).isEqual` (anytype.go:311) -/
def atBoolIsEqualGen (val : Bool) (another : Option Val) : Bool :=
  match another with
  | some (.bool boolean) => val == boolean
  | _ => false

/-- `(*atInt).copy` (anytype.go:367) -/
def atIntCopyGen (val : Int) : GoVal :=
  .intw .int val

/-- `(*atInt).isEqual` (anytype.go:377) -/
def atIntIsEqualGen (val : Int) (another : Option Val) : Bool :=
  match another with
  | some (.int integer) => val == integer
  | _ => false

/-- `(*atFloat).copy` (anytype.go:443) -/
def atFloatCopyGen (val : F64) : GoVal :=
  .f64 val

/-- `(*atFloat).isEqual` (anytype.go:453) -/
def atFloatIsEqualGen (val : F64) (another : Option Val) : Bool :=
  match another with
  | some (.float float) => F64.eqGo val float
  | _ => false

/-- `(*atString).copy` (anytype.go:224) -/
def atStringCopyGen (val : Str) : GoVal :=
  .str val

/-- `(*atString).isEqual` (anytype.go:245) -/
def atStringIsEqualGen (val : Str) (another : Option Val) : Bool :=
  match another with
  | some (.str str) => val == str
  | _ => false

mutual
/-- `v.copy(…)` on a stored field: dispatch over the dynamic type (C6) -/
def copyGen : Nat → Heap → Val → Option (Heap × Out GoVal)
  | _, h, .nil => some (h, .ok atNilCopyGen)
  | _, h, .bool b => some (h, .ok (atBoolCopyGen b))
  | _, h, .int i => some (h, .ok (atIntCopyGen i))
  | _, h, .float f => some (h, .ok (atFloatCopyGen f))
  | _, h, .str s => some (h, .ok (atStringCopyGen s))
  | 0, _, .list _ => none
  | 0, _, .obj _ => none
  | fuel + 1, h, .list r => listCopyGen fuel h r.addr
  | fuel + 1, h, .obj r => objectCopyGen fuel h r.addr
termination_by fuel _ _ => (fuel, 0, 0)
/-- `(*list).copy` (list_impl.go:144) -/
def listCopyGen : Nat → Heap → Nat → Option (Heap × Out GoVal)
  | fuel, h, a =>
    if (L.count h a) < 0 then some (h, .panic .runtime)
    else
      let list := h.length
      let h1 := h ++ [Cell.list (List.replicate (L.count h a).toNat Val.nil) 0]
      match listCopyLoopGen fuel h1 list (h1.items a) 0 with
      | none => none
      | some (h2, .panic pk) => some (h2, .panic pk)
      | some (h2, .ok _) => some (h2, .ok (.list ⟨list, 0⟩))
termination_by fuel _ _ => (fuel, 2, 0)
/-- the loop of `copy` at list_impl.go:147 (heap loop) -/
def listCopyLoopGen : Nat → Heap → Nat → List Val → Nat → Option (Heap × Out Unit)
  | fuel, h, list, [], i =>
    some (h, .ok ())
  | fuel, h, list, value :: rest, i =>
    match copyGen fuel h value with
    | none => none
    | some (h1, .panic pk) => some (h1, .panic pk)
    | some (h1, .ok t1) =>
      match parseVal h1 t1 with
      | (h2, .panic pk) => some (h2, .panic pk)
      | (h2, .ok t2) =>
        if i < (h2.items list).length then listCopyLoopGen fuel (h2.setItems list ((h2.items list).set i t2)) list rest (i + 1)
        else some (h2, .panic .runtime)
termination_by fuel _ _ l _ => (fuel, 1, l.length)
/-- `(*object).copy` (object_impl.go:120) -/
def objectCopyGen : Nat → Heap → Nat → Option (Heap × Out GoVal)
  | fuel, h, a =>
    match O.new h [] false with
    | (h1, .panic pk) => some (h1, .panic pk)
    | (h1, .ok obj) =>
      match objectCopyLoopGen fuel h1 obj (h1.fields a) with
      | none => none
      | some (h2, .panic pk) => some (h2, .panic pk)
      | some (h2, .ok _) => some (h2, .ok (.obj obj))
termination_by fuel _ _ => (fuel, 2, 0)
/-- the loop of `copy` at object_impl.go:122 (heap loop) -/
def objectCopyLoopGen : Nat → Heap → Ref → List (Str × Val) → Option (Heap × Out Unit)
  | fuel, h, obj, [] =>
    some (h, .ok ())
  | fuel, h, obj, (key_, value) :: rest =>
    match copyGen fuel h value with
    | none => none
    | some (h1, .panic pk) => some (h1, .panic pk)
    | some (h1, .ok t1) =>
      match O.set h1 obj.addr [(some key_, t1)] false with
      | (h2, .panic pk) => some (h2, .panic pk)
      | (h2, .ok _) => objectCopyLoopGen fuel h2 obj rest
termination_by fuel _ _ l => (fuel, 1, l.length)
end

mutual
/-- `v.isEqual(…)` on a stored field: dispatch over the dynamic type (C6) -/
def isEqualGen : Nat → Heap → Val → (Option Val) → Option (Out Bool)
  | _, h, .nil, another => some (.ok (atNilIsEqualGen another))
  | _, h, .bool b, another => some (.ok (atBoolIsEqualGen b another))
  | _, h, .int i, another => some (.ok (atIntIsEqualGen i another))
  | _, h, .float f, another => some (.ok (atFloatIsEqualGen f another))
  | _, h, .str s, another => some (.ok (atStringIsEqualGen s another))
  | 0, _, .list _, _ => none
  | 0, _, .obj _, _ => none
  | fuel + 1, h, .list r, another => listIsEqualGen fuel h r.addr another
  | fuel + 1, h, .obj r, another => objectIsEqualGen fuel h r.addr another
termination_by fuel _ _ _ => (fuel, 0, 0)
/-- `(*list).isEqual` (list_impl.go:182) -/
def listIsEqualGen : Nat → Heap → Nat → (Option Val) → Option (Out Bool)
  | fuel, h, a, another =>
    match another with
    | some (.list other) =>
      if (L.count h a) != (L.count h other.addr) then some (.ok false)
      else listIsEqualLoopGen fuel h a other.addr (h.items a) 0
    | _ => some (.ok false)
termination_by fuel _ _ _ => (fuel, 2, 0)
/-- the loop of `isEqual` at list_impl.go:191 (search loop) -/
def listIsEqualLoopGen : Nat → Heap → Nat → Nat → List Val → Nat → Option (Out Bool)
  | fuel, h, a, list, [], i =>
    some (.ok true)
  | fuel, h, a, list, _ :: rest, i =>
    match (h.items a)[i]? with
    | none => some (.panic .runtime)
    | some t1 =>
      match (h.items list)[i]? with
      | none => some (.panic .runtime)
      | some t2 =>
        match isEqualGen fuel h t1 (some t2) with
        | none => none
        | some (.panic pk) => some (.panic pk)
        | some (.ok t3) =>
          if !t3 then some (.ok false)
          else listIsEqualLoopGen fuel h a list rest (i + 1)
termination_by fuel _ _ _ l _ => (fuel, 1, l.length)
/-- `(*object).isEqual` (object_impl.go:158) -/
def objectIsEqualGen : Nat → Heap → Nat → (Option Val) → Option (Out Bool)
  | fuel, h, a, another =>
    match another with
    | some (.obj other) =>
      if (O.count h a) != (O.count h other.addr) then some (.ok false)
      else objectIsEqualLoopGen fuel h a other.addr (h.fields a)
    | _ => some (.ok false)
termination_by fuel _ _ _ => (fuel, 2, 0)
/-- the loop of `isEqual` at object_impl.go:167 (search loop) -/
def objectIsEqualLoopGen : Nat → Heap → Nat → Nat → List (Str × Val) → Option (Out Bool)
  | fuel, h, a, obj, [] =>
    some (.ok true)
  | fuel, h, a, obj, (k, _) :: rest =>
    match lookup (h.fields a) k with
    | none => some (.panic .runtime)
    | some t1 =>
      match isEqualGen fuel h t1 (lookup (h.fields obj) k) with
      | none => none
      | some (.panic pk) => some (.panic pk)
      | some (.ok t2) =>
        if !t2 then some (.ok false)
        else objectIsEqualLoopGen fuel h a obj rest
termination_by fuel _ _ _ l => (fuel, 1, l.length)
end

/-- `(*list).Clone` (list_impl.go:430) -/
def listCloneGen (fuel : Nat) (h : Heap) (a : Nat) : Option (Heap × Out Ref) :=
  match listCopyGen fuel h a with
  | none => none
  | some (h1, .panic pk) => some (h1, .panic pk)
  | some (h1, .ok t1) =>
    match t1 with
    | .list r1 =>
      if r1.lvl == 0 then some (h1, .ok (⟨r1.addr, 0⟩))
      else some (h1, .panic .runtime)
    | _ => some (h1, .panic .runtime)

/-- `(*list).Equals` (list_impl.go:442) -/
def listEqualsGen (fuel : Nat) (h : Heap) (a : Nat) (another : Ref) : Option (Out Bool) :=
  match listIsEqualGen fuel h a (some (.list another)) with
  | none => none
  | some (.panic pk) => some (.panic pk)
  | some (.ok t1) => some (.ok t1)

/-- `(*object).Clone` (object_impl.go:333) -/
def objectCloneGen (fuel : Nat) (h : Heap) (a : Nat) : Option (Heap × Out Ref) :=
  match objectCopyGen fuel h a with
  | none => none
  | some (h1, .panic pk) => some (h1, .panic pk)
  | some (h1, .ok t1) =>
    match t1 with
    | .obj r1 =>
      if r1.lvl == 0 then some (h1, .ok (⟨r1.addr, 0⟩))
      else some (h1, .panic .runtime)
    | _ => some (h1, .panic .runtime)

/-- `(*object).Equals` (object_impl.go:345) -/
def objectEqualsGen (fuel : Nat) (h : Heap) (a : Nat) (another : Ref) : Option (Out Bool) :=
  match objectIsEqualGen fuel h a (some (.obj another)) with
  | none => none
  | some (.panic pk) => some (.panic pk)
  | some (.ok t1) => some (.ok t1)

end Anytype.Generated.CG
